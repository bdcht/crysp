/-
  Spec.Fips202Eval — an EVALUATOR for Spec.Fips202 (not part of the transcription, nothing is trusted here).

  The step mappings of Spec.Fips202 are closures; composing 24 rounds of them re-reads every bit exponentially
  often.  Here the state array is written down after every round (its 25w bits packed into one natural number, bit
  w(5y+x)+z = A[x,y,z]) and read back from there, so that one round costs 25w evaluations of the literal `Rnd`.
  `Proofs.C04_Fips202.KECCAK_p_eval_eq` proves `KECCAK_p_eval b nr = KECCAK_p b nr` for every width b = 25w, w ≥ 1, and
  nr ≤ 12 + 2·log2 w; the driver (Driver/Fips202D) evaluates Spec.Fips202 through this file.  The known-answer theorems
  of Proofs/C04/Fips202Kat state their answers about it and have the kernel run `Proofs.Lemmas.KeccakEval.keccakPN`.
-/
import Spec.Fips202
namespace Spec.Fips202.Eval
open Spec.Fips202

/-- the number whose bit i is X[i] -/
def natOfStr : Str → Nat
  | [] => 0
  | b :: bs => b.toNat + 2 * natOfStr bs

/-- the state array written down: bit w(5y+x)+z of the number is A[x,y,z] -/
def pack (w : Nat) (A : StateArray) : Nat := natOfStr (toStr w A)

/-- … and read back -/
def unpack (w : Nat) (n : Nat) : StateArray := fun x y z => n.testBit (w * (5 * y + x) + z)

/-- one round on the written-down state: the literal Rnd, evaluated at its 25w triples -/
def rndEval (w : Nat) (n : Nat) (ir : Int) : Nat := pack w (Rnd w (unpack w n) ir)

/-- Algorithm 7 with the state written down after every round -/
def KECCAK_p_eval (b nr : Nat) (S : Str) : Str :=
  let w := b / 25
  let l := Nat.log2 (b / 25)
  let n := pack w (toStateArray w S)
  let n := (List.range nr).foldl (fun (n : Nat) (k : Nat) => rndEval w n ((12 : Int) + 2 * l - nr + k)) n
  toStr w (unpack w n)

def KECCAK_eval (c : Nat) (N : Str) (d : Nat) : Str := SPONGE 1600 (KECCAK_p_eval 1600 24) pad10s1 (1600 - c) N d

/-- SHA3-n(M) = KECCAK[2n](M ‖ 01, n) -/
def SHA3_eval (n : Nat) (M : Str) : Str := KECCAK_eval (2 * n) (M ++ [false, true]) n

/-- SHAKEn(M, d) = KECCAK[2n](M ‖ 1111, d) -/
def SHAKE_eval (n : Nat) (M : Str) (d : Nat) : Str := KECCAK_eval (2 * n) (M ++ [true, true, true, true]) d

end Spec.Fips202.Eval
