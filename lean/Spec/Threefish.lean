/-
  Spec.Threefish — the Threefish block cipher of "The Skein Hash Function Family", version 1.3 (1 Oct 2010),
  section 3.3, written on `BitVec 64` words, independently of the code's Bits plumbing.

  3.3     Nw = 4, 8, 16 words for Threefish-256/512/1024; Nr = 72, 72, 80 rounds.
          v_{0,i} = p_i;  e_{d,i} = v_{d,i} + k_{d/4,i} (mod 2^64) if d mod 4 = 0, else v_{d,i};
          (f_{d,2j}, f_{d,2j+1}) = MIX_{d,j}(e_{d,2j}, e_{d,2j+1})  for j = 0 .. Nw/2-1;
          v_{d+1,i} = f_{d,π(i)};   c_i = v_{Nr,i} + k_{Nr/4,i}.
  3.3.1   MIX_{d,j}(x0,x1):  y0 = x0 + x1 mod 2^64,  y1 = (x1 <<< R_{d mod 8, j}) xor y0.   Table 3 = π, Table 4 = R.
  3.3.2   k_{Nw} = C240 xor k_0 xor … xor k_{Nw-1},  t_2 = t_0 xor t_1,
          k_{s,i} = k_{(s+i) mod (Nw+1)}                        i = 0 .. Nw-4
                  = k_{(s+i) mod (Nw+1)} + t_{s mod 3}           i = Nw-3
                  = k_{(s+i) mod (Nw+1)} + t_{(s+1) mod 3}       i = Nw-2
                  = k_{(s+i) mod (Nw+1)} + s                     i = Nw-1
  3.1     byte strings <-> words: ToInt / ToBytes are little-endian, BytesToWords takes 8 bytes per word.

  Decryption is "the obvious inverse": the inverse of every step in the reverse order; that `dec` really is the inverse
  map of `enc` for every key and tweak is proved as `Proofs.Lemmas.TfInverse.enc_inv` (on words) and
  `Proofs.C02_Threefish.spec_dec_is_inverse` (on bytes), so `dec` is determined by the standard's `enc`, not an
  independent definition that could drift.

  The tables are typed from the specification text (Tables 3 and 4), not copied from the code.
-/
namespace Spec.Threefish

abbrev W := BitVec 64

/-- admissible numbers of words -/
def validNw (nw : Nat) : Bool := nw = 4 || nw = 8 || nw = 16

/-- number of rounds (Table 2) -/
def Nr (nw : Nat) : Nat := if nw = 16 then 80 else 72

/-- Table 3: the word permutation π -/
def pi (nw : Nat) : List Nat :=
  match nw with
  | 4 => [0, 3, 2, 1]
  | 8 => [2, 1, 4, 7, 6, 5, 0, 3]
  | 16 => [0, 9, 2, 13, 6, 11, 4, 15, 10, 7, 12, 3, 14, 5, 8, 1]
  | _ => []

/-- the inverse permutation by its defining rule: piInv(v) = the i with π(i) = v -/
def piInv (nw : Nat) : List Nat :=
  (List.range nw).map fun v => (pi nw).idxOf v

/-- Table 4: the rotation constants R_{d,j}, rows d = 0..7, columns j = 0..Nw/2-1 -/
def R (nw : Nat) : List (List Nat) :=
  match nw with
  | 4 => [[14, 16],
          [52, 57],
          [23, 40],
          [ 5, 37],
          [25, 33],
          [46, 12],
          [58, 22],
          [32, 32]]
  | 8 => [[46, 36, 19, 37],
          [33, 27, 14, 42],
          [17, 49, 36, 39],
          [44,  9, 54, 56],
          [39, 30, 34, 24],
          [13, 50, 10, 17],
          [25, 29, 39, 43],
          [ 8, 35, 56, 22]]
  | 16 => [[24, 13,  8, 47,  8, 17, 22, 37],
           [38, 19, 10, 55, 49, 18, 23, 52],
           [33,  4, 51, 13, 34, 41, 59, 17],
           [ 5, 20, 48, 41, 47, 28, 16, 25],
           [41,  9, 37, 31, 12, 47, 44, 30],
           [16, 34, 56, 51,  4, 53, 42, 41],
           [31, 44, 47, 46, 19, 42, 44, 25],
           [ 9, 48, 35, 52, 23, 31, 37, 20]]
  | _ => []

/-- R_{d mod 8, j} -/
def rot (nw d j : Nat) : Nat := ((R nw).getD (d % 8) []).getD j 0

/-- the key-schedule parity constant C240 -/
def C240 : W := 0x1BD11BDAA9FC1A22#64

/-- k_0 … k_{Nw-1}, k_{Nw} -/
def keyExt (K : List W) : List W := K ++ [K.foldl (· ^^^ ·) C240]

/-- t_0, t_1, t_2 -/
def tweakExt (T : List W) : List W := [T.getD 0 0, T.getD 1 0, T.getD 0 0 ^^^ T.getD 1 0]

/-- subkey word k_{s,i} from the extended key `k` and extended tweak `t` -/
def subkey (nw : Nat) (k t : List W) (s i : Nat) : W :=
  let b := k.getD ((s + i) % (nw + 1)) 0
  if i + 3 = nw then b + t.getD (s % 3) 0
  else if i + 2 = nw then b + t.getD ((s + 1) % 3) 0
  else if i + 1 = nw then b + BitVec.ofNat 64 s
  else b

/-- the subkey k_s = (k_{s,0}, …, k_{s,Nw-1}) -/
def subkeys (nw : Nat) (k t : List W) (s : Nat) : List W := (List.range nw).map (subkey nw k t s)

/-- MIX with rotation amount r -/
def mix (r : Nat) (x0 x1 : W) : List W :=
  let y0 := x0 + x1
  [y0, x1.rotateLeft r ^^^ y0]

/-- the inverse of MIX -/
def mixInv (r : Nat) (y0 y1 : W) : List W :=
  let x1 := (y0 ^^^ y1).rotateRight r
  [y0 - x1, x1]

def addWords (nw : Nat) (v k : List W) : List W := (List.range nw).map fun i => v.getD i 0 + k.getD i 0
def subWords (nw : Nat) (v k : List W) : List W := (List.range nw).map fun i => v.getD i 0 - k.getD i 0

/-- f_d from e_d -/
def mixLayer (nw d : Nat) (e : List W) : List W :=
  (List.range (nw / 2)).flatMap fun j => mix (rot nw d j) (e.getD (2 * j) 0) (e.getD (2 * j + 1) 0)
def mixInvLayer (nw d : Nat) (f : List W) : List W :=
  (List.range (nw / 2)).flatMap fun j => mixInv (rot nw d j) (f.getD (2 * j) 0) (f.getD (2 * j + 1) 0)

/-- v_{d+1,i} = f_{d,π(i)} -/
def permute (p : List Nat) (nw : Nat) (f : List W) : List W := (List.range nw).map fun i => f.getD (p.getD i 0) 0

/-- v_{d+1} from v_d -/
def round (nw : Nat) (k t : List W) (v : List W) (d : Nat) : List W :=
  let e := if d % 4 = 0 then addWords nw v (subkeys nw k t (d / 4)) else v
  permute (pi nw) nw (mixLayer nw d e)

/-- v_d from v_{d+1} -/
def roundInv (nw : Nat) (k t : List W) (v : List W) (d : Nat) : List W :=
  let e := mixInvLayer nw d (permute (piInv nw) nw v)
  if d % 4 = 0 then subWords nw e (subkeys nw k t (d / 4)) else e

/-- v_d for d = 0 .. Nr -/
def state (nw : Nat) (k t : List W) (p : List W) : Nat → List W
  | 0 => p
  | d + 1 => round nw k t (state nw k t p d) d

/-- Threefish encryption on words: K has Nw words, T two words, P Nw words -/
def encWords (nw : Nat) (K T P : List W) : List W :=
  let k := keyExt K
  let t := tweakExt T
  addWords nw (state nw k t P (Nr nw)) (subkeys nw k t (Nr nw / 4))

/-- undo rounds n-1, n-2, …, 0 -/
def unstate (nw : Nat) (k t : List W) : Nat → List W → List W
  | 0, v => v
  | d + 1, v => unstate nw k t d (roundInv nw k t v d)

/-- Threefish decryption on words -/
def decWords (nw : Nat) (K T C : List W) : List W :=
  let k := keyExt K
  let t := tweakExt T
  unstate nw k t (Nr nw) (subWords nw C (subkeys nw k t (Nr nw / 4)))

/-! ### byte strings (section 3.1) -/

/-- ToInt: little-endian integer of a byte string -/
def toInt : List Nat → Nat
  | [] => 0
  | b :: bs => b + 256 * toInt bs

/-- ToBytes(v,n): n little-endian bytes -/
def toBytes : Nat → Nat → List Nat
  | 0, _ => []
  | n + 1, v => (v % 256) :: toBytes n (v / 256)

/-- BytesToWords: 8 bytes per 64-bit word (the byte string has 8·n bytes) -/
def bytesToWords (s : List Nat) : List W :=
  (List.range (s.length / 8)).map fun i => BitVec.ofNat 64 (toInt ((s.drop (8 * i)).take 8))

/-- WordsToBytes -/
def wordsToBytes (ws : List W) : List Nat := ws.flatMap fun w => toBytes 8 w.toNat

/-- the sizes Threefish is defined for: key of 32/64/128 bytes, tweak of 16 bytes, block as long as the key -/
def sizesOk (key tweak block : List Nat) : Bool :=
  (key.length = 32 || key.length = 64 || key.length = 128) && tweak.length = 16 && block.length = key.length

/-- Threefish-Nb encryption of a block of bytes; `none` = the sizes are not defined by the standard -/
def enc (key tweak block : List Nat) : Option (List Nat) :=
  if sizesOk key tweak block then
    some (wordsToBytes (encWords (key.length / 8) (bytesToWords key) (bytesToWords tweak) (bytesToWords block)))
  else none

def dec (key tweak block : List Nat) : Option (List Nat) :=
  if sizesOk key tweak block then
    some (wordsToBytes (decWords (key.length / 8) (bytesToWords key) (bytesToWords tweak) (bytesToWords block)))
  else none

end Spec.Threefish
