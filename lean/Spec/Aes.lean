/-
  Spec.Aes — FIPS 197 (Advanced Encryption Standard), written from the standard, independent of crysp.

  Bytes are natural numbers < 256 read as polynomials over GF(2) (bit i = coefficient of x^i, §3.2/§4);
  the state is the 16-byte list `s` with `s[r + 4c] = s_{r,c}` (§3.4: in/out bytes fill the state column by column);
  words are 4-byte lists (§3.5).  Nothing here is a table: the S-box is affine ∘ inverse (§5.1.1), Rcon is x^(i-1)
  (§5.2), products in GF(2^8) are polynomial products reduced modulo m(x) = x^8+x^4+x^3+x+1 (§4.2).
  Every function used in kernel enumerations is written by structural recursion.
-/
namespace Spec.Aes

/-! ### GF(2^8) (§4) -/

/-- m(x) = x^8 + x^4 + x^3 + x + 1 -/
def mPoly : Nat := 0x11b

/-- coefficient of x^i in the polynomial p (0 or 1) -/
def coef (p i : Nat) : Nat := (p >>> i) % 2

/-- polynomial product over GF(2) of `a` with the low `n` coefficients of `b`: Σ_{i<n} b_i · a · x^i (carry-less) -/
def clmul (a b : Nat) : Nat → Nat
  | 0 => 0
  | i + 1 => clmul a b i ^^^ (coef b i * (a <<< i))

/-- remainder modulo m(x) of a polynomial of degree < 8+n: cancel the coefficients of x^(8+n-1) … x^8 in turn
    by adding that coefficient times m(x)·x^i -/
def reduce (x : Nat) : Nat → Nat
  | 0 => x
  | i + 1 => reduce (x ^^^ (coef x (8 + i) * (mPoly <<< i))) i

/-- multiplication in GF(2^8): the product of the two polynomials modulo m(x) (§4.2) -/
def gfmul (a b : Nat) : Nat := reduce (clmul a b 8) 7

/-- multiplication by x (§4.2.1): shift left, and subtract m(x) when the result has degree 8 -/
def xtime (b : Nat) : Nat := (b <<< 1) ^^^ (coef b 7 * mPoly)

/-- the square b·b; `gfinv` gets b^(2^k) by k of these -/
def gfsq (b : Nat) : Nat := gfmul b b

/-- multiplicative inverse in GF(2^8), 0 ↦ 0 (§5.1.1): b^254 = b^2·b^4·b^8·b^16·b^32·b^64·b^128
    (that this is the inverse, `gfmul b (gfinv b) = 1` for every b ≠ 0, is theorem `Proofs.C02_Aes.gfinv_is_inverse`) -/
def gfinv (b : Nat) : Nat :=
  let b2 := gfsq b; let b4 := gfsq b2; let b8 := gfsq b4; let b16 := gfsq b8
  let b32 := gfsq b16; let b64 := gfsq b32; let b128 := gfsq b64
  gfmul b2 (gfmul b4 (gfmul b8 (gfmul b16 (gfmul b32 (gfmul b64 b128)))))

/-! ### S-box (§5.1.1) and inverse S-box (§5.3.2) -/

def bit (x i : Nat) : Nat := coef x i

/-- assemble a byte from its bits -/
def ofBits (f : Nat → Nat) : Nat → Nat
  | 0 => 0
  | i + 1 => ofBits f i ||| (f i <<< i)

/-- b'_i = b_i ⊕ b_(i+4) ⊕ b_(i+5) ⊕ b_(i+6) ⊕ b_(i+7) ⊕ c_i, indices mod 8, c = {63}  (eq. 5.1) -/
def affine (b : Nat) : Nat :=
  ofBits (fun i => bit b i ^^^ bit b ((i + 4) % 8) ^^^ bit b ((i + 5) % 8) ^^^ bit b ((i + 6) % 8)
                   ^^^ bit b ((i + 7) % 8) ^^^ bit 0x63 i) 8

/-- the inverse affine map: b_i = b'_(i+2) ⊕ b'_(i+5) ⊕ b'_(i+7) ⊕ d_i, d = {05} -/
def invAffine (b : Nat) : Nat :=
  ofBits (fun i => bit b ((i + 2) % 8) ^^^ bit b ((i + 5) % 8) ^^^ bit b ((i + 7) % 8) ^^^ bit 0x05 i) 8

def sbox (b : Nat) : Nat := affine (gfinv b)
def invSbox (b : Nat) : Nat := gfinv (invAffine b)

/-! ### the four transformations on the state -/

def subBytes (s : List Nat) : List Nat := s.map sbox
def invSubBytes (s : List Nat) : List Nat := s.map invSbox

/-- s'_{r,c} = s_{r,(c + r) mod 4}  (eq. 5.3, shift(r,4) = r) -/
def shiftRows (s : List Nat) : List Nat :=
  (List.range 16).map fun i => let r := i % 4; let c := i / 4; s.getD (r + 4 * ((c + r) % 4)) 0

/-- s'_{r,(c + r) mod 4} = s_{r,c}, i.e. s'_{r,c} = s_{r,(c - r) mod 4}  (eq. 5.8) -/
def invShiftRows (s : List Nat) : List Nat :=
  (List.range 16).map fun i => let r := i % 4; let c := i / 4; s.getD (r + 4 * ((c + 4 - r) % 4)) 0

/-- one column times a(x) = {03}x^3+{01}x^2+{01}x+{02} modulo x^4+1 (eq. 5.6) -/
def mixColumn : List Nat → List Nat
  | [s0, s1, s2, s3] =>
    [gfmul 2 s0 ^^^ gfmul 3 s1 ^^^ s2 ^^^ s3,
     s0 ^^^ gfmul 2 s1 ^^^ gfmul 3 s2 ^^^ s3,
     s0 ^^^ s1 ^^^ gfmul 2 s2 ^^^ gfmul 3 s3,
     gfmul 3 s0 ^^^ s1 ^^^ s2 ^^^ gfmul 2 s3]
  | w => w

/-- one column times a^-1(x) = {0b}x^3+{0d}x^2+{09}x+{0e} (eq. 5.10) -/
def invMixColumn : List Nat → List Nat
  | [s0, s1, s2, s3] =>
    [gfmul 0x0e s0 ^^^ gfmul 0x0b s1 ^^^ gfmul 0x0d s2 ^^^ gfmul 0x09 s3,
     gfmul 0x09 s0 ^^^ gfmul 0x0e s1 ^^^ gfmul 0x0b s2 ^^^ gfmul 0x0d s3,
     gfmul 0x0d s0 ^^^ gfmul 0x09 s1 ^^^ gfmul 0x0e s2 ^^^ gfmul 0x0b s3,
     gfmul 0x0b s0 ^^^ gfmul 0x0d s1 ^^^ gfmul 0x09 s2 ^^^ gfmul 0x0e s3]
  | w => w

/-- column c of the state: bytes 4c … 4c+3 -/
def column (s : List Nat) (c : Nat) : List Nat := (s.drop (4 * c)).take 4

def mixColumns (s : List Nat) : List Nat :=
  ((List.range 4).map fun c => mixColumn (column s c)).flatten
def invMixColumns (s : List Nat) : List Nat :=
  ((List.range 4).map fun c => invMixColumn (column s c)).flatten

def xorBytes (a b : List Nat) : List Nat := List.zipWith (· ^^^ ·) a b

/-- [s'_{0,c},…,s'_{3,c}] = [s_{0,c},…,s_{3,c}] ⊕ w_{round·Nb + c}  (eq. 5.7): the round key is the concatenation
    of the four words -/
def addRoundKey (s : List Nat) (w : List (List Nat)) (round : Nat) : List Nat :=
  xorBytes s ((w.drop (4 * round)).take 4).flatten

/-! ### key expansion (§5.2, Fig. 11) -/

/-- x^n in GF(2^8) -/
def xpow : Nat → Nat
  | 0 => 1
  | n + 1 => xtime (xpow n)

/-- Rcon[i] = [x^(i-1), {00}, {00}, {00}], i ≥ 1 -/
def rcon (i : Nat) : List Nat := [xpow (i - 1), 0, 0, 0]

def subWord (w : List Nat) : List Nat := w.map sbox

def rotWord : List Nat → List Nat
  | [a0, a1, a2, a3] => [a1, a2, a3, a0]
  | w => w

/-- w[i] from w[0..i-1] -/
def nextWord (Nk : Nat) (w : List (List Nat)) (i : Nat) : List Nat :=
  let temp := w.getD (i - 1) []
  let temp :=
    if i % Nk = 0 then xorBytes (subWord (rotWord temp)) (rcon (i / Nk))
    else if Nk > 6 ∧ i % Nk = 4 then subWord temp
    else temp
  xorBytes (w.getD (i - Nk) []) temp

/-- w[0..n-1] given the first `start` words: append w[start], w[start+1], … -/
def expandFrom (Nk : Nat) (w : List (List Nat)) (start : Nat) : Nat → List (List Nat)
  | 0 => w
  | n + 1 => expandFrom Nk (w ++ [nextWord Nk w start]) (start + 1) n

/-- KeyExpansion: Nb(Nr+1) words; the first Nk are the key itself, w[i] = key[4i..4i+3] -/
def keyExpansion (key : List Nat) : List (List Nat) :=
  let Nk := key.length / 4
  let Nr := Nk + 6
  let w0 := (List.range Nk).map fun i => (key.drop (4 * i)).take 4
  expandFrom Nk w0 Nk (4 * (Nr + 1) - Nk)

/-! ### Cipher (Fig. 5) and InvCipher (Fig. 12); Nk = |key|/4 ∈ {4,6,8}, Nr = Nk + 6 -/

def round (w : List (List Nat)) (s : List Nat) (r : Nat) : List Nat :=
  addRoundKey (mixColumns (shiftRows (subBytes s))) w r

def invRound (w : List (List Nat)) (s : List Nat) (r : Nat) : List Nat :=
  invMixColumns (addRoundKey (invSubBytes (invShiftRows s)) w r)

/-- rounds 1 … n applied in this order -/
def rounds (w : List (List Nat)) (s : List Nat) : Nat → List Nat
  | 0 => s
  | n + 1 => round w (rounds w s n) (n + 1)

/-- inverse rounds n, n-1, … 1 applied in this order -/
def invRounds (w : List (List Nat)) (s : List Nat) : Nat → List Nat
  | 0 => s
  | n + 1 => invRounds w (invRound w s (n + 1)) n

/-- Cipher with the key schedule `w` and `Nr` rounds (Fig. 5) -/
def cipherW (w : List (List Nat)) (Nr : Nat) (inp : List Nat) : List Nat :=
  let s := addRoundKey inp w 0
  let s := rounds w s (Nr - 1)
  addRoundKey (shiftRows (subBytes s)) w Nr

/-- InvCipher with the key schedule `w` and `Nr` rounds (Fig. 12) -/
def invCipherW (w : List (List Nat)) (Nr : Nat) (inp : List Nat) : List Nat :=
  let s := addRoundKey inp w Nr
  let s := invRounds w s (Nr - 1)
  addRoundKey (invSubBytes (invShiftRows s)) w 0

def cipher (key inp : List Nat) : List Nat := cipherW (keyExpansion key) (key.length / 4 + 6) inp

def invCipher (key inp : List Nat) : List Nat := invCipherW (keyExpansion key) (key.length / 4 + 6) inp

end Spec.Aes
