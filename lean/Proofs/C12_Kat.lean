/-
  C12 (known answers) — the test vectors published in "The Skein Hash Function Family" version 1.3 hold for `Spec.Skein` IN THE
  KERNEL, and, through `skein_refines`, for the model of crysp/skein.py.

  Vectors: Skein-256-256, Skein-512-512 and Skein-1024-1024 of the empty message (reference implementation / NIST KAT
  `ShortMsgKAT` Len = 0) and Skein-256-256 / Skein-512-512 of the one-byte message FF (Appendix C.1 / C.2 of the paper).  They were
  typed from the publications, not produced by the code or by the Spec; they anchor Spec.Skein (tweak layout, configuration
  string, UBI chaining, output transform) and, below it, Spec.Threefish to the outside world.
-/
import Proofs.C12
import Proofs.C02_ThreefishKat
namespace Proofs.C12_Kat
open Model Proofs.Lemmas Proofs.Lemmas.TfBytes Proofs.Lemmas.SkUbi Proofs.Lemmas.SkHash
open Proofs.C02_ThreefishKat (unhex unhex_ofList unhex_append)

def h256e : List Nat := unhex "c8877087da56e072870daa843f176e9453115929094c3a40c463a196c29bf7ba"
def h512e : List Nat := unhex
  "bc5b4c50925519c290cc634277ae3d6257212395cba733bbad37a4af0fa06af41fca7903d06564fea7a2d3730dbdb80c1f85562dfcc070334ea4d1d9e72cba7a"
def h1024e : List Nat := unhex
  ("0fff9563bb3279289227ac77d319b6fff8d7e9f09da1247b72a0a265cd6d2a62645ad547ed8193db48cff847c06494a03f55666d3b47eb4c20456c9373c86297" ++
   "d630d5578ebd34cb40991578f9f52b18003efa35d3da6553ff35db91b81ab890bec1b189b7f52cb2a783ebb7d823d725b0b4a71f6824e88f68f982eefc6d19c6")
def h256ff : List Nat := unhex "0b98dcd198ea0e50a7a244c444e25c23da30c10fc9a1f270a6637f1f34e67ed2"
def h512ff : List Nat := unhex
  "71b7bce6fe6452227b9ced6014249e5bf9a9754c3ad618ccc4e0aae16b316cc8ca698d864307ed3e80b6ef1570812ac5272dc409b5a012df2a579102f340617a"

theorem spec_kat :
    Spec.Skein.skein 256 256 [] [] [] [] [] 0 0 0 [] 0 = some h256e ∧
    Spec.Skein.skein 512 512 [] [] [] [] [] 0 0 0 [] 0 = some h512e ∧
    Spec.Skein.skein 1024 1024 [] [] [] [] [] 0 0 0 [] 0 = some h1024e ∧
    Spec.Skein.skein 256 256 [] [] [] [] [] 0 0 0 [0xFF] 8 = some h256ff ∧
    Spec.Skein.skein 512 512 [] [] [] [] [] 0 0 0 [0xFF] 8 = some h512ff := by
  rw [h256e, h512e, h1024e, h256ff, h512ff, unhex_ofList, unhex_ofList, unhex_append _ _ (by decide +kernel), unhex_ofList,
    unhex_ofList]
  -- down to the Threefish calls inside UBI, which are evaluated on numbers
  unfold Spec.Skein.skein Spec.Skein.optStage Spec.Skein.output Spec.Skein.ubiBytes Spec.Skein.ubi Spec.Skein.E
  rw [TfEval.enc_eq]
  decide +kernel

theorem optok_none : OptOk none where
  bytes := by
    intro b hb
    simp at hb
  len := by decide

/-- the model of crysp.skein.Skein(Nb,No)(M) returns the published digests -/
theorem model_kat :
    (Skein.hash 256 256 0 0 0 none none none none none [] none).toOption = some h256e ∧
    (Skein.hash 512 512 0 0 0 none none none none none [] none).toOption = some h512e ∧
    (Skein.hash 1024 1024 0 0 0 none none none none none [] none).toOption = some h1024e ∧
    (Skein.hash 256 256 0 0 0 none none none none none [0xFF] none).toOption = some h256ff ∧
    (Skein.hash 512 512 0 0 0 none none none none none [0xFF] none).toOption = some h512ff := by
  obtain ⟨k1, k2, k3, k4, k5⟩ := spec_kat
  have o := optok_none
  have hE : IsBytes ([] : List Nat) := Bytes.AllBytes.replicate (Nat.zero_lt_succ _) 0
  have hF : IsBytes [0xFF] := Bytes.AllBytes.replicate (by decide) 1
  open Proofs.C12 in
  exact ⟨(skein_refines 256 256 none none none none none [] none (by simp) hE (by decide) (by decide) o o o o o).trans k1,
    (skein_refines 512 512 none none none none none [] none (by simp) hE (by decide) (by decide) o o o o o).trans k2,
    (skein_refines 1024 1024 none none none none none [] none (by simp) hE (by decide) (by decide) o o o o o).trans k3,
    (skein_refines 256 256 none none none none none [0xFF] none (by simp) hF (by decide) (by decide) o o o o o).trans k4,
    (skein_refines 512 512 none none none none none [0xFF] none (by simp) hF (by decide) (by decide) o o o o o).trans k5⟩

end Proofs.C12_Kat
