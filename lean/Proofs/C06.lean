/-
  C06 — Salsa20, ChaCha, RC4: specified keystream, length-preserving XOR streams, RC4 continuity, Salsa20 core.

  `ofBV ws` (Proofs.Lemmas.StreamPoly) is the Poly of ring 2^w whose coefficients are the words `ws`: the
  representation every Poly of the library has whose entries were stored through `__setitem__`/constructors.
-/
import Proofs.Lemmas.Rc4
import Proofs.Lemmas.SalsaEnd
import Proofs.C03_Streams
namespace Proofs.C06
open Model Model.Gen.Streams Proofs.Lemmas.StreamPoly Proofs.Lemmas.SalsaRounds Proofs.Lemmas.StreamEnc

/-! ## A. what the translator read from the source is what the specifications prescribe -/

/-- the rotation amounts read from `Salsa20.quarterround` are those of the specification (7, 9, 13, 18) -/
theorem salsa_rotations : salsaRot = [7, 9, 13, 18] := by decide
/-- the rotation amounts read from `Chacha.quarterround` are those of the specification (16, 12, 8, 7) -/
theorem chacha_rotations : chachaRot = [16, 12, 8, 7] := by decide

/-- salsa20.rM / rMinv / cM / cMinv are the row pattern of section 4, the transposition of section 5, and their inverses -/
theorem salsa_index_maps :
    salsaRM = Spec.Salsa20.rowIndex ∧ salsaRMinv = Spec.Salsa20.inverseIndex Spec.Salsa20.rowIndex ∧
    salsaCM = Spec.Salsa20.transposeIndex ∧ salsaCMinv = Spec.Salsa20.inverseIndex Spec.Salsa20.transposeIndex := by
  decide +kernel

/-- chacha.rM / rMinv are the diagonal pattern and its inverse; chacha.cM / cMinv are the inverse Salsa row pattern and
    the row pattern (so that `x[cM][rM]` reads the columns) -/
theorem chacha_index_maps :
    chachaRM = Spec.Chacha.diagIndex ∧ chachaRMinv = Spec.Salsa20.inverseIndex Spec.Chacha.diagIndex ∧
    chachaCM = Spec.Salsa20.inverseIndex Spec.Salsa20.rowIndex ∧ chachaCMinv = Spec.Salsa20.rowIndex := by
  decide +kernel

/-- `rMinv∘rM = id = rM∘rMinv` and the same for cM, both modules, on the whole index domain -/
theorem index_maps_inverse :
    ∀ i < 16,
      salsaRMinv.getD (salsaRM.getD i 16) 16 = i ∧ salsaRM.getD (salsaRMinv.getD i 16) 16 = i ∧
      salsaCMinv.getD (salsaCM.getD i 16) 16 = i ∧ salsaCM.getD (salsaCMinv.getD i 16) 16 = i ∧
      chachaRMinv.getD (chachaRM.getD i 16) 16 = i ∧ chachaRM.getD (chachaRMinv.getD i 16) 16 = i ∧
      chachaCMinv.getD (chachaCM.getD i 16) 16 = i ∧ chachaCM.getD (chachaCMinv.getD i 16) 16 = i :=
  fun _ hi =>
    have h {f g} (m : C03_Streams.mutualInv f g = true) := C03_Streams.mutualInv_getD m hi
    ⟨(h C03_Streams.salsa_rM_rMinv).1, (h C03_Streams.salsa_rM_rMinv).2,
      (h C03_Streams.salsa_cM_cMinv).1, (h C03_Streams.salsa_cM_cMinv).2,
      (h C03_Streams.chacha_rM_rMinv).1, (h C03_Streams.chacha_rM_rMinv).2,
      (h C03_Streams.chacha_cM_cMinv).1, (h C03_Streams.chacha_cM_cMinv).2⟩

/-- sigma / tau as stored by `p[0,5,10,15] = consts` are the little-endian words of the ASCII strings
    "expand 32-byte k" / "expand 16-byte k" -/
theorem constants_are_ascii :
    sigma = (Spec.Salsa20.words Spec.Salsa20.sigma).map (·.toNat) ∧
    tau = (Spec.Salsa20.words Spec.Salsa20.tau).map (·.toNat) := by
  rw [← Proofs.Lemmas.SalsaInit.sigma_words, ← Proofs.Lemmas.SalsaInit.tau_words]
  decide

/-! ## B. the round functions on Polys refine the specifications' word functions -/

/-- `Salsa20.quarterround` (dim-1 Poly arithmetic: `y[1]^rol(y[0]+y[3],7)` …) is the quarterround of section 3 -/
theorem salsa_quarterround_refines (y0 y1 y2 y3 : BitVec 32) :
    Salsa.quarterround (ofBV [y0, y1, y2, y3]) =
      .ok (ofBV [(Spec.Salsa20.quarterround y0 y1 y2 y3).1, (Spec.Salsa20.quarterround y0 y1 y2 y3).2.1,
                 (Spec.Salsa20.quarterround y0 y1 y2 y3).2.2.1, (Spec.Salsa20.quarterround y0 y1 y2 y3).2.2.2]) :=
  salsa_qr y0 y1 y2 y3

/-- `y[rM]`, four quarterrounds on the slices, `z[rMinv]` is the rowround of section 4 -/
theorem salsa_rowround_refines (ws : List (BitVec 32)) (h : ws.length = 16) :
    Salsa.rowround Salsa.salsa (ofBV ws) = .ok (ofBV (Spec.Salsa20.rowround ws)) := salsaCore.row ws h

theorem salsa_columnround_refines (ws : List (BitVec 32)) (h : ws.length = 16) :
    Salsa.columnround Salsa.salsa (ofBV ws) = .ok (ofBV (Spec.Salsa20.columnround ws)) := salsaCore.col ws h

theorem salsa_doubleround_refines (ws : List (BitVec 32)) (h : ws.length = 16) :
    Salsa.doubleround Salsa.salsa (ofBV ws) = .ok (ofBV (Spec.Salsa20.doubleround ws)) := salsaCore.doubleround ws h

/-- `core(X,dround)` for every number of doublerounds: rounds and feed-forward `X+Z` -/
theorem salsa_core_refines (dround : Nat) (ws : List (BitVec 32)) (h : ws.length = 16) :
    Salsa.core Salsa.salsa (ofBV ws) dround = .ok (ofBV (Spec.Salsa20.coreWords dround ws)) := salsaCore.core dround ws h

theorem chacha_quarterround_refines (a b c d : BitVec 32) :
    Chacha.quarterround (ofBV [a, b, c, d]) =
      .ok (ofBV [(Spec.Chacha.quarterround a b c d).1, (Spec.Chacha.quarterround a b c d).2.1,
                 (Spec.Chacha.quarterround a b c d).2.2.1, (Spec.Chacha.quarterround a b c d).2.2.2]) :=
  chacha_qr a b c d

/-- Chacha's `rowround` (own rM) is the diagonal round -/
theorem chacha_rowround_refines (ws : List (BitVec 32)) (h : ws.length = 16) :
    Salsa.rowround Chacha.chacha (ofBV ws) = .ok (ofBV (Spec.Chacha.diagonalround ws)) := chachaCore.row ws h

/-- Chacha's `columnround` (through cM = salsa20.rMinv) is the column round -/
theorem chacha_columnround_refines (ws : List (BitVec 32)) (h : ws.length = 16) :
    Salsa.columnround Chacha.chacha (ofBV ws) = .ok (ofBV (Spec.Chacha.columnround ws)) := chachaCore.col ws h

theorem chacha_doubleround_refines (ws : List (BitVec 32)) (h : ws.length = 16) :
    Salsa.doubleround Chacha.chacha (ofBV ws) = .ok (ofBV (Spec.Chacha.doubleround ws)) := chachaCore.doubleround ws h

theorem chacha_core_refines (dround : Nat) (ws : List (BitVec 32)) (h : ws.length = 16) :
    Salsa.core Chacha.chacha (ofBV ws) dround = .ok (ofBV (Spec.Chacha.coreWords dround ws)) := chachaCore.core dround ws h

/-! ## C. the streams -/

/-- the counter words of `block_i` are the specification's counter: the little-endian words of the 8 bytes of `i` -/
theorem words_counter (i : Nat) :
    Spec.Salsa20.words (Spec.Salsa20.le64 i) = [BitVec.ofNat 32 (i % 2 ^ 32), BitVec.ofNat 32 (i / 2 ^ 32)] := Proofs.Lemmas.SalsaKey.words_le64 i

/-- block number `i` of the generator, for EVERY `i` (in particular `i < 2^64`, across the carry at 2^32): the counter
    words written into the state are `i mod 2^32` (low) and `i / 2^32` (high) — by `words_counter` these are the two
    little-endian words of the specification's 8-byte counter — and the block is the core function of that state -/
theorem salsa_block_i (K : Option (List Bits)) (P : List (BitVec 32)) (hP : P.length = 16) (dr i : Nat) :
    Salsa.block Salsa.salsa ⟨K, ofBV P, dr⟩ i =
      .ok (ofBV (Spec.Salsa20.coreWords dr ((P.set 8 (BitVec.ofNat 32 (i % 2 ^ 32))).set 9 (BitVec.ofNat 32 (i / 2 ^ 32)))),
           ⟨K, ofBV ((P.set 8 (BitVec.ofNat 32 (i % 2 ^ 32))).set 9 (BitVec.ofNat 32 (i / 2 ^ 32))), dr⟩) :=
  block_words salsaSpec K P hP dr i

/-- **enc_spec**: for every object state (16 words `P`: any constants/key; a key is present), every 64-bit nonce `x`,
    start block `b0` (0 in the library, other values through the guarded hook) and message `M` whose blocks stay below
    2^64: `enc(v,M) = M xor KS[0:|M|]`, KS = the blocks `b0, b0+1, …` of the core function on the state words with the
    nonce at words 6,7 and the counter at words 8,9 (`ksBlock`, `encW` of Proofs.Lemmas.StreamEnc);
    the object afterwards holds the same constants and key. -/
theorem salsa_enc_spec (K : List Bits) (P : List (BitVec 32)) (hP : P.length = 16) (dr x b0 : Nat) (M : List (BitVec 8))
    (hb : b0 + (M.length + 63) / 64 ≤ 2 ^ 64) :
    ∃ P', SameKey 6 8 P P' ∧
      Salsa.encFrom Salsa.salsa ⟨some K, ofBV P, dr⟩ ⟨x, 64⟩ b0 (M.map (·.toNat)) =
        .ok ((encW (ksBlock Spec.Salsa20.coreWords dr 8 (nonceSet 6 P x)) b0 M).map (·.toNat), ⟨some K, ofBV P', dr⟩) :=
  encFrom_words salsaSpec K P hP dr x b0 M hb

/-- `|enc(v,M)| = |M|`, also for the empty message -/
theorem salsa_enc_length (K : List Bits) (P : List (BitVec 32)) (hP : P.length = 16) (dr x b0 : Nat) (M : List (BitVec 8))
    (hb : b0 + (M.length + 63) / 64 ≤ 2 ^ 64) :
    ∃ C s', Salsa.encFrom Salsa.salsa ⟨some K, ofBV P, dr⟩ ⟨x, 64⟩ b0 (M.map (·.toNat)) = .ok (C, s') ∧ C.length = M.length :=
  encFrom_length salsaSpec K P hP dr x b0 M hb

/-- `dec(v, enc(v,M)) = M` on the same object (the second call starts from the state the first one left) -/
theorem salsa_dec_enc (K : List Bits) (P : List (BitVec 32)) (hP : P.length = 16) (dr x b0 : Nat) (M : List (BitVec 8))
    (hb : b0 + (M.length + 63) / 64 ≤ 2 ^ 64) :
    ∃ s'', (do let (C, s') ← Salsa.encFrom Salsa.salsa ⟨some K, ofBV P, dr⟩ ⟨x, 64⟩ b0 (M.map BitVec.toNat)
               Salsa.encFrom Salsa.salsa s' ⟨x, 64⟩ b0 C) = .ok (M.map BitVec.toNat, s'') :=
  encFrom_encFrom salsaSpec K P hP dr x b0 M hb

/-- prefix law: encrypting `M[:k]` (on the object left by any earlier call, or a fresh one) gives `enc(M)[:k]` -/
theorem salsa_enc_prefix (K : List Bits) (P : List (BitVec 32)) (hP : P.length = 16) (dr x b0 : Nat) (M : List (BitVec 8))
    (k : Nat) (hb : b0 + (M.length + 63) / 64 ≤ 2 ^ 64) :
    ∃ C s' s'' s''', Salsa.encFrom Salsa.salsa ⟨some K, ofBV P, dr⟩ ⟨x, 64⟩ b0 (M.map (·.toNat)) = .ok (C, s') ∧
      Salsa.encFrom Salsa.salsa s' ⟨x, 64⟩ b0 ((M.take k).map (·.toNat)) = .ok (C.take k, s'') ∧
      Salsa.encFrom Salsa.salsa ⟨some K, ofBV P, dr⟩ ⟨x, 64⟩ b0 ((M.take k).map (·.toNat)) = .ok (C.take k, s''') :=
  encFrom_prefix salsaSpec K P hP dr x b0 M k hb

/-- as `salsa_block_i`, with the counter at words 12,13 -/
theorem chacha_block_i (K : Option (List Bits)) (P : List (BitVec 32)) (hP : P.length = 16) (dr i : Nat) :
    Salsa.block Chacha.chacha ⟨K, ofBV P, dr⟩ i =
      .ok (ofBV (Spec.Chacha.coreWords dr ((P.set 12 (BitVec.ofNat 32 (i % 2 ^ 32))).set 13 (BitVec.ofNat 32 (i / 2 ^ 32)))),
           ⟨K, ofBV ((P.set 12 (BitVec.ofNat 32 (i % 2 ^ 32))).set 13 (BitVec.ofNat 32 (i / 2 ^ 32))), dr⟩) :=
  block_words chachaSpec K P hP dr i

/-- **enc_spec** for ChaCha: as `salsa_enc_spec`, with the nonce at words 14,15 and the counter at words 12,13 -/
theorem chacha_enc_spec (K : List Bits) (P : List (BitVec 32)) (hP : P.length = 16) (dr x b0 : Nat) (M : List (BitVec 8))
    (hb : b0 + (M.length + 63) / 64 ≤ 2 ^ 64) :
    ∃ P', SameKey 14 12 P P' ∧
      Salsa.encFrom Chacha.chacha ⟨some K, ofBV P, dr⟩ ⟨x, 64⟩ b0 (M.map (·.toNat)) =
        .ok ((encW (ksBlock Spec.Chacha.coreWords dr 12 (nonceSet 14 P x)) b0 M).map (·.toNat), ⟨some K, ofBV P', dr⟩) :=
  encFrom_words chachaSpec K P hP dr x b0 M hb

theorem chacha_enc_length (K : List Bits) (P : List (BitVec 32)) (hP : P.length = 16) (dr x b0 : Nat) (M : List (BitVec 8))
    (hb : b0 + (M.length + 63) / 64 ≤ 2 ^ 64) :
    ∃ C s', Salsa.encFrom Chacha.chacha ⟨some K, ofBV P, dr⟩ ⟨x, 64⟩ b0 (M.map (·.toNat)) = .ok (C, s') ∧ C.length = M.length :=
  encFrom_length chachaSpec K P hP dr x b0 M hb

theorem chacha_dec_enc (K : List Bits) (P : List (BitVec 32)) (hP : P.length = 16) (dr x b0 : Nat) (M : List (BitVec 8))
    (hb : b0 + (M.length + 63) / 64 ≤ 2 ^ 64) :
    ∃ s'', (do let (C, s') ← Salsa.encFrom Chacha.chacha ⟨some K, ofBV P, dr⟩ ⟨x, 64⟩ b0 (M.map BitVec.toNat)
               Salsa.encFrom Chacha.chacha s' ⟨x, 64⟩ b0 C) = .ok (M.map BitVec.toNat, s'') :=
  encFrom_encFrom chachaSpec K P hP dr x b0 M hb

theorem chacha_enc_prefix (K : List Bits) (P : List (BitVec 32)) (hP : P.length = 16) (dr x b0 : Nat) (M : List (BitVec 8))
    (k : Nat) (hb : b0 + (M.length + 63) / 64 ≤ 2 ^ 64) :
    ∃ C s' s'' s''', Salsa.encFrom Chacha.chacha ⟨some K, ofBV P, dr⟩ ⟨x, 64⟩ b0 (M.map (·.toNat)) = .ok (C, s') ∧
      Salsa.encFrom Chacha.chacha s' ⟨x, 64⟩ b0 ((M.take k).map (·.toNat)) = .ok (C.take k, s'') ∧
      Salsa.encFrom Chacha.chacha ⟨some K, ofBV P, dr⟩ ⟨x, 64⟩ b0 ((M.take k).map (·.toNat)) = .ok (C.take k, s''') :=
  encFrom_prefix chachaSpec K P hP dr x b0 M k hb

/-! ## C'. the Salsa20 hash ('core') function on 64 bytes -/

/-- **hash_refines** (20 rounds = 10 doublerounds, whatever `rounds` the object was built with): for every 64-byte input,
    `Salsa20().hash(m)` — `Bits(m,bitorder=1).split(32)`, `core`, `pack` of every word — is the Salsa20 hash function of
    section 8: little-endian words, 10 doublerounds, feed-forward, little-endian bytes -/
theorem salsa_hash_refines (m : List (BitVec 8)) (hm : m.length = 64) :
    Salsa.hash Salsa.salsa (m.map BitVec.toNat) = .ok ((Spec.Salsa20.hash m).map BitVec.toNat) :=
  hash_words salsaSpec m hm

/-- the inherited `Chacha().hash(m)` is the ChaCha20 core (column/diagonal rounds) on the 16 little-endian words of `m` -/
theorem chacha_hash_refines (m : List (BitVec 8)) (hm : m.length = 64) :
    Salsa.hash Chacha.chacha (m.map BitVec.toNat) =
      .ok ((Spec.Salsa20.unwords (Spec.Chacha.coreWords 10 (Spec.Salsa20.words m))).map BitVec.toNat) :=
  hash_words chachaSpec m hm

/-! ## C''. end to end in bytes -/

/-- **end to end** (salsa): for every 16- or 32-byte key, 8-byte nonce, positive even `rounds`, start block `b0` and
    message `M` with all block numbers below 2^64 — the object built from `Bits(key,bitorder=1)`, called with
    `Bits(nonce,bitorder=1)` — returns exactly the ciphertext the specification defines (Spec.Salsa20.encFrom: M xor the
    keystream blocks hash_r(expand(key, nonce ‖ le64(i))), i = b0, b0+1, …), and it has the length of `M` -/
theorem salsa_enc_end_to_end (key v M : List (BitVec 8)) (hk : key.length = 16 ∨ key.length = 32) (hv : v.length = 8)
    (rounds : Int) (hr : rounds > 0 ∧ rounds % 2 = 0) (b0 : Nat) (hb : b0 + (M.length + 63) / 64 ≤ 2 ^ 64) :
    ∃ C s', Spec.Salsa20.encFrom (rounds / 2).toNat key v b0 M = some C ∧ C.length = M.length ∧
      (do let K ← Bits.ofBytes (key.map BitVec.toNat) none 1
          let st ← Salsa.init (some K) rounds
          let nv ← Bits.ofBytes (v.map BitVec.toNat) none 1
          Salsa.encFrom Salsa.salsa st nv b0 (M.map BitVec.toNat)) = .ok (C.map BitVec.toNat, s') := by
  have hP := Proofs.Lemmas.SalsaEnd.salsaP_length key
  obtain ⟨s', h⟩ := enc_of_init salsaSpec Salsa.init key v M hv rounds _ _ hP _
    (Proofs.Lemmas.SalsaEnd.salsa_init_key key hk rounds hr) b0 hb
  exact ⟨_, s', Proofs.Lemmas.SalsaEnd.salsa_spec_enc _ key v _ (Proofs.Lemmas.SalsaEnd.salsa_spec_block _ key v hk hv) hv b0 M hb,
    encW_length _ (ksBlock_length salsaSpec _ _ _ (by rw [nonceSet_length]; exact hP)) _ _, h⟩

/-- **end to end** (chacha): as `salsa_enc_end_to_end`, against Spec.Chacha.encFrom -/
theorem chacha_enc_end_to_end (key v M : List (BitVec 8)) (hk : key.length = 16 ∨ key.length = 32) (hv : v.length = 8)
    (rounds : Int) (hr : rounds > 0 ∧ rounds % 2 = 0) (b0 : Nat) (hb : b0 + (M.length + 63) / 64 ≤ 2 ^ 64) :
    ∃ C s', Spec.Chacha.encFrom (rounds / 2).toNat key v b0 M = some C ∧ C.length = M.length ∧
      (do let K ← Bits.ofBytes (key.map BitVec.toNat) none 1
          let st ← Chacha.init (some K) rounds
          let nv ← Bits.ofBytes (v.map BitVec.toNat) none 1
          Salsa.encFrom Chacha.chacha st nv b0 (M.map BitVec.toNat)) = .ok (C.map BitVec.toNat, s') := by
  have hP := Proofs.Lemmas.SalsaEnd.chachaP_length key
  obtain ⟨s', h⟩ := enc_of_init chachaSpec Chacha.init key v M hv rounds _ _ hP _
    (Proofs.Lemmas.SalsaEnd.chacha_init_key key hk rounds hr) b0 hb
  exact ⟨_, s', Proofs.Lemmas.SalsaEnd.chacha_spec_enc _ key v _ (Proofs.Lemmas.SalsaEnd.chacha_spec_block _ key v hk hv) hv b0 M hb,
    encW_length _ (ksBlock_length chachaSpec _ _ _ (by rw [nonceSet_length]; exact hP)) _ _, h⟩

/-! ## C'''. what is refused -/

/-- key sizes other than 128/256 bits, and round counts that are not positive and even, are refused by both constructors -/
theorem init_rejects (K : Bits) (rounds : Int) (h : (K.size ≠ 128 ∧ K.size ≠ 256) ∨ ¬ (rounds > 0 ∧ rounds % 2 = 0)) :
    (∃ e, Salsa.init (some K) rounds = .error e) ∧ (∃ e, Chacha.init (some K) rounds = .error e) := by
  have hs : ∃ e, Salsa.init (some K) rounds = .error e := by
    unfold Salsa.init
    dsimp only
    by_cases hk : K.size ≠ 128 ∧ K.size ≠ 256
    · rw [if_pos hk]
      exact ⟨_, rfl⟩
    · have hr : ¬ (rounds > 0 ∧ rounds % 2 = 0) := h.resolve_left hk
      rw [if_neg hk]
      simp only [bind, Except.bind]
      split
      · exact ⟨_, rfl⟩
      · rw [if_pos hr]
        exact ⟨_, rfl⟩
  refine ⟨hs, ?_⟩
  obtain ⟨e, he⟩ := hs
  exact ⟨e, by unfold Chacha.init; rw [he]; rfl⟩

/-- `keystream`/`enc` without a key, or with a nonce that is not 64 bits wide, is refused -/
theorem enc_rejects (V : Salsa.Variant) (s : Salsa.State) (v : Bits) (b0 : Nat) (m : List Nat)
    (h : s.K = none ∨ v.size ≠ 64) : ∃ e, Salsa.encFrom V s v b0 m = .error e := by
  unfold Salsa.encFrom
  rw [setNonce_rejects V s v h]
  exact ⟨_, rfl⟩

/-! ## D. RC4 -/

open Proofs.Lemmas.Rc4 in
/-- **ksa_refines**: `RC4(K)` for every key of 1..256 bytes: `S` is the permutation of the specified KSA, `i = j = 0` -/
theorem rc4_ksa_refines (key : List (BitVec 8)) (h0 : 0 < key.length) (h1 : key.length ≤ 256) :
    Rc4.init (key.map BitVec.toNat) = .ok ⟨ofBV key, ofBV (Spec.Rc4.ksa key), 0, 0⟩ := by
  rw [init_refines key h0 h1]
  simp only [stateOf, Spec.Rc4.start]
  rfl

open Proofs.Lemmas.Rc4 in
/-- keys outside 1..256 bytes are refused -/
theorem rc4_key_length_checked (key : List Nat) (h : key.length = 0 ∨ key.length > 256) : ∃ e, Rc4.init key = .error e := by
  unfold Rc4.init
  have hd : (Poly.ofBytes key).dim = key.length := by simp [Poly.ofBytes, Poly.ofList, Poly.dim]
  rcases h with h | h
  · exact ⟨_, by simp only [hd, h, ↓reduceIte]; rfl⟩
  · have : ¬ key.length = 0 := by omega
    exact ⟨_, by simp only [hd, this, h, ↓reduceIte]; rfl⟩

open Proofs.Lemmas.Rc4 in
/-- **prga_refines**: `keystream(n)` on an object representing the specification state `sp` returns the next `n` bytes of
    the specified PRGA and leaves the object representing the specified successor state (S, i, j persist) -/
theorem rc4_prga_refines (K : Poly) (sp : Spec.Rc4.St) (hlen : sp.S.length = 256) (n : Nat) :
    Rc4.keystream (stateOf K sp) n = .ok (ofBV (Spec.Rc4.prga n sp).1, stateOf K (Spec.Rc4.prga n sp).2) :=
  keystream_refines K sp hlen n

open Proofs.Lemmas.Rc4 in
/-- `enc(M) = M xor (next |M| keystream bytes)`, the state carries on; in particular `|enc(M)| = |M|` (also for `b''`) -/
theorem rc4_enc_spec (K : Poly) (sp : Spec.Rc4.St) (hlen : sp.S.length = 256) (M : List (BitVec 8)) :
    Rc4.enc (stateOf K sp) (M.map (·.toNat)) = .ok ((Spec.Rc4.enc sp M).1.map (·.toNat), stateOf K (Spec.Rc4.enc sp M).2)
    ∧ (Spec.Rc4.enc sp M).1.length = M.length
    ∧ (Spec.Rc4.enc sp M).2.S.length = 256 :=
  ⟨enc_refines K sp hlen M, enc_length sp M, (enc_S_length sp M).trans hlen⟩

open Proofs.Lemmas.Rc4 in
/-- **continuity**: on a fresh object, `enc(M1 ++ M2)` = `enc(M1)` followed by `enc(M2)` on the carried state -/
theorem rc4_continuity (key : List (BitVec 8)) (h0 : 0 < key.length) (h1 : key.length ≤ 256) (M1 M2 : List (BitVec 8)) :
    (do let st ← Rc4.init (key.map BitVec.toNat)
        let (c, _) ← Rc4.enc st ((M1 ++ M2).map BitVec.toNat)
        pure c)
    = (do let st ← Rc4.init (key.map BitVec.toNat)
          let (c1, st1) ← Rc4.enc st (M1.map BitVec.toNat)
          let (c2, _) ← Rc4.enc st1 (M2.map BitVec.toNat)
          pure (c1 ++ c2)) := by
  have hl := start_length key
  rewrite [init_refines key h0 h1]
  simp only [Lemmas.Fold.ok_bind]
  rw [enc_refines (ofBV key) (Spec.Rc4.start key) hl, enc_refines (ofBV key) (Spec.Rc4.start key) hl, Lemmas.Fold.ok_bind, Lemmas.Fold.ok_bind]
  dsimp only
  rw [enc_refines _ _ (by rw [enc_S_length]; exact hl), Lemmas.Fold.ok_bind]
  simp only [pure, Except.pure, spec_enc_append, List.map_append]

open Proofs.Lemmas.Rc4 in
/-- **any split**: encrypting the pieces `M1 | M2 | … | Mn` (empty pieces allowed) in successive calls on one object yields,
    concatenated, exactly `RC4_spec(K) xor (M1 ++ … ++ Mn)` = the one-shot encryption by a fresh object -/
theorem rc4_any_split (key : List (BitVec 8)) (h0 : 0 < key.length) (h1 : key.length ≤ 256) (Ms : List (List (BitVec 8))) :
    (do let st ← Rc4.init (key.map BitVec.toNat)
        let (cs, _) ← Rc4.encSeq st (Ms.map (List.map BitVec.toNat))
        pure cs.flatten)
    = .ok ((Spec.Rc4.encrypt key Ms.flatten).map (·.toNat))
    ∧ (do let st ← Rc4.init (key.map BitVec.toNat)
          let (c, _) ← Rc4.enc st (Ms.flatten.map BitVec.toNat)
          pure c)
      = .ok ((Spec.Rc4.encrypt key Ms.flatten).map (·.toNat)) := by
  have hl := start_length key
  rewrite [init_refines key h0 h1]
  simp only [Lemmas.Fold.ok_bind]
  rw [encSeq_refines (ofBV key) (Spec.Rc4.start key) hl, enc_refines (ofBV key) (Spec.Rc4.start key) hl, Lemmas.Fold.ok_bind, Lemmas.Fold.ok_bind]
  simp only [pure, Except.pure, Spec.Rc4.encrypt]
  have := specSeq_flatten (Spec.Rc4.start key) Ms
  constructor
  · rw [← this]; simp [List.map_flatten]
  · trivial

open Proofs.Lemmas.Rc4 in
/-- `RC4(K).dec(RC4(K).enc(M)) = M` (two fresh objects) -/
theorem rc4_dec_enc (key : List (BitVec 8)) (h0 : 0 < key.length) (h1 : key.length ≤ 256) (M : List (BitVec 8)) :
    (do let st ← Rc4.init (key.map BitVec.toNat)
        let (c, _) ← Rc4.enc st (M.map BitVec.toNat)
        let st' ← Rc4.init (key.map BitVec.toNat)
        let (m, _) ← Rc4.dec st' c
        pure m) = .ok (M.map (·.toNat)) := by
  have hl := start_length key
  rewrite [init_refines key h0 h1]
  simp only [Lemmas.Fold.ok_bind, Rc4.dec]
  rw [enc_refines (ofBV key) (Spec.Rc4.start key) hl, Lemmas.Fold.ok_bind]
  dsimp only
  rw [enc_refines (ofBV key) (Spec.Rc4.start key) hl, Lemmas.Fold.ok_bind]
  simp only [pure, Except.pure, enc_enc]

/-! ## non-vacuity -/

/-- a 32-byte key, non-zero nonce, 20 rounds, a 3-block message of ragged length that starts one block before the carry at 2^32 -/
example : ∃ (key v M : List (BitVec 8)) (rounds : Int) (b0 : Nat),
    (key.length = 16 ∨ key.length = 32) ∧ v.length = 8 ∧ (rounds > 0 ∧ rounds % 2 = 0) ∧
    b0 + (M.length + 63) / 64 ≤ 2 ^ 64 ∧ M.length % 64 ≠ 0 ∧ b0 < 2 ^ 32 ∧ 2 ^ 32 < b0 + (M.length + 63) / 64 ∧ v ≠ List.replicate 8 0 :=
  ⟨List.replicate 32 1, List.replicate 8 2, List.replicate 130 3, 20, 2 ^ 32 - 1, by decide +kernel⟩

example : ∃ P : List (BitVec 32), P.length = 16 := ⟨(List.range 16).map (BitVec.ofNat 32), by decide⟩

example : ∃ k1 k2 : List (BitVec 8), 0 < k1.length ∧ k1.length ≤ 256 ∧ k2.length = 256 :=
  ⟨[1], List.replicate 256 7, by refine ⟨by decide, by decide, List.length_replicate ..⟩⟩

example (key : List (BitVec 8)) : (Spec.Rc4.start key).S.length = 256 := Proofs.Lemmas.Rc4.start_length key

end Proofs.C06
