/-
  C03 (Threefish part) — Threefish decryption inverts encryption and conversely, the result has the block length;
  the component pairs MIX/MIX⁻¹, π/π⁻¹, key addition/subtraction are mutual inverses on their whole domain.
  All statements are about Model.Threefish (the mirror of crysp/threefish.py); C02 makes them statements about the
  standard cipher too.  `IsBytes s` = every element < 256 (a Python `bytes`), `ofBV x` = the 64-bit Bits with value x.
-/
import Proofs.Lemmas.TfEnd
namespace Proofs.C03_Threefish
open Model Proofs.Lemmas.TfBridge Proofs.Lemmas.TfBytes Proofs.Lemmas.TfRefine Proofs.Lemmas
open Spec.Threefish (W bytesToWords wordsToBytes)

/-- π⁻¹∘π = id = π∘π⁻¹ on {0..Nw-1} for the tables the live object holds (Nw = 4, 8, 16), and both tables stay inside
    {0..Nw-1}: they are the specification's tables (`TfEnd.tables`), for which `TfInverse.pi_piInv` enumerates this -/
theorem piinv_pi : ∀ nw ∈ [4, 8, 16], ∀ i < nw,
    (Threefish.piinvOf nw).getD ((Threefish.piOf nw).getD i 0) 0 = i ∧
    (Threefish.piOf nw).getD ((Threefish.piinvOf nw).getD i 0) 0 = i ∧
    (Threefish.piOf nw).getD i 0 < nw ∧ (Threefish.piinvOf nw).getD i 0 < nw := by
  intro nw hnw i hi
  have hv : nw = 4 ∨ nw = 8 ∨ nw = 16 := by simpa using hnw
  obtain ⟨t1, t2, -⟩ := TfEnd.tables nw hv
  obtain ⟨h1, h2, h3, h4⟩ := TfInverse.pi_piInv nw hv i hi
  rw [t1, t2]
  exact ⟨h2, h1, h3, h4⟩

/-- rotation right undoes rotation left on 64-bit words, every amount (the `ror`/`rol` pair as Threefish uses it) -/
theorem ror_rol (x : W) (r : Nat) (hr : r < 64) : ((ofBV x).rol! r).ror! r = ofBV x :=
  Bits.ror!_rol! _ (BitsBitVec.ofBV_wf x) r (Nat.le_of_lt hr)

theorem rol_ror (x : W) (r : Nat) (hr : r < 64) : ((ofBV x).ror! r).rol! r = ofBV x :=
  Bits.rol!_ror! _ (BitsBitVec.ofBV_wf x) r (Nat.le_of_lt hr)

/-- `__MIXinv` undoes `__MIX`: every pair of 64-bit words, every round d, every column j, every constructible context -/
theorem mixinv_mix (key tweak : List Nat) (hk : IsBytes key) (ht : IsBytes tweak) (c : Threefish.Ctx)
    (hc : Threefish.init key tweak = .ok c) (x0 x1 : W) (d j : Nat) (hj : j < c.Nw / 2) :
    Threefish.mixinv c ((Threefish.mix c (ofBV x0) (ofBV x1) d j).getD 0 Threefish.z64)
      ((Threefish.mix c (ofBV x0) (ofBV x1) d j).getD 1 Threefish.z64) d j = [ofBV x0, ofBV x1] := by
  obtain ⟨_, _, hrel⟩ := TfEnd.rel_of_init key tweak hk ht c hc
  rw [ofBV_eq, TfRefine.mix_refines hrel x0 x1 d j, getD_map_ofBV, getD_map_ofBV, TfRefine.mixinv_refines hrel _ _ d j,
      TfInverse.mixInv_mix]
  rfl

theorem mix_mixinv (key tweak : List Nat) (hk : IsBytes key) (ht : IsBytes tweak) (c : Threefish.Ctx)
    (hc : Threefish.init key tweak = .ok c) (y0 y1 : W) (d j : Nat) (hj : j < c.Nw / 2) :
    Threefish.mix c ((Threefish.mixinv c (ofBV y0) (ofBV y1) d j).getD 0 Threefish.z64)
      ((Threefish.mixinv c (ofBV y0) (ofBV y1) d j).getD 1 Threefish.z64) d j = [ofBV y0, ofBV y1] := by
  obtain ⟨_, _, hrel⟩ := TfEnd.rel_of_init key tweak hk ht c hc
  rw [ofBV_eq, TfRefine.mixinv_refines hrel y0 y1 d j, getD_map_ofBV, getD_map_ofBV, TfRefine.mix_refines hrel _ _ d j,
      TfInverse.mix_mixInv]
  rfl

theorem subKey_addKey (key tweak : List Nat) (hk : IsBytes key) (ht : IsBytes tweak) (c : Threefish.Ctx)
    (hc : Threefish.init key tweak = .ok c) (v ks : List W) (hv : v.length = c.Nw) :
    Threefish.subKey c (Threefish.addKey c (v.map ofBV) (ks.map ofBV)) (ks.map ofBV) = v.map ofBV ∧
    Threefish.addKey c (Threefish.subKey c (v.map ofBV) (ks.map ofBV)) (ks.map ofBV) = v.map ofBV := by
  obtain ⟨_, _, hrel⟩ := TfEnd.rel_of_init key tweak hk ht c hc
  rw [hrel.hNw] at hv
  rw [ofBV_eq, TfRefine.addKey_refines hrel, TfRefine.subKey_refines hrel, ((TfInverse.add_inv _ ks).undo hv).1,
      TfRefine.subKey_refines hrel, TfRefine.addKey_refines hrel, ((TfInverse.add_inv _ ks).undo hv).2]
  exact ⟨rfl, rfl⟩

theorem decRound_encRound (key tweak : List Nat) (hk : IsBytes key) (ht : IsBytes tweak) (c : Threefish.Ctx)
    (hc : Threefish.init key tweak = .ok c) (v : List W) (hv : v.length = c.Nw) (d : Nat) (hd : d < 2 ^ 64) :
    Threefish.decRound c (Threefish.encRound c (v.map ofBV) d) d = v.map ofBV ∧
    Threefish.encRound c (Threefish.decRound c (v.map ofBV) d) d = v.map ofBV := by
  obtain ⟨hkl, _, hrel⟩ := TfEnd.rel_of_init key tweak hk ht c hc
  rw [hrel.hNw] at hv
  rw [ofBV_eq, TfRefine.encRound_refines hrel v d hd, TfRefine.decRound_refines hrel _ d hd,
      ((TfInverse.round_inv hrel.hv _ _ d).undo hv).1,
      TfRefine.decRound_refines hrel v d hd, TfRefine.encRound_refines hrel _ d hd,
      ((TfInverse.round_inv hrel.hv _ _ d).undo hv).2]
  exact ⟨rfl, rfl⟩

/-- dec_K,T(enc_K,T(B)) = B for every key, tweak and block of the three sizes -/
theorem dec_enc (key tweak block : List Nat) (hk : IsBytes key) (ht : IsBytes tweak) (hb : IsBytes block)
    (hs : (key.length = 32 ∨ key.length = 64 ∨ key.length = 128) ∧ tweak.length = 16 ∧ block.length = key.length) :
    (Threefish.encrypt key tweak block >>= fun c => Threefish.decrypt key tweak c) = .ok block :=
  (TfEnd.round_trip key tweak block hk ht hb ((TfEnd.sizesOk_iff _ _ _).2 hs)).1

theorem enc_dec (key tweak block : List Nat) (hk : IsBytes key) (ht : IsBytes tweak) (hb : IsBytes block)
    (hs : (key.length = 32 ∨ key.length = 64 ∨ key.length = 128) ∧ tweak.length = 16 ∧ block.length = key.length) :
    (Threefish.decrypt key tweak block >>= fun c => Threefish.encrypt key tweak c) = .ok block :=
  (TfEnd.round_trip key tweak block hk ht hb ((TfEnd.sizesOk_iff _ _ _).2 hs)).2

/-- whatever enc / dec return has the length of the block (no size hypothesis: other sizes return nothing) -/
theorem enc_length (key tweak block out : List Nat) (hk : IsBytes key) (ht : IsBytes tweak) (hb : IsBytes block)
    (h : Threefish.encrypt key tweak block = .ok out) : out.length = block.length :=
  (TfEnd.lengths key tweak block hk ht hb).1 out h

theorem dec_length (key tweak block out : List Nat) (hk : IsBytes key) (ht : IsBytes tweak) (hb : IsBytes block)
    (h : Threefish.decrypt key tweak block = .ok out) : out.length = block.length :=
  (TfEnd.lengths key tweak block hk ht hb).2 out h

/-! ### non-vacuity -/

example : IsBytes (List.replicate 128 0xFF) ∧ IsBytes (List.replicate 16 7) ∧
    ((List.replicate 128 0xFF).length = 32 ∨ (List.replicate 128 0xFF).length = 64 ∨ (List.replicate 128 0xFF).length = 128) := by
  refine ⟨?_, ?_, by simp⟩
  · exact Bytes.AllBytes.replicate (by decide) _
  · exact Bytes.AllBytes.replicate (by decide) _

example : ∃ c, Threefish.init (List.replicate 32 3) (List.replicate 16 2) = .ok c ∧ 1 < c.Nw / 2 := by
  have hb1 : IsBytes (List.replicate 32 3) := Bytes.AllBytes.replicate (by decide) _
  have hb2 : IsBytes (List.replicate 16 2) := Bytes.AllBytes.replicate (by decide) _
  obtain ⟨c, hc, _, hrel⟩ := TfEnd.init_rel _ _ hb1 hb2 (by simp) (by simp)
  exact ⟨c, hc, by rw [hrel.hNw]; simp⟩

end Proofs.C03_Threefish
