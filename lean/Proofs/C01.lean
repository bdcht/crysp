/-
  C01 — MD4/MD5/SHA-0/SHA-1/SHA-2 digests equal the standards for every message and bit length.

  `ofBV x` is the `Bits` object of size w holding the word x : BitVec w (Lemmas/BitsBitVec.lean: every
  well-formed Bits of size w is of this form, `ofBV_toBV`).  `toNatBytes` maps the specification's bytes (BitVec 8) to
  the byte values (Nat) the model works on.  `embH` lists the words of a standard chaining value as the `Bits` list
  the object holds in `self.H`.
-/
import Proofs.Lemmas.EndToEnd
import Proofs.C09
namespace Proofs.C01
open Model Model.Gen.Hashes Proofs.Lemmas Proofs.Lemmas.BitsBitVec Proofs.Lemmas.Parse Proofs.Lemmas.Compose
  Proofs.Lemmas.EndToEnd

/-! ## the regenerated tables and constants are the standards' -/

/-- SHA-1/SHA-0 `self.K[r]` = FIPS 180-4 §4.2.1 K_t, and `self.ft[r]` is Ch, Parity, Maj, Parity by twenties (both versions) -/
theorem sha1_K_eq (v : Nat) : ∀ r, r < 80 → (Sha.sha1K v).getD r 0 = (Spec.Sha1.K r).toNat := Sha1.K_eq v
theorem sha1_ft_eq (v : Nat) : ∀ r, r < 80 → (Sha.sha1ftCode v).getD r 0 = Sha1.specCode r := Sha1.ftCode_eq v
/-- `SHA2(224|256).K` = FIPS 180-4 §4.2.2, `SHA2(384|512).K` = §4.2.3 -/
theorem sha256_K_eq : ∀ r, r < 64 → sha2K32.getD r 0 = (Spec.Sha2.K256.getD r 0).toNat := fun r _ => Sha2.K256_eq r
theorem sha512_K_eq : ∀ r, r < 80 → sha2K64.getD r 0 = (Spec.Sha2.K512.getD r 0).toNat := fun r _ => Sha2.K512_eq r
/-- `MD5().K[i]` = RFC 1321 T[i+1]; shift amounts `st[i//16][i%4]` = the s of operation i -/
theorem md5_K_eq : ∀ i, i < 64 → md5K.getD i 0 = (Spec.Md5.T.getD i 0).toNat := fun i _ => Md5.K_eq i
theorem md5_shift_eq : ∀ i, i < 64 → Md.shiftOf md5st i = Spec.Md5.sTable.getD i 0 := Md5.shift_eq
/-- `MD4().K[r]` = 0, 5A827999, 6ED9EBA1; shift amounts = RFC 1320 §3.4 -/
theorem md4_K_eq : ∀ r, r < 3 → md4K.getD r 0 = (Md4.specK r).toNat := Md4.K_eq
theorem md4_shift_eq : ∀ i, i < 48 → Md.shiftOf md4st i = Spec.Md4.sTable.getD i 0 := Md4.shift_eq
/-- the `W.extend([W[i] for i in (…)])` tuples of `update` give the X[k] order of the RFCs' operation lists -/
theorem md4_index_schedule (X : List (BitVec 32)) (hX : X.length = 16) :
    Md.extend (X.map ofBV) md4Idx = ((List.range 48).map fun i => X.getD (Spec.Md4.kTable.getD i 0) 0).map ofBV :=
  Md4.extend_eq X hX
theorem md5_index_schedule (X : List (BitVec 32)) (hX : X.length = 16) :
    Md.extend (X.map ofBV) md5Idx = ((List.range 64).map fun i => X.getD (Spec.Md5.kTable.getD i 0) 0).map ofBV :=
  Md5.extend_eq X hX

/-- **IV_eq**: `H` after `initstate()` of every object is the standard's initial value; for SHA-512/224 and SHA-512/256
    it is the output of the FIPS 180-4 §5.3.6 IV generation function (Spec SHA-512 run in the kernel) -/
theorem IV_eq :
    md4H.map (fun v => Bits.ofNatSz v 32) = Md.embH Spec.Md4.iv ∧
    md5H.map (fun v => Bits.ofNatSz v 32) = Md.embH Spec.Md5.iv ∧
    (∀ v, (Sha.sha1IV v).map (fun x => Bits.ofNatSz x 32) = Sha1.embH Spec.Sha1.iv) ∧
    sha2H_224_0.map (fun v => Bits.ofNatSz v 32) = Sha2.embH (Spec.Sha2.stateOf Spec.Sha2.iv224) ∧
    sha2H_256_0.map (fun v => Bits.ofNatSz v 32) = Sha2.embH (Spec.Sha2.stateOf Spec.Sha2.iv256) ∧
    sha2H_384_0.map (fun v => Bits.ofNatSz v 64) = Sha2.embH (Spec.Sha2.stateOf Spec.Sha2.iv384) ∧
    sha2H_512_0.map (fun v => Bits.ofNatSz v 64) = Sha2.embH (Spec.Sha2.stateOf Spec.Sha2.iv512) ∧
    sha2H_512_224.map (fun v => Bits.ofNatSz v 64) = Sha2.embH (Spec.Sha2.ivT 224) ∧
    sha2H_512_256.map (fun v => Bits.ofNatSz v 64) = Sha2.embH (Spec.Sha2.ivT 256) :=
  ⟨Md4.iv_eq, Md5.iv_eq, Sha1.iv_eq, Instances.iv224_eq, Instances.iv256_eq, Instances.iv384_eq, Instances.iv512_eq,
   Instances.iv512_224_eq, Instances.iv512_256_eq⟩

/-- word size, block size and output length the constructors derive are those of the live objects (`sha2Params`,
    recorded from `SHA2(size,t)` for the six (size,t) pairs) -/
theorem sha2_params_eq :
    sha2Params.all (fun p => match Sha.sha2Cfg (p.getD 0 0) (p.getD 1 0) with
      | .ok c => c.wsize == p.getD 2 0 && c.blocksize == p.getD 3 0 && c.outlen == p.getD 4 0
      | .error _ => false) = true := by
  decide +kernel

/-! ## the translated bit-expression lambdas equal the standards' functions on all words -/

/-- the Bits ↔ BitVec w bridge: on words of w bits the operators of crysp/bits.py and operators.py are the BitVec ones -/
theorem word_ops_refine {w : Nat} (x y : BitVec w) (n k : Nat) (hn : n ≤ w) (hk : k < 2 ^ w) :
    (ofBV x).add (ofBV y) = ofBV (x + y) ∧ (ofBV x).xor (ofBV y) = ofBV (x ^^^ y) ∧
    (ofBV x).and (ofBV y) = ofBV (x &&& y) ∧ (ofBV x).or (ofBV y) = ofBV (x ||| y) ∧
    (ofBV x).inv = ofBV (~~~x) ∧ (ofBV x).shl n = ofBV (x <<< n) ∧ (ofBV x).shr n = ofBV (x >>> n) ∧
    rol (ofBV x) n = ofBV (x.rotateLeft n) ∧ ror (ofBV x) n = ofBV (x.rotateRight n) ∧
    (ofBV x).add (Bits.ofNat k) = ofBV (x + BitVec.ofNat w k) :=
  ⟨add_ofBV x y, xor_ofBV x y, and_ofBV x y, or_ofBV x y, inv_ofBV x, shl_ofBV x n, shr_ofBV x n, rol_ofBV x n hn,
   ror_ofBV x n hn, addNat_ofBV x k hk⟩

/-- every well-formed `Bits` of size w is `ofBV` of a word, so the statements on `ofBV` cover all words the code handles -/
theorem words_are_embedded {w : Nat} (b : Bits) (hs : b.size = w) (hwf : b.WF) : ∃ x : BitVec w, b = ofBV x :=
  ⟨toBV w b, (ofBV_toBV b hs hwf).symm⟩

/-- SHA: `Ch`, `Maj`, `Parity` of sha.py (used by SHA1.ft and SHA2.update); `Ch` and `Maj` for any word size, `Parity`
    (SHA-1 only) and the SHA-1 forms of `Ch`, `Maj` for 32-bit words -/
theorem Ch_eq {w} (x y z : BitVec w) : Ch (ofBV x) (ofBV y) (ofBV z) = ofBV (Spec.Sha2.Ch x y z) := RoundFns.Ch_ofBV x y z
theorem Maj_eq {w} (x y z : BitVec w) : Maj (ofBV x) (ofBV y) (ofBV z) = ofBV (Spec.Sha2.Maj x y z) := RoundFns.Maj_ofBV x y z
theorem Parity_eq (x y z : BitVec 32) : Parity (ofBV x) (ofBV y) (ofBV z) = ofBV (Spec.Sha1.Parity x y z) :=
  RoundFns.sha1_Parity x y z
theorem sha1_Ch_eq (x y z : BitVec 32) : Ch (ofBV x) (ofBV y) (ofBV z) = ofBV (Spec.Sha1.Ch x y z) := RoundFns.sha1_Ch x y z
theorem sha1_Maj_eq (x y z : BitVec 32) : Maj (ofBV x) (ofBV y) (ofBV z) = ofBV (Spec.Sha1.Maj x y z) := RoundFns.sha1_Maj x y z

/-- SHA-2: Σ0, Σ1, σ0, σ1 for both word sizes (FIPS 180-4 (4.4)–(4.7), (4.10)–(4.13)) -/
theorem Sigma_sigma_eq :
    (∀ x : BitVec 32, Sigma_0_32 (ofBV x) = ofBV (Spec.Sha2.fam256.Sigma0 x)) ∧
    (∀ x : BitVec 32, Sigma_1_32 (ofBV x) = ofBV (Spec.Sha2.fam256.Sigma1 x)) ∧
    (∀ x : BitVec 32, sigma_0_32 (ofBV x) = ofBV (Spec.Sha2.fam256.sigma0 x)) ∧
    (∀ x : BitVec 32, sigma_1_32 (ofBV x) = ofBV (Spec.Sha2.fam256.sigma1 x)) ∧
    (∀ x : BitVec 64, Sigma_0_64 (ofBV x) = ofBV (Spec.Sha2.fam512.Sigma0 x)) ∧
    (∀ x : BitVec 64, Sigma_1_64 (ofBV x) = ofBV (Spec.Sha2.fam512.Sigma1 x)) ∧
    (∀ x : BitVec 64, sigma_0_64 (ofBV x) = ofBV (Spec.Sha2.fam512.sigma0 x)) ∧
    (∀ x : BitVec 64, sigma_1_64 (ofBV x) = ofBV (Spec.Sha2.fam512.sigma1 x)) :=
  ⟨RoundFns.Sigma_0_32_ofBV, RoundFns.Sigma_1_32_ofBV, RoundFns.sigma_0_32_ofBV, RoundFns.sigma_1_32_ofBV,
   RoundFns.Sigma_0_64_ofBV, RoundFns.Sigma_1_64_ofBV, RoundFns.sigma_0_64_ofBV, RoundFns.sigma_1_64_ofBV⟩

/-- MD4 f, g, h = RFC 1320 F, G, H; MD5 f, g, h, i = RFC 1321 F, G, H, I -/
theorem md4_fgh_eq (x y z : BitVec 32) :
    md4_f (ofBV x) (ofBV y) (ofBV z) = ofBV (Spec.Md4.F x y z) ∧
    md4_g (ofBV x) (ofBV y) (ofBV z) = ofBV (Spec.Md4.G x y z) ∧
    md4_h (ofBV x) (ofBV y) (ofBV z) = ofBV (Spec.Md4.H x y z) :=
  ⟨RoundFns.md4_f_ofBV x y z, RoundFns.md4_g_ofBV x y z, RoundFns.md4_h_ofBV x y z⟩
theorem md5_fghi_eq (x y z : BitVec 32) :
    md5_f (ofBV x) (ofBV y) (ofBV z) = ofBV (Spec.Md5.F x y z) ∧
    md5_g (ofBV x) (ofBV y) (ofBV z) = ofBV (Spec.Md5.G x y z) ∧
    md5_h (ofBV x) (ofBV y) (ofBV z) = ofBV (Spec.Md5.H x y z) ∧
    md5_i (ofBV x) (ofBV y) (ofBV z) = ofBV (Spec.Md5.I x y z) :=
  ⟨RoundFns.md5_f_ofBV x y z, RoundFns.md5_g_ofBV x y z, RoundFns.md5_h_ofBV x y z, RoundFns.md5_i_ofBV x y z⟩

/-- **parse_refines** (SHA): `struct.unpack('>16L'|'>16Q',B)` + `Bits(w,wsize)` = sixteen big-endian words -/
theorem parse_refines_be (w : Nat) (hw : 8 ≤ w) (blk : List Spec.Byte) (h : blk.length = 16 * (w / 8)) :
    Sha.parseBE w (toNatBytes blk) = .ok ((Spec.wordsBE w blk).map ofBV) := parseBE_refines w hw blk h
/-- **parse_refines** (MD): `Bits(B,bitorder=1).split(32)` = sixteen little-endian words -/
theorem parse_refines_le (blk : List Spec.Byte) (h : blk.length = 64) :
    Md.parseLE (toNatBytes blk) = .ok ((Spec.wordsLE 32 blk).map ofBV) := Md.parseLE_refines blk h

/-! ## compression -/

theorem md4_compress_refines (H : Spec.Md4.State) (blk : List Spec.Byte) (hb : blk.length = 64) :
    Model.Md.md4Compress (Md.embH H) (toNatBytes blk) = .ok (Md.embH (Spec.Md4.compress H blk)) :=
  Md4.compress_refines H blk hb
theorem md5_compress_refines (H : Spec.Md5.State) (blk : List Spec.Byte) (hb : blk.length = 64) :
    Model.Md.md5Compress (Md.embH H) (toNatBytes blk) = .ok (Md.embH (Spec.Md5.compress H blk)) :=
  Md5.compress_refines H blk hb
/-- version 0 = SHA-0 (no schedule rotation), version 1 = SHA-1 -/
theorem sha1_compress_refines (v : Nat) (hv : v = 0 ∨ v = 1) (H : Spec.Sha1.State) (blk : List Spec.Byte)
    (hb : blk.length = 64) :
    Sha.sha1Compress v (Sha1.embH H) (toNatBytes blk) = .ok (Sha1.embH (Spec.Sha1.compress v H blk)) :=
  Sha1.compress_refines v (by omega) H blk hb
theorem sha256_compress_refines (c : Sha.Sha2Cfg) (h1 : c.wsize = 32) (h2 : ¬ c.size > 256) (H : Spec.Sha2.State 32)
    (blk : List Spec.Byte) (hb : blk.length = 64) :
    Sha.sha2Compress c (Sha2.embH H) (toNatBytes blk) = .ok (Sha2.embH (Spec.Sha2.compress Spec.Sha2.fam256 H blk)) :=
  Sha2.compress_refines (Sha2.link32 c h1 h2) (by decide) H blk hb
theorem sha512_compress_refines (c : Sha.Sha2Cfg) (h1 : c.wsize = 64) (h2 : c.size > 256) (H : Spec.Sha2.State 64)
    (blk : List Spec.Byte) (hb : blk.length = 128) :
    Sha.sha2Compress c (Sha2.embH H) (toNatBytes blk) = .ok (Sha2.embH (Spec.Sha2.compress Spec.Sha2.fam512 H blk)) :=
  Sha2.compress_refines (Sha2.link64 c h1 h2) (by decide) H blk hb

/-! ## padding, composition, end to end -/

/-- every byte string the model is called with (values below 256) is `toNatBytes` of a specification byte string -/
theorem bytes_are_embedded (m : List Nat) (h : ∀ x ∈ m, x < 256) : ∃ M : List Spec.Byte, m = toNatBytes M :=
  ⟨_, (toNatBytes_ofNat m h).symm⟩

/-- **padding equality** (MD/SHA length strengthening; `bigend = true` SHA, `false` MD): in a final call on an object
    that is not yet padded and has absorbed whole blocks, no exception is raised and the padding iterator yields exactly
    the blocks of  bits ‖ 1 ‖ 0…0 ‖ length  of the standard. -/
theorem padding_equality {σ : Type} (p : Padder) (w : Nat) (bigend : Bool)
    (hlb : ∀ st m kw, p.lastblock st m kw = p.mdLike st m kw w 1 none bigend)
    (bl ll : Nat) (hB : p.blocksize = 8 * bl) (hbl : 0 < bl) (hw : w * 2 = 8 * ll) (hfit : w * 2 + 1 ≤ p.blocksize)
    (h : Spec.MDHash σ) (h1 : h.blockLen = bl) (h2 : h.lenLen = ll)
    (h3 : ∀ l, toNatBytes (h.encLen l) = (Bits.ofNatSz l (w * 2)).pack bigend) (h4 : ∀ l, (h.encLen l).length = ll)
    (st : PadState) (hpf : st.padflag = false) (hdone : st.bitcnt % p.blocksize = 0)
    (M : List Spec.Byte) (kw : Option Nat) (hkw : ∀ l, kw = some l → l ≤ 8 * M.length) :
    (p.iterblocks st (toNatBytes M) kw true).err = none ∧
    (p.iterblocks st (toNatBytes M) kw true).yields.map (·.1) =
      (Spec.groups bl (h.padFrom st.bitcnt ((Spec.bytesToBits M).take (kw.getD (8 * M.length))))).map toNatBytes :=
  PadOk.padOk_core p w bigend hlb bl ll hB hbl hw hfit h h1 h2 h3 h4 st hpf hdone M kw hkw

/-- **the generic Merkle–Damgård composition lemma** (its ten instances: `EndToEnd.alg_cases`): IV, compression and
    serialisation refine the standard's + the yielded blocks are the standard's padded blocks ⇒ the one-shot call
    returns the standard's hash -/
theorem merkle_damgard_composition {σ : Type} {c : HashCore} {h : Spec.MDHash σ} {emb : σ → List Bits}
    (R : Refines c h emb) (M : List Spec.Byte) (L : Option Nat) (bits : List Bool) (hp : PadOk c h {} 0 M L bits) :
    c.hash (toNatBytes M) L = .ok (toNatBytes (h.hash bits)) :=
  hash_of_refines R M L bits hp

/-- **hash_refines.**  The one-shot call `h(M,L)` of the library's object returns exactly the digest RFC 1320 / RFC 1321 /
    FIPS 180-4 define for the first L bits of M. -/
theorem hash_refines (alg : Model.Alg) (M : List Spec.Byte) (L : Nat) (_h0 : 0 < L) (hL : L ≤ 8 * M.length) :
    Model.hash alg (toNatBytes M) (some L) = .ok (toNatBytes (Spec.hash (toSpec alg) (Spec.takeBits L M))) :=
  hash_eq alg M (some L) (fun l hl => by cases hl; exact hL)

/-- …and with the bit length omitted (L = 8|M|): the digest of the whole byte string, the empty string included -/
theorem hash_refines_omitted (alg : Model.Alg) (M : List Spec.Byte) :
    Model.hash alg (toNatBytes M) none = .ok (toNatBytes (Spec.hash (toSpec alg) (Spec.bytesToBits M))) :=
  hash_eq_none alg M

/-- **digest_length**: every accepted call returns a digest of exactly the advertised length -/
theorem digest_length (alg : Model.Alg) (M : List Spec.Byte) (L : Option Nat) (hL : ∀ l, L = some l → l ≤ 8 * M.length) :
    ∃ d, Model.hash alg (toNatBytes M) L = .ok d ∧ d.length = alg.outlen := by
  refine ⟨_, hash_eq alg M L hL, ?_⟩
  rw [toNatBytes_length, spec_length]

/-- **streamed_bitlen_too_large**: `update(M, bitlen=L, padding=…)` with a bit length larger than the data supplied IN
    THAT CALL is refused from any object state (the bits fed by earlier `update` calls do not count) and leaves the object
    as it was.  It is the padding iterator's refusal (`Proofs.C09.refuse_bitlen_beyond`) seen through the `for` loop of
    `update`. -/
theorem streamed_bitlen_too_large (c : HashCore) (o : HashObj) (M : List Nat) (L : Nat) (padding : Bool)
    (hL : L > 8 * M.length) :
    (∃ e, (c.update o M (some L) padding).2 = .error e) ∧ (c.update o M (some L) padding).1 = o := by
  obtain ⟨hy, he, hf⟩ := Proofs.C09.refuse_bitlen_beyond c.padder o.pad M L padding hL
  obtain ⟨e, hee⟩ := Option.isSome_iff_exists.mp he
  refine ⟨⟨e, ?_⟩, ?_⟩ <;> simp only [HashCore.update, hy, HashCore.absorb, hee, hf]

/-- **bitlen_too_large**: a bit length larger than the supplied data is rejected with an error -/
theorem bitlen_too_large (alg : Model.Alg) (M : List Nat) (L : Nat) (hL : L > 8 * M.length) :
    ∃ e, Model.hash alg M (some L) = .error e := by
  obtain ⟨c, hc, _⟩ := alg_cases alg
  rw [Model.hash, hc]
  exact (streamed_bitlen_too_large c c.initstate M L true hL).1

/-- …for the objects of the library: after `initstate(); update(p1); …; update(pk)` with block-aligned pieces (any number
    of blocks fed) the final `update(q, bitlen=L, padding=True)` with L > 8|q| is refused — also when L ≤ bits fed + 8|q| -/
theorem streamed_bitlen_too_large_after_pieces (alg : Model.Alg) (c : HashCore) (_hc : alg.new = .ok c)
    (pieces : List (List Nat)) (q : List Nat) (L : Nat) (hL : L > 8 * q.length) :
    ∃ e, (c.update (pieces.foldl (fun o P => (c.update o P none false).1) c.initstate) q (some L) true).2 = .error e :=
  (streamed_bitlen_too_large c _ q L true hL).1

/-- **final_update_refines**: a final `update(M,bitlen,padding=True)` on an object that holds a standard chaining value
    `s` and whose counter says that `st.bitcnt` bits (whole blocks, any number — in particular more than 2^32 or 2^64)
    were absorbed returns the standard's digest continued from `s`: the tail padded with the *total* length
    `st.bitcnt + L` in the length field.  (`hash_refines` is the case s = IV, counter 0.) -/
theorem final_update_refines (alg : Model.Alg) :
    ∃ (c : HashCore) (σ : Type) (h : Spec.MDHash σ) (emb : σ → List Bits),
      alg.new = .ok c ∧ Spec.hash (toSpec alg) = h.hash ∧ c.iv = emb h.init ∧
      ∀ (s : σ) (st : PadState), st.padflag = false → st.bitcnt % (8 * alg.blocklen) = 0 →
        ∀ (M : List Spec.Byte) (kw : Option Nat), (∀ l, kw = some l → l ≤ 8 * M.length) →
          (c.update ⟨emb s, st⟩ (toNatBytes M) kw true).2
            = .ok (toNatBytes (h.hashFrom s st.bitcnt ((Spec.bytesToBits M).take (kw.getD (8 * M.length))))) := by
  obtain ⟨c, hc, σ, h, emb, w, B, ll, bigend, R, F, hs⟩ := EndToEnd.alg_cases alg
  refine ⟨c, σ, h, emb, hc, hs, R.iv, ?_⟩
  intro s st hpf hdone M kw hkw
  exact Streaming.update_final_of_framing R F s st hpf (by rw [F.hB]; exact hdone) M kw hkw

/-! ## one object, several messages -/

/-- **call_forgets_the_object.**  `h(M,bitlen)` on an object in any state (after earlier calls, refused calls, streaming
    updates left dangling) returns what the one-shot call on a new object returns and leaves the object as a new one would
    be left: `__call__` starts with `initstate()`, which rebuilds `H` and the padding object. -/
theorem call_forgets_the_object (alg : Model.Alg) (c : HashCore) (hc : alg.new = .ok c) (o : HashObj)
    (M : List Nat) (L : Option Nat) :
    (c.call o M L).2 = Model.hash alg M L ∧ c.call o M L = c.call c.initstate M L :=
  ⟨call_eq_hash alg c hc o M L, rfl⟩

/-- **second_call_refines** (what the `hashcalls` lines of the correspondence stream test): after a first call `h(M1,L1)`
    (accepted or refused) or a streaming `update(M1,L1,padding)` left as it is, the call `h(M2,L2)` on the same object
    returns the standard's digest of the first L2 bits of M2 alone. -/
theorem second_call_refines (alg : Model.Alg) (c : HashCore) (hc : alg.new = .ok c) (o : HashObj)
    (M1 : List Nat) (L1 : Option Nat) (padding : Bool) (M2 : List Spec.Byte) (L2 : Nat) (h0 : 0 < L2) (hL : L2 ≤ 8 * M2.length) :
    (c.call (c.call o M1 L1).1 (toNatBytes M2) (some L2)).2 = .ok (toNatBytes (Spec.hash (toSpec alg) (Spec.takeBits L2 M2))) ∧
    (c.call (c.update o M1 L1 padding).1 (toNatBytes M2) (some L2)).2 = .ok (toNatBytes (Spec.hash (toSpec alg) (Spec.takeBits L2 M2))) :=
  ⟨((call_forgets_the_object alg c hc _ _ _).1).trans (hash_refines alg M2 L2 h0 hL),
   ((call_forgets_the_object alg c hc _ _ _).1).trans (hash_refines alg M2 L2 h0 hL)⟩

/-- …and with the bit length of the second call omitted -/
theorem second_call_refines_omitted (alg : Model.Alg) (c : HashCore) (hc : alg.new = .ok c) (o : HashObj) (M2 : List Spec.Byte) :
    (c.call o (toNatBytes M2) none).2 = .ok (toNatBytes (Spec.hash (toSpec alg) (Spec.bytesToBits M2))) :=
  ((call_forgets_the_object alg c hc _ _ _).1).trans (hash_refines_omitted alg M2)

/-! non-vacuity: the hypotheses are inhabited by non-trivial instances, and the specifications are not degenerate
    (FIPS 180-4 / RFC 1321 test vector "abc", evaluated in the kernel) -/
example : ∃ (M : List Spec.Byte) (L : Nat), 0 < L ∧ L ≤ 8 * M.length ∧ L % 8 ≠ 0 := ⟨[0xa5#8, 0x80#8], 9, by decide⟩
example : ∃ (M : List Nat) (L : Nat), L > 8 * M.length := ⟨[1, 2], 17, by decide⟩
/-- the streamed refusal is not vacuous: a length that would be in range if it counted from the first bit ever fed
    (512 bits fed + 24 bits of data ≥ 32) but exceeds the data of the call -/
example : ∃ (fed : Nat) (M : List Nat) (L : Nat), L > 8 * M.length ∧ L ≤ fed + 8 * M.length := ⟨512, [0x61, 0x62, 0x63], 32, by decide⟩
example : toNatBytes (Spec.hash .sha256 (Spec.bytesToBits [0x61#8, 0x62#8, 0x63#8])) =
    [0xba, 0x78, 0x16, 0xbf, 0x8f, 0x01, 0xcf, 0xea, 0x41, 0x41, 0x40, 0xde, 0x5d, 0xae, 0x22, 0x23,
     0xb0, 0x03, 0x61, 0xa3, 0x96, 0x17, 0x7a, 0x9c, 0xb4, 0x10, 0xff, 0x61, 0xf2, 0x00, 0x15, 0xad] := by
  rw [Spec.hash, Spec.Sha2.sha256, Spec.MDHash.hash, Spec.MDHash.hashFrom, SpecList.padFrom_bytes _ 0 _ (by decide)]
  decide +kernel
example : toNatBytes (Spec.hash .md5 (Spec.bytesToBits [0x61#8, 0x62#8, 0x63#8])) =
    [0x90, 0x01, 0x50, 0x98, 0x3c, 0xd2, 0x4f, 0xb0, 0xd6, 0x96, 0x3f, 0x7d, 0x28, 0xe1, 0x7f, 0x72] := by
  rw [Spec.hash, Spec.Md5.md5, Spec.MDHash.hash, Spec.MDHash.hashFrom, SpecList.padFrom_bytes _ 0 _ (by decide)]
  decide +kernel
/-- the object states `call_forgets_the_object` quantifies over include non-initial ones that really occur: after
    `MD5()(b"abc")` the object is padded and its counter stands at 24 bits (the state a padding object that is not rebuilt
    would carry into the next message), and every algorithm has a constructor result to apply the theorem to -/
example : (Md.md5Core.call Md.md5Core.initstate [0x61, 0x62, 0x63] none).1.pad = { padflag := true, bitcnt := 24, padcnt := 0 } ∧
    (Md.md5Core.call Md.md5Core.initstate [0x61, 0x62, 0x63] none).1 ≠ Md.md5Core.initstate := by
  have h : (Md.md5Core.call Md.md5Core.initstate [0x61, 0x62, 0x63] none).1.pad = { padflag := true, bitcnt := 24, padcnt := 0 } := by
    decide +kernel
  refine ⟨h, fun e => ?_⟩
  rw [e] at h
  exact absurd h (by decide)
example : ∀ alg : Model.Alg, ∃ c, alg.new = .ok c := fun alg => by
  obtain ⟨c, hc, _⟩ := EndToEnd.alg_cases alg
  exact ⟨c, hc⟩

end Proofs.C01
