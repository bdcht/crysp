/-
  C14 (Nilsimsa part) — feeding a message piecewise gives the same digest as hashing it at once, for every byte cut.
-/
import Model.Nilsimsa
namespace Proofs.C14_Nilsimsa
open Model Model.Nilsimsa

theorem update_append (tran : List Nat) (s : St) (a b : List Nat) :
    update tran (update tran s a) b = update tran s (a ++ b) := by
  simp [update, List.foldl_append]

theorem update_pieces (tran : List Nat) (s : St) (pieces : List (List Nat)) :
    pieces.foldl (update tran) s = update tran s pieces.flatten :=
  List.foldl_flatten.symm

/-- `Nilsimsa(t).update(p1)….update(pk).digest() == Nilsimsa(t)(p1|…|pk)` -/
theorem seq_eq_oneshot (target : Nat) (pieces : List (List Nat)) :
    nilsimsaSeq target pieces = nilsimsa target pieces.flatten := by
  simp [nilsimsaSeq, nilsimsa, update_pieces]

theorem cut_eq_oneshot (target : Nat) (a b : List Nat) :
    nilsimsaSeq target [a, b] = nilsimsa target (a ++ b) := by
  simpa using seq_eq_oneshot target [a, b]

theorem count_after_pieces (tran : List Nat) (s : St) (data : List Nat) :
    (update tran s data).count = s.count + data.length := by
  induction data generalizing s with
  | nil => simp [update]
  | cons x xs ih =>
    have : update tran s (x :: xs) = update tran (step tran s x) xs := rfl
    rw [this, ih]; simp [step]; omega

/-- `digest()` ends with `self.reset()`: byte counter, accumulators AND the four-byte window are those of a new object -/
theorem digest_resets (s : St) : (digestObj s).2 = St.init := rfl

/-- `Nilsimsa.__call__` on an object in ANY state -/
theorem call_eq_oneshot (target : Nat) (s : St) (data : List Nat) :
    callObj (maketran target) s data = (nilsimsa target data, St.init) := rfl

/-- ONE object used for several messages in a row, each fed piecewise and finished by `digest()`.  Starting from
    `St.init` covers every earlier use that ended in `digest()` / `reset()` / a call (`digest_resets`, `call_eq_oneshot`). -/
theorem reuse_eq_oneshot (target : Nat) (msgs : List (List (List Nat))) :
    (runMsgs (maketran target) St.init msgs).1 = msgs.map fun pieces => nilsimsa target pieces.flatten := by
  induction msgs with
  | nil => rfl
  | cons m ms ih =>
    simp only [runMsgs, digestObj, List.map_cons, ih]
    rw [update_pieces]; rfl

theorem reuse_after_digest (target : Nat) (s : St) (msgs : List (List (List Nat))) :
    (runMsgs (maketran target) (digestObj s).2 msgs).1 = msgs.map fun pieces => nilsimsa target pieces.flatten :=
  reuse_eq_oneshot target msgs

/-- the steps of the `nilsimsa.seqs` lines: `u` pieces then `d` -/
theorem steps_eq_oneshot (target : Nat) (pieces : List (List Nat)) :
    stepOp (maketran target) (pieces.foldl (fun s p => (stepOp (maketran target) s (.u p)).1) St.init) .d
      = (St.init, some (nilsimsa target pieces.flatten)) := by
  simp only [stepOp, digestObj, nilsimsa]
  rw [update_pieces]

example : (runMsgs (maketran 53) St.init [[[1, 2, 3], [4]], [[], [9, 8, 7, 6, 5]]]).1
    = [nilsimsa 53 [1, 2, 3, 4], nilsimsa 53 [9, 8, 7, 6, 5]] := reuse_eq_oneshot 53 _

example : nilsimsaSeq 53 [[1, 2, 3], [], [4, 5, 6, 7]] = nilsimsa 53 [1, 2, 3, 4, 5, 6, 7] := seq_eq_oneshot 53 _

end Proofs.C14_Nilsimsa
