/-
  C12 — Skein hash, MAC and tree hash equal the Skein 1.3 specification.

  Model.Skein mirrors crysp/skein.py (after the `fix:` commits) on Model.Bits / Model.Threefish; Spec.Skein is the
  specification on byte lists and natural-number tweaks over Spec.Threefish.
  `IsBytes s` (every element < 256) is what a Python `bytes` object is; `bitsOf M bitlen` is the bit length a call denotes
  (`bitlen`, or 8·|M| when it is None); lengths below 2^96 bytes are the specification's own limit for UBI inputs.
-/
import Proofs.Lemmas.SkTree
namespace Proofs.C12
open Model Proofs.Lemmas Proofs.Lemmas.TfBytes Proofs.Lemmas.SkUbi Proofs.Lemmas.SkHash
open Spec.Threefish (toBytes)

/-- the type codes of the `Type` setter are Table 6 of Skein 1.3 -/
theorem type_codes :
    Skein.typeCode "key" = .ok Spec.Skein.Tkey ∧ Skein.typeCode "cfg" = .ok Spec.Skein.Tcfg ∧
    Skein.typeCode "prs" = .ok Spec.Skein.Tprs ∧ Skein.typeCode "PK" = .ok Spec.Skein.TPK ∧
    Skein.typeCode "kdf" = .ok Spec.Skein.Tkdf ∧ Skein.typeCode "non" = .ok Spec.Skein.Tnon ∧
    Skein.typeCode "msg" = .ok Spec.Skein.Tmsg ∧ Skein.typeCode "out" = .ok Spec.Skein.Tout := by
  exact ⟨rfl, rfl, rfl, rfl, rfl, rfl, rfl, rfl⟩

/-- the (a,b) bit ranges of the Tweak properties: Position, TreeLevel, BitPad, Type, First, Final -/
def tweakFields : List (Nat × Nat) := [(0, 96), (112, 119), (119, 120), (120, 126), (126, 127), (127, 128)]

/-- Tweak setters touch exactly their field: for every 128-bit tweak value and every value that fits the field, the slice
    assignment `self[a:b] = v` succeeds, keeps the size, the getter `self[a:b].int()` then returns v, and every bit
    outside [a,b) is unchanged (so every other field reads as before). -/
theorem tweak_fields (T v a b : Nat) (hf : (a, b) ∈ tweakFields) (hT : T < 2 ^ 128) (hv : v < 2 ^ (b - a)) :
    ∃ T', Skein.setField ⟨T, 128⟩ a b v = .ok ⟨T', 128⟩ ∧ T' < 2 ^ 128 ∧ Skein.getField ⟨T', 128⟩ a b = .ok v ∧
      ∀ j, (j < a ∨ b ≤ j) → T'.testBit j = T.testBit j := by
  have hab : ∀ f ∈ tweakFields, f.1 < f.2 ∧ f.2 ≤ 128 := by decide
  obtain ⟨hab, hb⟩ := hab (a, b) hf
  exact SkTweak.setField_frame T 128 v a b hab hb hT hv

/-- the bit padding of `UBI.iterblocks` (bitstream load through reverse_byte, truncation, appended one bit, write back)
    is the specification's rule, for every message and every bit length L ≤ 8|M| (all L mod 8) -/
theorem bitpad_refines (M : List Nat) (hM : IsBytes M) (bitlen : Option Nat) (hL : bitsOf M bitlen ≤ 8 * M.length) :
    Skein.bitPadded M bitlen = .ok (Spec.Skein.bitPad M (bitsOf M bitlen)) :=
  bitPadded_spec M hM bitlen hL

/-- `UBI.iterblocks`: the yielded (tweak, block) pairs are exactly the specification's blocks M_i with the tweaks
    Ts + min(NM,(i+1)Nb) + a_i 2^126 + b_i (B 2^119 + 2^127): position accounting for every start tweak whose position
    cannot overflow (start positions near 2^64 / 2^96 included), First only on the first, Final/BitPad only on the last -/
theorem iterblocks_refines (lb : Nat) (hlb : lb = 32 ∨ lb = 64 ∨ lb = 128) (Ts : Nat) (M : List Nat) (bitlen : Option Nat)
    (hM : IsBytes M) (hL : bitsOf M bitlen ≤ 8 * M.length) (hpre : Spec.Skein.ubiPre M Ts = true) :
    Skein.iterblocks lb ⟨Ts, 128⟩ M bitlen =
      .ok (specBlocks lb Ts (Spec.Skein.bitPad M (bitsOf M bitlen)).1 (Spec.Skein.bitPad M (bitsOf M bitlen)).2) := by
  obtain ⟨_, w2, w3⟩ := bitPad_wf M hM _ hL
  obtain ⟨h1, h2, h3, h4, h5⟩ := (ubiPre_iff M Ts).1 hpre
  have := iterblocks_eq lb (by omega) (SkTweak.Tw.of_ok Ts) h2 h3 h4 M bitlen _ _ (bitPadded_spec M hM bitlen hL) w3
    (Nat.lt_of_le_of_lt (Nat.add_le_add_left w2 _) h5)
  rwa [SkTweak.Tw.bits_of h1, SkTweak.Tw.of_val h1] at this

/-- UBI(Threefish,G,Ts)(M,bitlen) = UBI(G,M,Ts) of Skein 1.3 for every chaining value G of 32/64/128 bytes, every message,
    every bit length and every start tweak satisfying the specification's preconditions (flags clear, position + |M| < 2^96) -/
theorem ubi_refines (G M : List Nat) (bitlen : Option Nat) (Ts : Nat) (hG : IsBytes G) (hM : IsBytes M)
    (hGl : G.length = 32 ∨ G.length = 64 ∨ G.length = 128) (hL : bitsOf M bitlen ≤ 8 * M.length)
    (hpre : Spec.Skein.ubiPre M Ts = true) :
    Skein.ubi G ⟨Ts, 128⟩ M bitlen = .ok (Spec.Skein.ubi G M (bitsOf M bitlen) Ts) := by
  obtain ⟨h1, h2, h3, h4, h5⟩ := (ubiPre_iff M Ts).1 hpre
  have := (ubi_eq hGl bitlen (SkTweak.Tw.of_ok Ts) h2 h3 h4 ⟨hG, rfl⟩ hM hL h5).1
  rwa [SkTweak.Tw.bits_of h1, SkTweak.Tw.of_val h1] at this

/-- a start tweak with a flag set, or whose position could overflow, is rejected -/
theorem ubi_rejects (G M : List Nat) (bitlen : Option Nat) (Ts : Nat) (hTs : Ts < 2 ^ 128)
    (hpre : Spec.Skein.ubiPre M Ts = false) : ∃ e, Skein.ubi G ⟨Ts, 128⟩ M bitlen = .error e :=
  SkUbi.ubi_rejects G M bitlen Ts hTs hpre

/-- the configuration string built by the constructor is the 32-byte C of section 3.5.2 -/
theorem cfg_refines (Nb No Yl Yf Ym : Nat) (key prs PK kdf non : Option (List Nat)) (c : Skein.Cfg)
    (h : Skein.mk Nb No Yl Yf Ym key prs PK kdf non = .ok c) :
    c.C = Spec.Skein.cfgString No Yl Yf Ym ∧ c.Nb = Nb / 8 ∧ (Nb = 256 ∨ Nb = 512 ∨ Nb = 1024) := by
  obtain ⟨h1, h5⟩ := cfg_eq Nb No Yl Yf Ym key prs PK kdf non c h
  subst h5
  exact ⟨rfl, rfl, h1⟩

/-- the output function `output(G)` = Output(G,No): counter-mode UBI blocks with a fresh 'out' tweak each, first ⌈No/8⌉ bytes -/
theorem output_refines (c : Skein.Cfg) (G : List Nat) (hG : IsBytes G) (hGl : G.length = 32 ∨ G.length = 64 ∨ G.length = 128) :
    Skein.output c G = .ok (Spec.Skein.output G c.No) :=
  (output_eq hGl c ⟨hG, rfl⟩).1

/-- Skein(Nb,No,key,prs,PK,kdf,nonce)(M,bitlen) = Skein 1.3 (hash and MAC, no tree), for the three state sizes, EVERY output
    length No (also beyond one block), every message and bit length L ≤ 8|M|, key absent / empty / any length, and every
    personalisation, public key, key-derivation identifier and nonce (None and b'' both mean "absent") -/
theorem skein_refines (Nb No : Nat) (key prs PK kdf non : Option (List Nat)) (M : List Nat) (bitlen : Option Nat)
    (hNb : Nb = 256 ∨ Nb = 512 ∨ Nb = 1024) (hM : IsBytes M) (hMl : M.length < 2 ^ 96) (hL : bitsOf M bitlen ≤ 8 * M.length)
    (hk : OptOk key) (hp : OptOk prs) (hP : OptOk PK) (hd : OptOk kdf) (hn : OptOk non) :
    (Skein.hash Nb No 0 0 0 key prs PK kdf non M bitlen).toOption =
      Spec.Skein.skein Nb No (key.getD []) (prs.getD []) (PK.getD []) (kdf.getD []) (non.getD []) 0 0 0 M (bitsOf M bitlen) := by
  rw [(hash_plain Nb No key prs PK kdf non M bitlen hNb hM hMl hL hk hp hP hd hn).1,
    spec_skein Nb No _ _ _ _ _ M _ 0 0 0 ((paramsOk_iff Nb 0 0 0).2 ⟨hNb, Or.inl ⟨rfl, rfl, rfl⟩⟩), if_pos ⟨rfl, rfl, rfl⟩]
  rfl

/-- every parameter set outside the specification (state size, a Y value above 255, tree parameters neither all zero nor
    Yl,Yf ≥ 1 and Ym ≥ 2) is rejected for every message and key, and is undefined in the specification -/
theorem skein_rejects_params (Nb No Yl Yf Ym : Nat) (key prs PK kdf non : Option (List Nat)) (M : List Nat) (bitlen : Option Nat)
    (hbad : Spec.Skein.paramsOk Nb Yl Yf Ym = false) :
    (∃ e, Skein.hash Nb No Yl Yf Ym key prs PK kdf non M bitlen = .error e) ∧
    Spec.Skein.skein Nb No (key.getD []) (prs.getD []) (PK.getD []) (kdf.getD []) (non.getD []) Yl Yf Ym M (bitsOf M bitlen) = none :=
  SkTree.hash_bad_params Nb No Yl Yf Ym key prs PK kdf non M bitlen hbad

/-- a state size other than 256/512/1024 is rejected (and undefined in the specification) -/
theorem skein_rejects_Nb (Nb No Yl Yf Ym : Nat) (key prs PK kdf non : Option (List Nat)) (M : List Nat) (bitlen : Option Nat)
    (hNb : ¬ (Nb = 256 ∨ Nb = 512 ∨ Nb = 1024)) :
    (∃ e, Skein.hash Nb No Yl Yf Ym key prs PK kdf non M bitlen = .error e) ∧
    Spec.Skein.skein Nb No (key.getD []) (prs.getD []) (PK.getD []) (kdf.getD []) (non.getD []) Yl Yf Ym M (bitsOf M bitlen) = none :=
  skein_rejects_params Nb No Yl Yf Ym key prs PK kdf non M bitlen
    (Bool.eq_false_iff.2 fun h => hNb ((paramsOk_iff Nb Yl Yf Ym).1 h).1)

theorem output_length (Nb No : Nat) (key prs PK kdf non : Option (List Nat)) (M : List Nat) (bitlen : Option Nat)
    (hNb : Nb = 256 ∨ Nb = 512 ∨ Nb = 1024) (hM : IsBytes M) (hMl : M.length < 2 ^ 96) (hL : bitsOf M bitlen ≤ 8 * M.length)
    (hk : OptOk key) (hp : OptOk prs) (hP : OptOk PK) (hd : OptOk kdf) (hn : OptOk non) :
    ∃ out, Skein.hash Nb No 0 0 0 key prs PK kdf non M bitlen = .ok out ∧ out.length = (No + 7) / 8 :=
  ⟨_, hash_plain Nb No key prs PK kdf non M bitlen hNb hM hMl hL hk hp hP hd hn⟩

/-- Skein with tree parameters = the specification's tree hash (3.5.6) followed by the output function, for all the
    specification admits: leaf size 2^Yl and fan-out 2^Yf (1 ≤ Yl,Yf ≤ 255), maximum height 2 ≤ Ym ≤ 255; the bit padding
    lands in the last leaf.  `hbound` is the specification's limit on UBI positions (96-bit position field).  The 7-bit
    TreeLevel field is never overrun: each level at least halves the data, so a message below 2^96 bytes ends below
    level 100 — part of the proof, not a hypothesis. -/
theorem tree_refines (Nb No Yl Yf Ym : Nat) (key prs PK kdf non : Option (List Nat)) (M : List Nat) (bitlen : Option Nat)
    (hNb : Nb = 256 ∨ Nb = 512 ∨ Nb = 1024) (h1 : 1 ≤ Yl) (h2 : 1 ≤ Yf) (h3 : 2 ≤ Ym) (hYl : Yl ≤ 255) (hYf : Yf ≤ 255) (hYm : Ym ≤ 255)
    (hM : IsBytes M) (hL : bitsOf M bitlen ≤ 8 * M.length)
    (hbound : M.length + Nb / 8 * 2 ^ Yl + Nb / 8 * 2 ^ Yf < 2 ^ 96)
    (hk : OptOk key) (hp : OptOk prs) (hP : OptOk PK) (hd : OptOk kdf) (hn : OptOk non) :
    (Skein.hash Nb No Yl Yf Ym key prs PK kdf non M bitlen).toOption =
      Spec.Skein.skein Nb No (key.getD []) (prs.getD []) (PK.getD []) (kdf.getD []) (non.getD []) Yl Yf Ym M (bitsOf M bitlen) := by
  rw [(SkTree.hash_tree Nb No Yl Yf Ym key prs PK kdf non M bitlen hNb h1 h2 h3 hYl hYf hYm hM hL hbound hk hp hP hd hn).1,
    spec_skein Nb No _ _ _ _ _ M _ Yl Yf Ym ((paramsOk_iff Nb Yl Yf Ym).2 ⟨hNb, Or.inr ⟨h1, h2, h3, hYl, hYf, hYm⟩⟩),
    if_neg (fun h => absurd h.1 (Nat.ne_of_gt h1))]
  rfl

theorem output_length_tree (Nb No Yl Yf Ym : Nat) (key prs PK kdf non : Option (List Nat)) (M : List Nat) (bitlen : Option Nat)
    (hNb : Nb = 256 ∨ Nb = 512 ∨ Nb = 1024) (h1 : 1 ≤ Yl) (h2 : 1 ≤ Yf) (h3 : 2 ≤ Ym) (hYl : Yl ≤ 255) (hYf : Yf ≤ 255) (hYm : Ym ≤ 255)
    (hM : IsBytes M) (hL : bitsOf M bitlen ≤ 8 * M.length)
    (hbound : M.length + Nb / 8 * 2 ^ Yl + Nb / 8 * 2 ^ Yf < 2 ^ 96)
    (hk : OptOk key) (hp : OptOk prs) (hP : OptOk PK) (hd : OptOk kdf) (hn : OptOk non) :
    ∃ out, Skein.hash Nb No Yl Yf Ym key prs PK kdf non M bitlen = .ok out ∧ out.length = (No + 7) / 8 :=
  ⟨_, SkTree.hash_tree Nb No Yl Yf Ym key prs PK kdf non M bitlen hNb h1 h2 h3 hYl hYf hYm hM hL hbound hk hp hP hd hn⟩

/-! ### non-vacuity -/

example : OptOk none ∧ OptOk (some []) ∧ OptOk (some [1, 2, 255]) := by
  refine ⟨⟨?_, by decide⟩, ⟨?_, by decide⟩, ⟨?_, by decide⟩⟩
  all_goals
    unfold IsBytes
    decide

example : Spec.Skein.ubiPre [1, 2, 3] (2 ^ 64 - 2 + Spec.Skein.Tmsg * 2 ^ 120) = true := by decide
example : bitsOf [0xff, 0x80] (some 9) ≤ 8 * [0xff, 0x80].length := by decide
example : (0, 96) ∈ tweakFields ∧ (126, 127) ∈ tweakFields := by decide
example : (List.replicate 1000 7).length + 256 / 8 * 2 ^ 2 + 256 / 8 * 2 ^ 3 < 2 ^ 96 := by rw [List.length_replicate]; decide

end Proofs.C12
