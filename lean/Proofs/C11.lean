/-
  C11 — BLAKE and BLAKE2 digests equal their specifications; per-block counter and finalization-flag rules.

  `ofBV x` is the model word (a `Model.Bits` of size w) denoting the specification word `x : BitVec w`;
  `Match c V` (Proofs/Lemmas/BlakeRefine, Blake2Refine) says that every datum the model configuration `c` takes from the
  regenerated `Model.Gen.BlakeG` equals the datum of the specification variant `V`.
-/
import Proofs.Lemmas.BlakeRefine
import Proofs.Lemmas.Blake2Refine
import Proofs.Lemmas.BlakeTrace
import Proofs.Lemmas.Blake2End
import Proofs.Lemmas.BlakeEnd
import Proofs.Lemmas.BlakeFull
import Proofs.Lemmas.BlakeStream
import Proofs.Lemmas.BlakeKat
namespace Proofs.C11
open Model Model.Gen Proofs.Lemmas Proofs.Lemmas.BlakeWords

/-- the permutation table of the current source is σ of the BLAKE submission and SIGMA of RFC 7693 -/
theorem sigma_eq_spec : BlakeG.sigma = Spec.Blake.sigma ∧ BlakeG.sigma = Spec.Blake2.sigma :=
  ⟨BlakeRefine.sigma_eq, BlakeRefine.sigma_eq⟩

/-- every sigma row is a permutation of 0..15 (all ten rows, complete check) -/
theorem sigma_rows_are_permutations :
    ∀ row ∈ BlakeG.sigma, ∀ j < 16, (row.filter (· = j)).length = 1 ∧ row.length = 16 := by
  decide +kernel

/-- BLAKE: constants, IVs, round counts, rotation amounts, word / block / digest sizes read from the live objects
    `Blake(224)`, `Blake(256)`, `Blake(384)`, `Blake(512)` are those of the submission -/
theorem blake_data_eq_spec :
    BlakeRefine.Match Blake.blake224 Spec.Blake.blake224 ∧ BlakeRefine.Match Blake.blake256 Spec.Blake.blake256 ∧
    BlakeRefine.Match Blake.blake384 Spec.Blake.blake384 ∧ BlakeRefine.Match Blake.blake512 Spec.Blake.blake512 :=
  ⟨BlakeEnd.pair_match (.inl ⟨rfl, rfl⟩), BlakeEnd.pair_match (.inr (.inl ⟨rfl, rfl⟩)),
    BlakeEnd.pair_match (.inr (.inr (.inl ⟨rfl, rfl⟩))), BlakeEnd.pair_match (.inr (.inr (.inr ⟨rfl, rfl⟩)))⟩

/-- BLAKE2: IV, round counts, rotation amounts, geometry of `Blake2(512)`, `Blake2(256)` are those of RFC 7693 -/
theorem blake2_data_eq_spec :
    Blake2Refine.Match Blake2.blake2b Spec.Blake2.blake2b ∧ Blake2Refine.Match Blake2.blake2s Spec.Blake2.blake2s :=
  ⟨Blake2End.pair_match (.inl ⟨rfl, rfl⟩), Blake2End.pair_match (.inr ⟨rfl, rfl⟩)⟩

/-- the 32-bit constants are the module's 64-bit π digits re-chunked (high half first), in the code and in the submission;
    the module's `PI` is the 64-bit constant table of the submission -/
theorem pi_constants_rechunked :
    BlakeG.c256 = (BlakeG.pi64.take 8).flatMap (fun x => [x / 2 ^ 32, x % 2 ^ 32]) ∧ BlakeG.c224 = BlakeG.c256 ∧
    BlakeG.c512 = BlakeG.pi64 ∧ BlakeG.c384 = BlakeG.pi64 ∧ BlakeG.pi64 = Spec.Blake.c64.map BitVec.toNat ∧
    Spec.Blake.c32 = (Spec.Blake.c64.take 8).flatMap (fun x => [x.extractLsb' 32 32, x.extractLsb' 0 32]) := by
  decide +kernel

/-- BLAKE2's IV is the SHA-2 IV (that of BLAKE-512 / BLAKE-256), in the specification and in the code -/
theorem blake2_iv_is_sha2_iv :
    Spec.Blake2.ivB = Spec.Blake.iv512 ∧ Spec.Blake2.ivS = Spec.Blake.iv256 ∧
    BlakeG.b2iv512 = BlakeG.iv512 ∧ BlakeG.b2iv256 = BlakeG.iv256 := by
  decide +kernel

/-- the G call schedule found in the source is columns then diagonals, as both specifications order them -/
theorem gschedule_eq_spec :
    BlakeG.gsched = (List.range 8).map (fun i => [i, (Spec.Blake.positions i).1, (Spec.Blake.positions i).2.1,
      (Spec.Blake.positions i).2.2.1, (Spec.Blake.positions i).2.2.2]) ∧ BlakeG.b2gsched = BlakeG.gsched :=
  ⟨BlakeRefine.gsched_eq_map, rfl⟩

/-- BLAKE: the i-th G call of a round of the model is G_i of the submission, for all words -/
theorem G_refines {c : Blake.Cfg} {V : Spec.Blake.Variant} (hm : BlakeRefine.Match c V)
    (W v : List (BitVec V.w)) (hW : W.length = 16) (hv : v.length = 16) (r i : Nat) (hi : i < 8) :
    Blake.gstep c (W.map ofBV) r (v.map ofBV) (BlakeG.gsched.getD i []) = (Spec.Blake.Gi V W r v i).map ofBV :=
  BlakeRefine.gstep_refines hm W v hW hv r i hi

/-- BLAKE2: the i-th G call of a round of the model is the i-th G call of RFC 7693, for all words -/
theorem G2_refines {c : Blake.Cfg} {V : Spec.Blake2.Variant} (hm : Blake2Refine.Match c V)
    (W v : List (BitVec V.w)) (hW : W.length = 16) (hv : v.length = 16) (r i : Nat) (hi : i < 8) :
    Blake2.gstep c (W.map ofBV) r (v.map ofBV) (BlakeG.b2gsched.getD i []) = (Spec.Blake2.Gi V W r v i).map ofBV :=
  Blake2Refine.gstep_refines hm W v hW hv r i hi

/-- BLAKE: the loop body of `Blake.update` is the compression function of the submission: for every chain value, salt,
    message block and counter (any `cnt`, also beyond 2^w and 2^2w: the low/high word split agrees) -/
theorem compress_refines {c : Blake.Cfg} {V : Spec.Blake.Variant} (hm : BlakeRefine.Match c V)
    (H salt W : List (BitVec V.w)) (hH : H.length = 8) (hs : salt.length = 4) (hW : W.length = 16) (cnt : Nat) :
    Blake.compress c (H.map ofBV) (salt.map ofBV) (W.map ofBV) cnt = (Spec.Blake.compress V H W salt cnt).map ofBV :=
  (BlakeRefine.compress_refines hm H salt W hH hs hW cnt).1

/-- BLAKE2: the loop body of `Blake2.update` is F of RFC 7693: for every chain value, block, byte counter and flag -/
theorem compress2_refines {c : Blake.Cfg} {V : Spec.Blake2.Variant} (hm : Blake2Refine.Match c V)
    (H W : List (BitVec V.w)) (hH : H.length = 8) (hW : W.length = 16) (t : Nat) (fin : Bool) :
    Blake2.compress c (H.map ofBV) (W.map ofBV) t fin = (Spec.Blake2.F V H W t fin).map ofBV :=
  (Blake2Refine.compress_refines hm H W hH hW t fin).1

example : ∃ (H salt W : List (BitVec Spec.Blake.blake256.w)), H.length = 8 ∧ salt.length = 4 ∧ W.length = 16 ∧ W ≠ List.replicate 16 0 :=
  ⟨List.replicate 8 1, List.replicate 4 2, List.replicate 16 3, by simp, by simp, by simp, by decide⟩

/-- BLAKE: the counter fed with the i-th block is the number of message bits hashed up to and including that block,
    `min(L,(i+1)·B)` on top of the bits fed before this call, and 0 for a block holding only padding; there are
    ⌈(L+2+2w)/B⌉ blocks.  For every size, every earlier counter value (so also across 2^w), every message and bit length. -/
theorem blake_counter (c : Blake.Cfg) (hc : c = Blake.blake224 ∨ c = Blake.blake256 ∨ c = Blake.blake384 ∨ c = Blake.blake512)
    (s : Blake.State) (hpf : s.pad.padflag = false) (M : List Nat) (bitlen : Option Nat)
    (hL : bitlen.getD (8 * M.length) ≤ 8 * M.length) :
    (Blake.trace c s M bitlen true).map (·.2) =
      (List.range ((bitlen.getD (8 * M.length) + 2 * c.wsize + 1 + c.blocksize) / c.blocksize)).map
        (fun i => if i * c.blocksize < bitlen.getD (8 * M.length)
          then s.pad.bitcnt + min (bitlen.getD (8 * M.length)) ((i + 1) * c.blocksize) else 0) := by
  simp only [Blake.trace, List.map_map]
  exact (BlakeTrace.blake_yields_core c.size _ _ (BlakeStream.blakeP_word c hc) rfl s.pad hpf M bitlen _ rfl hL).2

/-- non-vacuity for `blake_counter`: a fresh state, a preset state near 2^32, a bit length inside the message -/
example : (Blake.initstate Blake.blake256 5).pad.padflag = false ∧
    ({ Blake.initstate Blake.blake256 5 with pad := { bitcnt := 2 ^ 32 - 512 } } : Blake.State).pad.padflag = false ∧
    (some 13 : Option Nat).getD (8 * [1, 2, 3].length) ≤ 8 * [1, 2, 3].length := by decide

/-- BLAKE2: the byte counter fed with the i-th block is `min(|M|,(i+1)·bb)` on top of the bytes fed before this call
    (0 for the single zero block of an empty message); there are max(1,⌈|M|/bb⌉) blocks -/
theorem blake2_counter (c : Blake.Cfg) (hc : c = Blake2.blake2b ∨ c = Blake2.blake2s)
    (pad : PadState) (hpf : pad.padflag = false) (M : List Nat) :
    (Blake2.trace c pad M true).map (·.2.1) =
      (List.range (if M.length = 0 then 1 else (8 * M.length + c.blocksize - 1) / c.blocksize)).map
        (fun i => (if M.length = 0 then 0 else pad.bitcnt + min (8 * M.length) ((i + 1) * c.blocksize)) / 8) := by
  have h := congrArg (List.map (· / 8))
    (Padding.null_yields_core ⟨.null, c.blocksize⟩ rfl (BlakeStream.valid_null c hc) pad hpf M).2
  rw [List.map_map, List.map_map] at h
  rw [BlakeTrace.trace_counters]
  exact h

/-- BLAKE2: within a padding (final) call the finalization flag is set on the last block and on no other; a
    non-padding call (`update(M)` of a streamed message) sets it on no block.  For every state and message. -/
theorem final_flag_iff_last (c : Blake.Cfg) (pad : PadState) (M : List Nat) (padding : Bool) :
    (Blake2.trace c pad M padding).map (·.2.2) =
      (List.range (Blake2.trace c pad M padding).length).map
        (fun i => padding && i + 1 == (Blake2.trace c pad M padding).length) :=
  BlakeTrace.trace_flags c pad M padding

/-- the parameter block `Blake2.paramblock` builds from the keyword arguments is the layout of the BLAKE2 specification
    (digest length, key length 0, fanout, depth, leaf length, node offset on 8 / 6 bytes, node depth, inner length,
    14 reserved bytes for BLAKE2b, salt, personalization), for all parameters in range -/
theorem paramblock_layout {c : Blake.Cfg} {V : Spec.Blake2.Variant} (h : Blake2End.Pair c V)
    (sp : Spec.Blake2.Params) (hv : sp.valid V) :
    Blake2.paramBytes c sp.digestLength (Blake2End.toModel sp) sp.salt sp.personal = Spec.Blake2.paramBlock V sp :=
  Blake2End.paramBytes_eq h sp hv

/-- `initstate(**params)` starts the chain value as IV xor parameter block, with the per-call digest length -/
theorem blake2_init_refines {c : Blake.Cfg} {V : Spec.Blake2.Variant} (h : Blake2End.Pair c V)
    (sp : Spec.Blake2.Params) (hv : sp.valid V) :
    Blake2.initstate c (Blake2End.toModel sp) =
      .ok { H := (Spec.Blake2.init V sp).map ofBV, pad := {}, outlen := sp.digestLength, t := 0 } :=
  Blake2End.init_refines h sp hv

/-- BLAKE2b / BLAKE2s END TO END: for every byte string and all parameters in range (digest length 1..64/32, salt,
    personalization, fanout, depth, leaf length, node offset, node depth, inner length) the call of the model returns
    exactly the RFC 7693 digest.  (`Blake2End.toModel sp` are the keyword arguments denoting `sp`; `Pair c V` is
    (blake2b, BLAKE2b) or (blake2s, BLAKE2s).) -/
theorem blake2_refines {c : Blake.Cfg} {V : Spec.Blake2.Variant} (h : Blake2End.Pair c V)
    (sp : Spec.Blake2.Params) (hv : sp.valid V) (M : List Nat) (hM : ∀ b ∈ M, b < 256) :
    Blake2.call c M (Blake2End.toModel sp) = .ok (Spec.Blake2.hash V sp M) :=
  Blake2End.blake2_call_eq h sp hv M hM

/-- BLAKE2 THROUGH THE STREAMING INTERFACE: `initstate(**params); update(p1) … update(pk); update(final, padding=True)`
    with whole-block pieces (empty ones too) and a non-empty final piece returns the RFC 7693 digest of p1‖…‖pk‖final for
    the parameters given to THAT `initstate`: nothing but the configuration and the keyword arguments enters
    `Blake2.initstate`, so neither an earlier call on the object nor an earlier stream does.  (The empty final piece
    after data is the known finding of C14, outside this statement.) -/
theorem blake2_streamed_refines {c : Blake.Cfg} {V : Spec.Blake2.Variant} (h : Blake2End.Pair c V)
    (sp : Spec.Blake2.Params) (hv : sp.valid V) (pieces : List (List Nat))
    (hal : ∀ p ∈ pieces, p.length % (c.blocksize / 8) = 0) (final : List Nat) (hf : final ≠ [])
    (hM : ∀ b ∈ pieces.flatten ++ final, b < 256) :
    (Blake2.initstate c (Blake2End.toModel sp)).bind
        (fun s => (Blake2.update c (Blake2.feed c s pieces) final true).2)
      = .ok (Spec.Blake2.hash V sp (pieces.flatten ++ final)) := by
  have hcall := blake2_refines h sp hv (pieces.flatten ++ final) hM
  have hinit := blake2_init_refines h sp hv
  simp only [Blake2.call, bind, hinit, Except.bind] at hcall ⊢
  rw [(BlakeStream.blake2_feed c (Blake2End.pair_cfg h) pieces hal final hf _ rfl).1]
  exact hcall

/-- non-vacuity: two whole-block pieces (one of two blocks) and a short final piece, BLAKE2s -/
example : (∀ p ∈ [List.replicate 64 1, List.replicate 128 2], p.length % (Blake2.blake2s.blocksize / 8) = 0) ∧
    ([3, 4, 5] : List Nat) ≠ [] := by
  have h64 : Blake2.blake2s.blocksize / 8 = 64 := by decide
  refine ⟨?_, by simp⟩
  intro p hp
  simp only [List.mem_cons, List.not_mem_nil, or_false] at hp
  rcases hp with rfl | rfl <;> simp [h64]

theorem blake2_digest_length {c : Blake.Cfg} {V : Spec.Blake2.Variant} (h : Blake2End.Pair c V)
    (sp : Spec.Blake2.Params) (hv : sp.valid V) (M : List Nat) (hM : ∀ b ∈ M, b < 256) (d : List Nat)
    (hd : Blake2.call c M (Blake2End.toModel sp) = .ok d) : d.length = sp.digestLength := by
  rw [blake2_refines h sp hv M hM] at hd
  cases hd
  exact Blake2End.hash_length V (Blake2End.pair_word h) (Blake2End.pair_match h).ivlen sp hv M

/-- a digest length outside 1..wsize is refused (`assert 0<self.outlen<=self.wsize`) -/
theorem blake2_outlen_refused (c : Blake.Cfg) (p : Blake2.Params) (n : Nat) (hn : n = 0 ∨ c.wsize < n) (M : List Nat) :
    ∃ e, Blake2.call c M { p with outlen := some n } = .error e := by
  refine ⟨"AssertionError", ?_⟩
  unfold Blake2.call Blake2.initstate
  simp only [Option.getD_some]
  rw [if_pos (by omega)]
  rfl

/-- non-vacuity: the default parameters (sequential mode, full-length digest, zero salt / personalization) are valid -/
example : (⟨64, 1, 1, 0, 0, 0, 0, List.replicate 16 0, List.replicate 16 0⟩ : Spec.Blake2.Params).valid Spec.Blake2.blake2b := by
  simp [Spec.Blake2.Params.valid, Spec.Blake2.blake2b, Spec.Blake2.Variant.maxOut]
example : (⟨17, 2, 3, 1000, 5, 1, 9, List.replicate 8 255, List.replicate 8 7⟩ : Spec.Blake2.Params).valid Spec.Blake2.blake2s := by
  simp [Spec.Blake2.Params.valid, Spec.Blake2.blake2s, Spec.Blake2.Variant.maxOut]
example : Blake2End.Pair Blake2.blake2b Spec.Blake2.blake2b := Or.inl ⟨rfl, rfl⟩

/-- the padding rule of the BLAKE submission as written in Spec.Blake (1, zeros, marker bit, 2w-bit length) is the
    `blake` scheme of Spec.Padding, the one property C09 proves `Blakepadding.iterblocks` to emit -/
theorem blake_padding_is_c09_scheme {c : Blake.Cfg} {V : Spec.Blake.Variant} (h : BlakeEnd.Pair c V) (bits : List Bool) :
    bits ++ Spec.Blake.padding V bits.length
      = Spec.Padding.pad (.blake c.size) (Padder.blakeP c.size).blocksize bits :=
  BlakeFull.padding_eq h bits

/-- the blocks `Blakepadding.iterblocks` yields in a one-shot call, each read as sixteen big-endian words and compressed
    with the counter observed at its yield, are the submission's padded message cut into blocks with the submission's
    counters: for every chain value and salt words -/
theorem blake_blocks_refine {c : Blake.Cfg} {V : Spec.Blake.Variant} (h : BlakeEnd.Pair c V)
    (M : List Nat) (hM : ∀ b ∈ M, b < 256) (bitlen : Option Nat) (hL : bitlen.getD (8 * M.length) ≤ 8 * M.length)
    (H s : List (BitVec V.w)) :
    ((Padder.blakeP c.size).iterblocks {} M bitlen true).yields.foldl
        (fun h (y : List Nat × PadState) => Spec.Blake.compress V h (BlakeEnd.beWords V y.1) s y.2.bitcnt) H
      = Spec.Blake.finish V H s 0 (Spec.Blake.msgBits M (bitlen.getD (8 * M.length))) :=
  BlakeFull.fold_eq_finish_from h {} rfl (Nat.zero_mod _) M hM bitlen hL H s

/-- BLAKE-224/256/384/512 END TO END: for every byte string M, every salt and every bit length L ≤ 8|M| (or omitted:
    L = 8|M|) the call `Blake(n)(M,salt,bitlen)` of the model returns exactly the digest the BLAKE submission defines for
    the first L bits of M.  (`Pair c V` is (Blake(n), BLAKE-n) for n = 224, 256, 384, 512.) -/
theorem blake_refines {c : Blake.Cfg} {V : Spec.Blake.Variant} (h : BlakeEnd.Pair c V)
    (M : List Nat) (hM : ∀ b ∈ M, b < 256) (salt : Nat) (bitlen : Option Nat)
    (hL : bitlen.getD (8 * M.length) ≤ 8 * M.length) :
    Blake.call c M salt bitlen = .ok (Spec.Blake.hash V M (bitlen.getD (8 * M.length)) salt) :=
  BlakeFull.blake_call_hash h M hM salt bitlen hL

/-- BLAKE with a preset counter (histories; counters of any size, in particular across 2^w and 2^2w): a final
    `update(M,bitlen,padding=True)` on an object that holds a chain value `H`, salt words `sw`, and whose counter says that
    `st.bitcnt` bits (whole blocks, any number) were absorbed returns the submission's digest continued from there: the
    tail padded with the TOTAL length `st.bitcnt + L` in the length field, block counters `st.bitcnt + …`, 0 for a
    padding-only block.  (`blake_refines` is the case H = IV, counter 0.) -/
theorem blake_final_update_refines {c : Blake.Cfg} {V : Spec.Blake.Variant} (h : BlakeEnd.Pair c V)
    (H sw : List (BitVec V.w)) (hH : H.length = 8) (hs : sw.length = 4)
    (st : PadState) (hpf : st.padflag = false) (hdone : st.bitcnt % c.blocksize = 0)
    (M : List Nat) (hM : ∀ b ∈ M, b < 256) (bitlen : Option Nat) (hL : bitlen.getD (8 * M.length) ≤ 8 * M.length) :
    (Blake.update c ⟨H.map ofBV, sw.map ofBV, st⟩ M bitlen true).2
      = .ok (Spec.Blake.output V
          (Spec.Blake.finish V H sw st.bitcnt (Spec.Blake.msgBits M (bitlen.getD (8 * M.length))))) := by
  have hb := BlakeStream.blakeP_blocksize c (BlakeEnd.pair_cfg h)
  exact BlakeFull.blake_update_final h H sw hH hs st hpf (by rw [hb]; exact hdone) M hM bitlen hL

/-- non-vacuity for `blake_final_update_refines`: a counter just below 2^32 that is a whole number of blocks -/
example : ({ bitcnt := 2 ^ 32 - 512 } : PadState).padflag = false ∧ (2 ^ 32 - 512) % Blake.blake256.blocksize = 0 := by decide

/-- BLAKE: every call with a bit length within the message succeeds and returns exactly size/8 bytes -/
theorem blake_digest_length {c : Blake.Cfg} {V : Spec.Blake.Variant} (h : BlakeEnd.Pair c V)
    (M : List Nat) (salt : Nat) (bitlen : Option Nat) (hL : bitlen.getD (8 * M.length) ≤ 8 * M.length) :
    ∃ d, Blake.call c M salt bitlen = .ok d ∧ d.length = c.size / 8 :=
  ⟨_, BlakeEnd.blake_call_eq h M salt bitlen hL,
    BlakeEnd.blake_call_length h M salt bitlen hL _ (BlakeEnd.blake_call_eq h M salt bitlen hL)⟩

/-- a bit length beyond the message is refused; so is a size outside {224,256,384,512} -/
theorem blake_refusals (c : Blake.Cfg) (M : List Nat) (salt L n : Nat) (hL : 8 * M.length < L)
    (hn : n ≠ 224 ∧ n ≠ 256 ∧ n ≠ 384 ∧ n ≠ 512) :
    (∃ e, Blake.call c M salt (some L) = .error e) ∧ (∃ e, Blake.mk? n = .error e) := by
  constructor
  · obtain ⟨_, herr, _⟩ := Padding.iterblocks_refused (Padder.blakeP c.size) (Blake.initstate c salt).pad M (some L) true
      (Or.inr (Or.inl hL))
    obtain ⟨e, he⟩ := Option.isSome_iff_exists.mp herr
    exact ⟨e, by simp only [Blake.call, Blake.update, he]⟩
  · refine ⟨"AssertionError", ?_⟩
    simp [Blake.mk?, hn.1, hn.2.1, hn.2.2.1, hn.2.2.2]

example : BlakeEnd.Pair Blake.blake512 Spec.Blake.blake512 := Or.inr (Or.inr (Or.inr ⟨rfl, rfl⟩))
example : (some 13 : Option Nat).getD (8 * [1, 2, 3].length) ≤ 8 * [1, 2, 3].length := by decide
/-- the specification is not degenerate: the submission's test vector, BLAKE-256 of the one-byte message 00 -/
example : Spec.Blake.hash Spec.Blake.blake256 [0] 8 0 =
    [0x0C, 0xE8, 0xD4, 0xEF, 0x4D, 0xD7, 0xCD, 0x8D, 0x62, 0xDF, 0xDE, 0xD9, 0xD4, 0xED, 0xB0, 0xA7,
     0x74, 0xAE, 0x6A, 0x41, 0x92, 0x9A, 0x74, 0xDA, 0x23, 0x10, 0x9E, 0x8F, 0x11, 0x13, 0x9C, 0x87] :=
  BlakeKat.blake256_zero_byte

end Proofs.C11
