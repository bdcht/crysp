/-
  C16 — Poly: element-wise ring arithmetic, sequence indexing, consistent re-chunking.
  Conventions: `a.e i` is coefficient i of `a` (0 beyond the dimension, exactly like `SubPoly.e`), `a.size = k` is the ring
  Z/2^k (k = 0: the integers), `WF a` says every stored coefficient lies in [0,2^k) when k > 0.  Every constructor and
  every operation preserves WF, so WF is a fact about every Poly the library hands out.
-/
import Proofs.Lemmas.PolyL
import Proofs.Lemmas.PolyZ
namespace Proofs.C16
open Model Model.Poly Model.Py Proofs.PolyL Proofs.PolyZ

-- lets `decide` settle the concrete instances in the non-vacuity examples (the instance name stays inside this namespace)
deriving instance DecidableEq for Except

/-- `Poly(list,size,dim)` -/
theorem ofList_eq (l : List Int) (k d : Nat) : ofList l k d = ⟨Spec.Poly.fit d (Spec.Poly.norm k l), k⟩ := by
  unfold ofList Spec.Poly.fit
  by_cases hd : d = 0
  · simp only [hd, if_true]
    rfl
  · simp only [hd, if_false]
    exact congrArg (Poly.mk · k) (Lemmas.Fold.take_append_replicate _ d 0)

theorem ofList_WF (l : List Int) (k d : Nat) : (ofList l k d).WF := by
  rw [ofList_eq]
  exact fit_WF (WF_map_red l k id) d

theorem ofList_spec (l : List Int) (k d : Nat) :
    (ofList l k d).ival = Spec.Poly.fit d (Spec.Poly.norm k l) ∧ (ofList l k d).size = k ∧ (ofList l k d).WF :=
  ⟨congrArg Poly.ival (ofList_eq l k d), congrArg Poly.size (ofList_eq l k d), ofList_WF l k d⟩

/-- `Poly(int,size,dim)` -/
theorem ofInt_spec (v : Int) (k d : Nat) :
    (ofInt v k d).ival = Spec.Poly.fit d [Spec.Poly.norm1 k v] ∧ (ofInt v k d).size = k ∧ (ofInt v k d).WF :=
  ofList_spec [v] k d

/-- `Poly(bytes)` -/
theorem ofBytes_spec (s : List Nat) (d : Nat) (hs : ∀ b ∈ s, b < 256) :
    (ofBytes s d).ival = Spec.Poly.fit d (s.map Int.ofNat) ∧ (ofBytes s d).size = 8 ∧ (ofBytes s d).WF := by
  have hn : Spec.Poly.norm 8 (s.map Int.ofNat) = s.map Int.ofNat := by
    rw [Spec.Poly.norm, List.map_map]
    exact List.map_congr_left fun b hb => Nat.mod_eq_of_lt (hs b hb) ▸ red_natCast_mod (by decide) b
  exact hn ▸ ofList_spec (s.map Int.ofNat) 8 d

/-- `_zeros(d)` -/
theorem zeros_spec (k d : Nat) : (zeros k d).dim = d ∧ (zeros k d).size = k ∧ (zeros k d).WF ∧ ∀ i, (zeros k d).e i = 0 := by
  refine ⟨by simp [zeros, dim], rfl, ?_, ?_⟩
  · refine WF_iff.mpr fun x hx => ?_
    rw [List.eq_of_mem_replicate hx]
    exact red_val_zero k
  · intro i
    simp only [zeros, e, List.getD_eq_getElem?_getD, List.getElem?_replicate]
    split <;> rfl


/-! ## binary operators + − ^ & |

  Everything follows from `binop_coeff` (PolyL): coefficient i of `a op b` is `coeffOp op k a[i] b[i]`, for every ring
  k and every index i, a missing coefficient being 0. -/

/-- `assert self.size==rvalue.size` -/
theorem binop_defined (op : BinOp) (a b : Poly) : (∃ r, binop op a b = .ok r) ↔ a.size = b.size := by
  constructor
  · rintro ⟨r, h⟩; exact (binop_inv h).1
  · intro h; exact ⟨_, binop_ok h⟩

theorem binop_dim {op : BinOp} {a b r : Poly} (h : binop op a b = .ok r) :
    r.size = a.size ∧ r.dim = max a.dim b.dim := by
  obtain ⟨_, rfl⟩ := binop_inv h
  exact ⟨rfl, by simp [dim, Spec.Poly.pointwise]⟩

theorem add_coeff {a b r : Poly} (hk : 0 < a.size) (h : binop .add a b = .ok r) (i : Nat) :
    r.e i = (a.e i + b.e i) % (2:Int)^a.size :=
  (binop_coeff h i).trans (red_pos hk _)

theorem sub_coeff {a b r : Poly} (hk : 0 < a.size) (h : binop .sub a b = .ok r) (i : Nat) :
    r.e i = (a.e i - b.e i) % (2:Int)^a.size :=
  (binop_coeff h i).trans (red_pos hk _)

theorem add_coeff_Z {a b r : Poly} (hk : a.size = 0) (h : binop .add a b = .ok r) (i : Nat) :
    r.e i = a.e i + b.e i := by
  rw [binop_coeff h, hk]
  rfl

theorem sub_coeff_Z {a b r : Poly} (hk : a.size = 0) (h : binop .sub a b = .ok r) (i : Nat) :
    r.e i = a.e i - b.e i := by
  rw [binop_coeff h, hk]
  rfl

theorem add_coeff_nat {a b r : Poly} (hk : 0 < a.size) (ha : a.WF) (hb : b.WF)
    (h : binop .add a b = .ok r) (i : Nat) :
    (r.e i).toNat = ((a.e i).toNat + (b.e i).toNat) % 2^a.size := by
  have h1 := (WF_e ha hk rfl i).1
  have h2 := (WF_e hb hk (binop_inv h).1.symm i).1
  rw [add_coeff hk h, toNat_emod_pow _ _ (by omega), Int.toNat_add h1 h2]

theorem sub_coeff_nat {a b r : Poly} (hk : 0 < a.size) (ha : a.WF) (hb : b.WF)
    (h : binop .sub a b = .ok r) (i : Nat) :
    (r.e i).toNat = ((a.e i).toNat + (2^a.size - (b.e i).toNat)) % 2^a.size := by
  have h1 := (WF_e ha hk rfl i).1
  have h2 := WF_e hb hk (binop_inv h).1.symm i
  rw [sub_coeff hk h, ← Int.add_emod_right, toNat_emod_pow _ _ (by omega)]
  congr 1
  rw [two_pow_cast] at h2 ⊢
  omega

theorem and_coeff_nat {a b r : Poly} (hk : 0 < a.size) (ha : a.WF)
    (h : binop .and a b = .ok r) (i : Nat) :
    (r.e i).toNat = ((a.e i).toNat &&& (b.e i).toNat) % 2^a.size :=
  bit_coeff_nat (op := .and) (f := (· &&& ·)) (fun _ _ => if_neg (Nat.ne_of_gt hk)) h
    (Nat.lt_of_le_of_lt Nat.and_le_left (WF_toNat_lt ha hk rfl i))

theorem or_coeff_nat {a b r : Poly} (hk : 0 < a.size) (ha : a.WF) (hb : b.WF)
    (h : binop .or a b = .ok r) (i : Nat) :
    (r.e i).toNat = ((a.e i).toNat ||| (b.e i).toNat) % 2^a.size :=
  bit_coeff_nat (op := .or) (f := (· ||| ·)) (fun _ _ => if_neg (Nat.ne_of_gt hk)) h
    (Nat.or_lt_two_pow (WF_toNat_lt ha hk rfl i) (WF_toNat_lt hb hk (binop_inv h).1.symm i))

theorem xor_coeff_nat {a b r : Poly} (hk : 0 < a.size) (ha : a.WF) (hb : b.WF)
    (h : binop .xor a b = .ok r) (i : Nat) :
    (r.e i).toNat = ((a.e i).toNat ^^^ (b.e i).toNat) % 2^a.size :=
  bit_coeff_nat (op := .xor) (f := (· ^^^ ·)) (fun _ _ => if_neg (Nat.ne_of_gt hk)) h
    (Nat.xor_lt_two_pow (WF_toNat_lt ha hk rfl i) (WF_toNat_lt hb hk (binop_inv h).1.symm i))

theorem binop_comm {op : BinOp} (hop : op ≠ .sub) (a b : Poly) : binop op a b = binop op b a := by
  by_cases h : a.size = b.size
  · rw [binop_ok h, binop_ok h.symm, ← h]
    simp only [Spec.Poly.pointwise, Nat.max_comm b.ival.length]
    congr 2
    apply List.map_congr_left
    intro j _
    exact coeffOp_comm hop _ _ _
  · rw [binop_err h, binop_err (Ne.symm h)]

theorem binop_WF {op : BinOp} {a b r : Poly} (ha : a.WF) (hb : b.WF) (h : binop op a b = .ok r) : r.WF := by
  refine WF_iff_e.mpr fun i => ?_
  rw [binop_coeff h, (binop_dim h).1]
  exact coeffOp_red (WF_red_e ha i) ((binop_inv h).1 ▸ WF_red_e hb i)

theorem binop_empty (op : BinOp) (k : Nat) : binop op ⟨[], k⟩ ⟨[], k⟩ = .ok ⟨[], k⟩ := by
  simp [binop, dim]


theorem neg_WF (a : Poly) : (neg a).WF := WF_map_red a.ival a.size (fun x => -x)

theorem neg_size (a : Poly) : (neg a).size = a.size := rfl

theorem neg_dim (a : Poly) : (neg a).dim = a.dim := by simp [neg, dim]

/-- `red k` is the identity for k = 0 -/
theorem neg_coeff (a : Poly) (i : Nat) : (neg a).e i = red a.size (-(a.e i)) :=
  e_map_red a (fun x => -x) rfl i

theorem add_neg (a : Poly) : binop .add a (neg a) = .ok (zeros a.size a.dim) := by
  obtain ⟨r, h⟩ := (binop_defined .add a (neg a)).mpr rfl
  rw [h]
  congr 1
  refine ext_e (binop_dim h).1 ((binop_dim h).2.trans (by simp [neg, zeros, dim])) fun i _ => ?_
  rw [binop_coeff h, neg_coeff, (zeros_spec _ _).2.2.2]
  obtain ⟨m, hm⟩ := red_emod a.size
  simp only [coeffOp, hm]
  rw [Int.add_emod_emod, Int.add_right_neg]
  exact Int.zero_emod m

theorem shl_dim (a : Poly) (n : Nat) : (a.shl n).dim = a.dim ∧ (a.shl n).size = a.size := by simp [shl, dim]

theorem shr_dim (a : Poly) (n : Nat) : (a.shr n).dim = a.dim ∧ (a.shr n).size = a.size := by simp [shr, dim]

theorem shl_WF (a : Poly) (n : Nat) : (a.shl n).WF := WF_map_red a.ival a.size (fun x => x * (2:Int)^n)

theorem shr_WF (a : Poly) (n : Nat) : (a.shr n).WF := WF_map_red a.ival a.size (fun x => Int.shiftRight x n)

theorem shl_coeff (a : Poly) (n i : Nat) : (a.shl n).e i = red a.size (a.e i * (2:Int)^n) :=
  e_map_red a (fun x => x * (2:Int)^n) (Int.zero_mul _) i

theorem shr_coeff (a : Poly) (n i : Nat) : (a.shr n).e i = red a.size (a.e i / (2:Int)^n) := by
  have := e_map_red a (fun x => Int.shiftRight x n) (Int.zero_shiftRight n) i
  simpa [shr, ← Int.shiftRight_eq, Int.shiftRight_eq_div_pow] using this

theorem shl_coeff_nat {a : Poly} (hk : 0 < a.size) (ha : a.WF) (n i : Nat) :
    ((a.shl n).e i).toNat = ((a.e i).toNat <<< n) % 2^a.size := by
  obtain ⟨x, hx⟩ := Int.eq_ofNat_of_zero_le (WF_e ha hk rfl i).1
  rw [shl_coeff, red_pos hk, hx]
  have : (x:Int) * (2:Int)^n = ((x * 2^n : Nat) : Int) := by simp
  rw [this, toNat_emod_pow _ _ (Int.natCast_nonneg _), Int.toNat_natCast, Int.toNat_natCast, Nat.shiftLeft_eq]

theorem shr_coeff_nat {a : Poly} (hk : 0 < a.size) (ha : a.WF) (n i : Nat) :
    ((a.shr n).e i).toNat = (a.e i).toNat >>> n := by
  rw [shr_coeff, red_div_pow (WF_red_e ha i)]
  obtain ⟨x, hx⟩ := Int.eq_ofNat_of_zero_le (WF_e ha hk rfl i).1
  have : (x:Int) / (2:Int)^n = ((x / 2^n : Nat) : Int) := by simp
  rw [hx, this, Int.toNat_natCast, Int.toNat_natCast, Nat.shiftRight_eq_div_pow]

/-- shifting by a Python int: a negative count is refused as soon as there is a coefficient to shift -/
theorem shlI_spec (a : Poly) (n : Int) :
    (0 ≤ n → a.shlI n = .ok (a.shl n.toNat)) ∧ (n < 0 → a.ival ≠ [] → ∃ m, a.shlI n = .error m) ∧
    (0 ≤ n → a.shrI n = .ok (a.shr n.toNat)) ∧ (n < 0 → a.ival ≠ [] → ∃ m, a.shrI n = .error m) := by
  refine ⟨?_, ?_, ?_, ?_⟩
  · intro h; simp [shlI, Int.not_lt.mpr h]
  · intro h he; exact ⟨"ValueError:negative shift count", by simp [shlI, h, he]⟩
  · intro h; simp [shrI, Int.not_lt.mpr h]
  · intro h he; exact ⟨"ValueError:negative shift count", by simp [shrI, h, he]⟩


/-! ## refinement of Spec.Poly -/

theorem add_spec {a b : Poly} (h : a.size = b.size) :
    binop .add a b = .ok ⟨Spec.Poly.add a.size a.ival b.ival, a.size⟩ :=
  binop_ok h

theorem sub_spec {a b : Poly} (h : a.size = b.size) :
    binop .sub a b = .ok ⟨Spec.Poly.sub a.size a.ival b.ival, a.size⟩ :=
  binop_ok h

theorem bitops_refine {a b : Poly} (ha : a.WF) (hb : b.WF) (h : a.size = b.size) :
    binop .and a b = .ok ⟨Spec.Poly.band a.ival b.ival, a.size⟩ ∧
    binop .or a b = .ok ⟨Spec.Poly.bor a.ival b.ival, a.size⟩ ∧
    binop .xor a b = .ok ⟨Spec.Poly.bxor a.ival b.ival, a.size⟩ := by
  have hx := WF_red_e ha
  have hy : ∀ i, red a.size (b.e i) = b.e i := fun i => h ▸ WF_red_e hb i
  exact ⟨binop_pointwise h fun i => bitop_refine intBitOp_and (fun _ _ => rfl) (hx i) (hy i),
    binop_pointwise h fun i => bitop_refine intBitOp_or (fun _ _ => rfl) (hx i) (hy i),
    binop_pointwise h fun i => bitop_refine intBitOp_xor (fun _ _ => rfl) (hx i) (hy i)⟩

theorem bitops_spec {a b : Poly} (hk : 0 < a.size) (ha : a.WF) (hb : b.WF) (h : a.size = b.size) :
    binop .and a b = .ok ⟨Spec.Poly.band a.ival b.ival, a.size⟩ ∧
    binop .or a b = .ok ⟨Spec.Poly.bor a.ival b.ival, a.size⟩ ∧
    binop .xor a b = .ok ⟨Spec.Poly.bxor a.ival b.ival, a.size⟩ :=
  bitops_refine ha hb h

theorem bitops_spec_Z {a b : Poly} (hk : a.size = 0) (h : a.size = b.size) :
    binop .and a b = .ok ⟨Spec.Poly.band a.ival b.ival, a.size⟩ ∧
    binop .or a b = .ok ⟨Spec.Poly.bor a.ival b.ival, a.size⟩ ∧
    binop .xor a b = .ok ⟨Spec.Poly.bxor a.ival b.ival, a.size⟩ :=
  bitops_refine (WF_size_zero hk) (WF_size_zero (h ▸ hk)) h

/-- over the integers (k = 0) `&`, `|`, `^` are Python's: bitwise on infinite two's-complement expansions -/
theorem bitops_coeff_Z {a b r : Poly} (hk : a.size = 0) (i : Nat) :
    (binop .and a b = .ok r → r.e i = Spec.Poly.land (a.e i) (b.e i)) ∧
    (binop .or a b = .ok r → r.e i = Spec.Poly.lor (a.e i) (b.e i)) ∧
    (binop .xor a b = .ok r → r.e i = Spec.Poly.lxor (a.e i) (b.e i)) := by
  refine ⟨fun h => ?_, fun h => ?_, fun h => ?_⟩ <;> rw [binop_coeff h, hk]
  · exact intBitOp_and _ _
  · exact intBitOp_or _ _
  · exact intBitOp_xor _ _

theorem neg_spec (a : Poly) : neg a = ⟨Spec.Poly.neg a.size a.ival, a.size⟩ := rfl
theorem shl_spec (a : Poly) (n : Nat) : a.shl n = ⟨Spec.Poly.shl a.size a.ival n, a.size⟩ := rfl
theorem shr_spec {a : Poly} (ha : a.WF) (n : Nat) : a.shr n = ⟨Spec.Poly.shr a.ival n, a.size⟩ := by
  simp only [shr, Spec.Poly.shr]
  congr 1
  apply List.map_congr_left
  intro x hx
  rw [← Int.shiftRight_eq, Int.shiftRight_eq_div_pow]
  exact red_div_pow (WF_iff.mp ha x hx) n


theorem getInt_spec {a : Poly} (ha : a.WF) {i : Int} (h : -(a.dim:Int) ≤ i ∧ i < a.dim) :
    a.getInt i = .ok ⟨[a.e (Spec.Poly.pos a.dim i)], a.size⟩ :=
  (getInt_ok a h).trans (congrArg _ (ofList_WF_eq (WF_map_e ha [i] (Spec.Poly.pos a.dim))))

theorem getInt_err (a : Poly) {i : Int} (h : i < -(a.dim:Int) ∨ (a.dim:Int) ≤ i) :
    a.getInt i = .error "IndexError" := by
  simp [getInt, pyGet_err a h, bind, Except.bind]

theorem getList_spec {a : Poly} (ha : a.WF) {idx : List Int} (h : ∀ i ∈ idx, -(a.dim:Int) ≤ i ∧ i < a.dim) :
    a.getList idx = .ok ⟨idx.map (fun i => a.e (Spec.Poly.pos a.dim i)), a.size⟩ :=
  (getList_ok a h).trans (congrArg _ (ofList_WF_eq (WF_map_e ha idx _)))

theorem getList_err (a : Poly) {idx : List Int} (h : ∃ i ∈ idx, i < -(a.dim:Int) ∨ (a.dim:Int) ≤ i) :
    ∃ m, a.getList idx = .error m := by
  obtain ⟨i, hi, hr⟩ := h
  obtain ⟨m, hm⟩ := Proofs.Lemmas.Fold.mapM_err (pyGet a.ival) idx ⟨i, hi, _, pyGet_err a hr⟩
  exact ⟨m, by simp [getList, hm, bind, Except.bind]⟩

/-- `if step<0: raise ValueError` -/
theorem indices_neg_step {a : Poly} {start stop step : Option Int} {s e st : Int}
    (h : sliceIndices start stop step a.dim = .ok (s, e, st)) (hst : st < 0) :
    a.indices start stop step = .error "ValueError" := by
  simp only [dim] at h
  simp [indices, h, bind, Except.bind, hst]

theorem indices_zero_step (a : Poly) (start stop : Option Int) :
    ∃ m, a.indices start stop (some 0) = .error m := by
  simp [indices, sliceIndices, bind, Except.bind]

/-- the index sequence of a forward slice: CPython's slice.indices for start/step, and an explicit stop beyond the end is kept (Py.range over Py.sliceIndices) -/
theorem indices_spec {a : Poly} {start stop step : Option Int} {s e st : Int}
    (h : sliceIndices start stop step a.dim = .ok (s, e, st)) (hst : 0 ≤ st) :
    a.indices start stop step = .ok (Py.range s (Spec.Poly.sliceStop stop e) st) :=
  PolyL.indices_spec h hst

theorem indices_nonneg {a : Poly} {start stop step : Option Int} {r : List Int}
    (h : a.indices start stop step = .ok r) : ∀ i ∈ r, 0 ≤ i := by
  cases hsl : sliceIndices start stop step a.dim with
  | error m =>
    simp only [dim] at hsl
    simp [indices, hsl, bind, Except.bind] at h
  | ok t =>
    obtain ⟨s, e, st⟩ := t
    by_cases hst : 0 ≤ st
    · rw [indices_spec hsl hst] at h
      cases h
      exact Lemmas.PySeq.range_nonneg (Lemmas.PySeq.sliceIndices_fwd hsl hst).1 hst
    · rw [indices_neg_step hsl (by omega)] at h
      cases h

theorem getSlice_spec {a : Poly} (ha : a.WF) {start stop step : Option Int} {r : List Int}
    (h : a.indices start stop step = .ok r) :
    a.getSlice start stop step = .ok ⟨r.map (fun i => a.e i.toNat), a.size⟩ :=
  (getSlice_ok a h).trans (congrArg _ (ofList_WF_eq (WF_map_e ha r _)))

theorem getSlice_err {a : Poly} {start stop step : Option Int} {m : Err}
    (h : a.indices start stop step = .error m) : a.getSlice start stop step = .error m := by
  simp [getSlice, h, bind, Except.bind]

theorem get_WF {a r : Poly} :
    (∀ i, a.getInt i = .ok r → r.WF) ∧ (∀ s e st, a.getSlice s e st = .ok r → r.WF) ∧ (∀ idx, a.getList idx = .ok r → r.WF) := by
  refine ⟨fun i h => ?_, fun s e st h => ?_, fun idx h => ?_⟩
  all_goals
    obtain ⟨_, _, h2⟩ := Proofs.Lemmas.Fold.bind_eq_ok h
    cases h2
    exact ofList_WF _ _ _


theorem setInt_err (a : Poly) {i : Int} (h : i < -(a.dim:Int) ∨ (a.dim:Int) ≤ i) (v : Int) :
    a.setInt i v = .error "IndexError" := by
  simp only [dim] at h
  simp [setInt, Proofs.Lemmas.PySeq.normIndex_eq_none.mpr h]

theorem setInt_frame (a : Poly) {i : Int} (h : -(a.dim:Int) ≤ i ∧ i < a.dim) (v : Int) :
    ∃ r, a.setInt i v = .ok r ∧ r.size = a.size ∧ r.dim = a.dim ∧
      ∀ m, r.e m = if m = Spec.Poly.pos a.dim i then red a.size v else a.e m :=
  ⟨_, setInt_ok a h v, rfl, by simp [dim], e_set a.ival a.size _ _ (pos_lt h)⟩

theorem setInt_inv {a r : Poly} {i v : Int} (h : a.setInt i v = .ok r) :
    r = ⟨a.ival.set (Spec.Poly.pos a.dim i) (red a.size v), a.size⟩ := by
  by_cases hi : -(a.dim:Int) ≤ i ∧ i < a.dim
  · exact (Except.ok.inj ((setInt_ok a hi v).symm.trans h)).symm
  · rw [setInt_err a (by omega) v] at h
    cases h

theorem setInt_size {a r : Poly} {i v : Int} (h : a.setInt i v = .ok r) : r.size = a.size ∧ r.dim = a.dim := by
  rw [setInt_inv h]
  exact ⟨rfl, by simp [dim]⟩

theorem setInt_WF {a r : Poly} (ha : a.WF) {i v : Int} (h : a.setInt i v = .ok r) : r.WF := by
  rw [setInt_inv h]
  refine WF_iff.mpr fun x hx => ?_
  rcases List.mem_or_eq_of_mem_set hx with hx | rfl
  · exact WF_iff.mp ha x hx
  · exact red_red _ _

/-- `for j,b in zip(r,v): self[j] = b` -/
theorem setMany_e : ∀ (idx vals : List Int) (a : Poly),
    (∀ p ∈ idx.zip vals, -(a.dim:Int) ≤ p.1 ∧ p.1 < a.dim) →
    ∃ r, a.setMany idx vals = .ok r ∧ r.size = a.size ∧ r.dim = a.dim ∧
      ∀ m, r.e m = (idx.zip vals).foldl (fun x p => if m = Spec.Poly.pos a.dim p.1 then red a.size p.2 else x) (a.e m)
  | [], vals, a, _ => ⟨a, setMany_nil_left a vals, rfl, rfl, fun _ => rfl⟩
  | j :: js, [], a, _ => ⟨a, setMany_nil_right a _, rfl, rfl, fun _ => rfl⟩
  | j :: js, v :: vs, a, hin => by
    obtain ⟨a', ha', hs', hd', he'⟩ := setInt_frame a (hin (j, v) (by simp)) v
    obtain ⟨r, hr, hs, hd, he⟩ := setMany_e js vs a' (fun p hp => by rw [hd']; exact hin p (by simp [hp]))
    refine ⟨r, ?_, hs.trans hs', hd.trans hd', fun m => ?_⟩
    · rw [setMany_cons, ha']
      exact hr
    · rw [he m, he' m, hd', hs']
      rfl

theorem setMany_err : ∀ (idx vals : List Int) (a : Poly),
    (∃ p ∈ idx.zip vals, p.1 < -(a.dim:Int) ∨ (a.dim:Int) ≤ p.1) → ∃ m, a.setMany idx vals = .error m
  | [], vals, a, h => by obtain ⟨p, hp, _⟩ := h; simp at hp
  | j :: js, [], a, h => by obtain ⟨p, hp, _⟩ := h; simp at hp
  | j :: js, v :: vs, a, h => by
    rw [setMany_cons]
    cases hj : a.setInt j v with
    | error m => exact ⟨m, rfl⟩
    | ok a' =>
      obtain ⟨p, hp, hr⟩ := h
      rcases List.mem_cons.mp hp with rfl | hp
      · rw [setInt_err a hr v] at hj
        cases hj
      · exact setMany_err js vs a' ⟨p, hp, (setInt_size hj).2 ▸ hr⟩

/-- `a[idx] = v` for a list value of the same length assigns pairwise -/
theorem setIdx_list_eq (a : Poly) {idx l : List Int} (h : idx.length = l.length) :
    a.setIdx idx (.list l) = a.setMany idx l :=
  PolyL.setIdx_list_eq a h

theorem setIdx_list_ne (a : Poly) {idx l : List Int} (h : idx.length ≠ l.length) :
    a.setIdx idx (.list l) = a.setMany idx (Spec.Poly.fit idx.length (Spec.Poly.norm a.size l)) := by
  simp [setIdx, h, ofList_eq]

theorem setIdx_int (a : Poly) (idx : List Int) (x : Int) :
    a.setIdx idx (.int x) = a.setMany idx (Spec.Poly.fit idx.length [Spec.Poly.norm1 a.size x]) := by
  simp [setIdx, ofList_eq, Spec.Poly.norm]

theorem setSlice_spec {a : Poly} {start stop step : Option Int} {r : List Int}
    (h : a.indices start stop step = .ok r) (v : RVal) :
    a.setSlice start stop step v = a.setIdx r v :=
  setSlice_idx h v

theorem setSlice_err {a : Poly} {start stop step : Option Int} {m : Err}
    (h : a.indices start stop step = .error m) (v : RVal) : a.setSlice start stop step v = .error m := by
  simp [setSlice, h, bind, Except.bind]

/-- the user-facing frame theorem for `a[idx] = [v₀,…]`; repeated indices: the last write wins -/
theorem setIdx_frame {a : Poly} {idx vals : List Int} (hl : idx.length = vals.length)
    (hin : ∀ i ∈ idx, -(a.dim:Int) ≤ i ∧ i < a.dim) :
    ∃ r, a.setIdx idx (.list vals) = .ok r ∧ r.size = a.size ∧ r.dim = a.dim ∧
      (∀ m, (∀ i ∈ idx, Spec.Poly.pos a.dim i ≠ m) → r.e m = a.e m) ∧
      (∀ t (h1 : t < idx.length) (h2 : t < vals.length),
        (∀ t' (h' : t' < idx.length), t < t' → Spec.Poly.pos a.dim idx[t'] ≠ Spec.Poly.pos a.dim idx[t]) →
        r.e (Spec.Poly.pos a.dim idx[t]) = red a.size vals[t]) := by
  rw [setIdx_list_eq a hl]
  obtain ⟨r, hr, hs, hd, he⟩ := setMany_e idx vals a fun p hp => hin p.1 (List.of_mem_zip hp).1
  refine ⟨r, hr, hs, hd, fun m hm => ?_, fun t h1 h2 hlast => ?_⟩
  · rw [he m]
    exact Proofs.Lemmas.PySeq.foldl_zip_none (hit := fun i => m = Spec.Poly.pos a.dim i) (val := red a.size) _ _ _
      fun i hi h => hm i hi h.symm
  · rw [he]
    exact Proofs.Lemmas.PySeq.foldl_zip_last (hit := fun i => _ = Spec.Poly.pos a.dim i) (val := red a.size) _ _ _ t h1 h2 rfl
      fun t' h' htt' h => hlast t' h' htt' h.symm


/-- the dim setter truncates / zero-extends to d > 0 -/
theorem setDim_spec (a : Poly) {d : Nat} (hd : 0 < d) :
    a.setDim d = .ok ⟨Spec.Poly.fit d a.ival, a.size⟩ :=
  PolyL.setDim_spec a hd

/-- `assert dim>0` -/
theorem setDim_err (a : Poly) : a.setDim 0 = .error "AssertionError" := by simp [setDim]

theorem setDim_WF {a r : Poly} (ha : a.WF) {d : Nat} (h : a.setDim d = .ok r) : r.WF ∧ r.size = a.size := by
  by_cases hd : d = 0
  · subst hd
    rw [setDim_err] at h
    cases h
  · rw [setDim_spec a (Nat.pos_of_ne_zero hd)] at h
    cases h
    exact ⟨fit_WF ha d, rfl⟩

theorem applyOps_WF : ∀ (ops : List MutOp) {a r : Poly}, a.WF → a.applyOps ops = .ok r → r.WF ∧ r.size = a.size
  | [], a, r, ha, h => by cases h; exact ⟨ha, rfl⟩
  | o :: os, a, r, ha, h => by
    obtain ⟨a', h1, h2⟩ := Proofs.Lemmas.Fold.bind_eq_ok h
    have hI : ∀ {p q : Poly} {i v : Int}, p.WF ∧ p.size = a.size → p.setInt i v = .ok q → q.WF ∧ q.size = a.size :=
      fun hp hq => ⟨setInt_WF hp.1 hq, (setInt_size hq).1.trans hp.2⟩
    have hw : a'.WF ∧ a'.size = a.size := by
      cases o with
      | setInt i v => exact hI ⟨ha, rfl⟩ h1
      | setIdx idx v => exact setIdx_inv hI ⟨ha, rfl⟩ h1
      | setSlice s e st v =>
        obtain ⟨idx, _, h3⟩ := Proofs.Lemmas.Fold.bind_eq_ok h1
        exact setIdx_inv hI ⟨ha, rfl⟩ h3
      | setDim d => exact setDim_WF ha h1
    obtain ⟨hr, hsz⟩ := applyOps_WF os hw.1 h2
    exact ⟨hr, hsz.trans hw.2⟩


theorem split_spec {a : Poly} (hk : 0 < a.size) (ha : a.WF) {k' : Nat} (hk' : 0 < k') (hne : k' ≠ a.size) (be : Bool) :
    a.split k' be = .ok ⟨(Spec.Poly.rechunk a.size k' be (a.ival.map Int.toNat)).map Int.ofNat, k'⟩ :=
  split_rechunk hk ha hk' be

theorem split_same (a : Poly) (be : Bool) : a.split a.size be = .ok a := by simp [split]

/-- with q pieces per coefficient, piece j is digit j % q of coefficient j / q (`getElem?_flatMap_uniform`); big-endian
    order reverses the digits inside one coefficient, not the coefficients -/
theorem rechunk_getD (k k' : Nat) (be : Bool) (l : List Nat) (j : Nat)
    (hq : 0 < Spec.Poly.pieces k k') (hj : j < l.length * Spec.Poly.pieces k k') :
    (Spec.Poly.rechunk k k' be l).getD j 0 =
      l.getD (j / Spec.Poly.pieces k k') 0 /
        2 ^ (k' * (if be then Spec.Poly.pieces k k' - 1 - j % Spec.Poly.pieces k k' else j % Spec.Poly.pieces k k')) % 2 ^ k' := by
  have hdiv : j / Spec.Poly.pieces k k' < l.length := by
    apply Nat.div_lt_of_lt_mul; rw [Nat.mul_comm]; exact hj
  have hmod : j % Spec.Poly.pieces k k' < Spec.Poly.pieces k k' := Nat.mod_lt _ hq
  rw [List.getD_eq_getElem?_getD, List.getD_eq_getElem?_getD, Spec.Poly.rechunk,
    Proofs.Lemmas.Fold.getElem?_flatMap_uniform _ _ hq _ (by intro x _; cases be <;> simp [digits_length])]
  rw [List.getElem?_eq_getElem hdiv]
  simp only [Option.bind_some]
  cases be
  · simp [Spec.Poly.digits, hmod]
  · simp only [if_true, Spec.Poly.digits]
    rw [List.getElem?_reverse (by simpa using hmod)]
    simp only [List.length_map, List.length_range]
    rw [List.getElem?_map, List.getElem?_range (by omega)]
    simp

theorem split_coeff {a r : Poly} (hk : 0 < a.size) (ha : a.WF) {k' : Nat} (hk' : 0 < k') {be : Bool}
    (h : a.split k' be = .ok r) :
    r.size = k' ∧ r.dim = a.dim * Spec.Poly.pieces a.size k' ∧
    ∀ j, j < a.dim * Spec.Poly.pieces a.size k' →
      (r.e j).toNat = ((a.e (j / Spec.Poly.pieces a.size k')).toNat >>>
        (k' * (if be then Spec.Poly.pieces a.size k' - 1 - j % Spec.Poly.pieces a.size k' else j % Spec.Poly.pieces a.size k'))) % 2 ^ k' := by
  rw [split_rechunk hk ha hk' be] at h
  cases h
  refine ⟨rfl, by simp [dim, rechunk_length], ?_⟩
  intro j hj
  rw [e_map_ofNat, rechunk_getD _ _ _ _ _ (pieces_pos hk hk') (by simpa [dim] using hj), Nat.shiftRight_eq_div_pow]
  congr 2
  exact Proofs.Lemmas.Fold.getD_map Int.toNat a.ival _ 0

theorem split_spec_le {a r : Poly} (hk : 0 < a.size) (ha : a.WF) {k' : Nat} (hk' : 0 < k') (hd : k' ∣ a.size)
    (h : a.split k' false = .ok r) :
    r.size = k' ∧ r.dim = a.dim * (a.size / k') ∧
    ∀ j, j < a.dim * (a.size / k') →
      (r.e j).toNat = ((a.e (j / (a.size / k'))).toNat >>> (k' * (j % (a.size / k')))) % 2 ^ k' := by
  have := split_coeff hk ha hk' h
  rw [pieces_dvd hk' hd] at this
  simpa using this

theorem split_spec_be {a r : Poly} (hk : 0 < a.size) (ha : a.WF) {k' : Nat} (hk' : 0 < k') (hd : k' ∣ a.size)
    (hne : k' ≠ a.size) (h : a.split k' true = .ok r) :
    r.size = k' ∧ r.dim = a.dim * (a.size / k') ∧
    ∀ j, j < a.dim * (a.size / k') →
      (r.e j).toNat = ((a.e (j / (a.size / k'))).toNat >>> (k' * (a.size / k' - 1 - j % (a.size / k')))) % 2 ^ k' := by
  have := split_coeff hk ha hk' h
  rw [pieces_dvd hk' hd] at this
  simpa using this

theorem split_WF {a r : Poly} (ha : a.WF) {k' : Nat} {be : Bool} (h : a.split k' be = .ok r) : r.WF := by
  unfold split at h
  split at h
  · cases h
    exact ha
  · obtain ⟨_, _, h2⟩ := Proofs.Lemmas.Fold.bind_eq_ok h
    cases h2
    exact WF_map_red _ k' (fun b : Bits => Int.ofNat b.ival)

/-- over Z the coefficients are Python ints and cannot be split: only the empty vector gets through -/
theorem split_Z {a : Poly} (hk : a.size = 0) {k' : Nat} (hne : k' ≠ 0) (be : Bool) :
    (a.ival = [] → a.split k' be = .ok ⟨[], k'⟩) ∧ (a.ival ≠ [] → ∃ m, a.split k' be = .error m) := by
  constructor
  · intro he
    simp [split, hk, hne, he, bind, Except.bind, pure, Except.pure]
  · intro he
    cases hl : a.ival with
    | nil => exact absurd hl he
    | cons x xs => exact ⟨"AttributeError:int has no split", by simp [split, hk, hne, hl, bind, Except.bind]⟩

/-- `pack(a)`; `be` is the format '>L', which reverses the whole string -/
theorem pack_spec {a : Poly} (hk : 0 < a.size) (ha : a.WF) (be : Bool) :
    a.pack be = .ok (let s := a.ival.flatMap fun x => Py.leBytes ((a.size + 7) / 8) x.toNat
                     if be then s.reverse else s) := by
  -- the `& 0xff` of `pack` is idle on base-2^8 digits
  have hmask : ((Spec.Poly.rechunk a.size 8 false (a.ival.map Int.toNat)).map Int.ofNat).map (fun x => x.toNat &&& 0xff) =
      Spec.Poly.rechunk a.size 8 false (a.ival.map Int.toNat) := by
    rw [List.map_map]
    refine (List.map_congr_left fun d hd => ?_).trans (List.map_id' _)
    exact (Nat.and_two_pow_sub_one_eq_mod d 8).trans (Nat.mod_eq_of_lt (rechunk_lt d hd))
  simp only [pack, split_rechunk hk ha (by decide : 0 < 8) false, bind, Except.bind, pure, Except.pure, hmask]
  simp only [Spec.Poly.rechunk, List.flatMap_map, digits_eq_leBytes, Bool.false_eq_true, if_false]

theorem pack_Z {a : Poly} (hk : a.size = 0) (be : Bool) :
    (a.ival = [] → a.pack be = .ok []) ∧ (a.ival ≠ [] → ∃ m, a.pack be = .error m) := by
  have h := split_Z hk (k' := 8) (by decide) false
  constructor
  · intro he
    simp only [pack, h.1 he, bind, Except.bind, pure, Except.pure]
    cases be <;> rfl
  · intro he
    obtain ⟨m, hm⟩ := h.2 he
    exact ⟨m, by simp [pack, hm, bind, Except.bind]⟩

/-- `a // b` -/
theorem concat_spec (a b : Poly) :
    (a.concat b).ival = a.ival ++ b.ival ∧ (a.concat b).size = a.size ∧ (a.concat b).dim = a.dim + b.dim ∧
    ∀ i, (a.concat b).e i = if i < a.dim then a.e i else b.e (i - a.dim) := by
  refine ⟨rfl, rfl, by simp [concat, dim], ?_⟩
  intro i
  simp only [concat, e, dim, List.getD_eq_getElem?_getD]
  split
  · rename_i h; rw [List.getElem?_append_left h]
  · rename_i h; rw [List.getElem?_append_right (Nat.le_of_not_lt h)]

theorem concat_WF {a b : Poly} (ha : a.WF) (hb : b.WF) (hs : a.size = b.size) : (a.concat b).WF := by
  refine WF_iff.mpr fun x hx => ?_
  rcases List.mem_append.mp hx with hx | hx
  · exact WF_iff.mp ha x hx
  · exact hs ▸ WF_iff.mp hb x hx


theorem isZero_iff (a : Poly) : a.isZero = true ↔ ∀ i, a.e i = 0 := by
  simp only [isZero, List.all_eq_true, beq_iff_eq]
  exact forall_mem_ival a rfl

theorem eq_spec {a b : Poly} (ha : a.WF) (hb : b.WF) (hs : a.size = b.size) :
    ∃ r, a.eq b = .ok r ∧ (r = true ↔ ∀ i, a.e i = b.e i) := by
  unfold Poly.eq
  split
  · rename_i hd
    refine ⟨_, rfl, (zip_all_eq _ _ hd).trans ⟨fun h i => ?_, fun h => congrArg Poly.ival (ext_e hs hd fun i _ => h i)⟩⟩
    rw [e, e, h]
  · obtain ⟨d, hdok⟩ := (binop_defined .sub a b).mpr hs
    refine ⟨d.isZero, by simp [hdok, bind, Except.bind, pure, Except.pure], ?_⟩
    rw [isZero_iff]
    refine forall_congr' fun i => ?_
    rw [binop_coeff hdok]
    exact sub_eq_zero_iff (WF_red_e ha i) (hs ▸ WF_red_e hb i)


/-! ## non-vacuity -/

example : (ofList [200, 7, 300, -1] 8).WF ∧ (ofList [200, 7, 300, -1] 8).ival = [200, 7, 44, 255] :=
  ⟨ofList_WF _ _ _, by decide⟩
-- unequal dimensions in both operand orders, a wrap-around, the ring Z
example : binop .xor ⟨[1], 8⟩ ⟨[1, 2, 3], 8⟩ = .ok ⟨[0, 2, 3], 8⟩ ∧ binop .xor ⟨[1, 2, 3], 8⟩ ⟨[1], 8⟩ = .ok ⟨[0, 2, 3], 8⟩ := by decide
example : binop .add ⟨[200, 7], 8⟩ ⟨[100], 8⟩ = .ok ⟨[44, 7], 8⟩ ∧ binop .sub ⟨[1], 8⟩ ⟨[2, 1], 8⟩ = .ok ⟨[255, 255], 8⟩ := by decide
example : binop .add ⟨[-3, 5], 0⟩ ⟨[10], 0⟩ = .ok ⟨[7, 5], 0⟩ ∧ binop .sub ⟨[-3], 0⟩ ⟨[10, 1], 0⟩ = .ok ⟨[-13, -1], 0⟩ := by decide
example : binop .add ⟨[200, 7], 8⟩ (neg ⟨[200, 7], 8⟩) = .ok ⟨[0, 0], 8⟩ ∧ neg ⟨[200, 7], 8⟩ = ⟨[56, 249], 8⟩ := by decide
example : (⟨[129, 7], 8⟩ : Poly).shl 1 = ⟨[2, 14], 8⟩ ∧ (⟨[129, 7], 8⟩ : Poly).shr 1 = ⟨[64, 3], 8⟩ ∧ (⟨[-7], 0⟩ : Poly).shr 1 = ⟨[-4], 0⟩ := by decide
-- index expressions: negative int, slice beyond the end (zero extension), index list with a repeat
example : (⟨[1, 2, 3], 8⟩ : Poly).getInt (-1) = .ok ⟨[3], 8⟩ ∧
    (⟨[1, 2, 3], 8⟩ : Poly).getSlice (some 1) (some 5) none = .ok ⟨[2, 3, 0, 0], 8⟩ ∧
    (⟨[1, 2, 3], 8⟩ : Poly).getSlice none none (some 2) = .ok ⟨[1, 3], 8⟩ ∧
    (⟨[1, 2, 3], 8⟩ : Poly).getList [2, -3, 2] = .ok ⟨[3, 1, 3], 8⟩ := by decide
-- assignments: int, repeated index (the last value wins), scalar and short values are zero-extended to the index sequence
example : (⟨[1, 2, 3], 8⟩ : Poly).setInt (-2) 300 = .ok ⟨[1, 44, 3], 8⟩ ∧
    (⟨[1, 2, 3], 8⟩ : Poly).setIdx [0, 0, 2] (.list [5, 6, 7]) = .ok ⟨[6, 2, 7], 8⟩ ∧
    (⟨[1, 2, 3], 8⟩ : Poly).setSlice (some 0) (some 2) none (.int 9) = .ok ⟨[9, 0, 3], 8⟩ ∧
    (⟨[1, 2, 3], 8⟩ : Poly).setSlice none none none (.list [4]) = .ok ⟨[4, 0, 0], 8⟩ := by decide
example : (∀ p ∈ [(0:Int), 0, 2].zip [(5:Int), 6, 7], -(((⟨[1, 2, 3], 8⟩ : Poly).dim : Nat) : Int) ≤ p.1 ∧ p.1 < (⟨[1, 2, 3], 8⟩ : Poly).dim) := by decide
-- re-chunking and packing
example : (⟨[0x1234, 0xabcd], 16⟩ : Poly).split 8 false = .ok ⟨[0x34, 0x12, 0xcd, 0xab], 8⟩ ∧
    (⟨[0x1234, 0xabcd], 16⟩ : Poly).split 8 true = .ok ⟨[0x12, 0x34, 0xab, 0xcd], 8⟩ ∧
    (⟨[0x1234], 16⟩ : Poly).split 4 false = .ok ⟨[4, 3, 2, 1], 4⟩ ∧
    (⟨[0x123], 12⟩ : Poly).split 8 false = .ok ⟨[0x23, 0x1], 8⟩ := by decide
example : (⟨[0x1234, 0xabcd], 16⟩ : Poly).pack false = .ok [0x34, 0x12, 0xcd, 0xab] ∧
    (⟨[0x1234, 0xabcd], 16⟩ : Poly).pack true = .ok [0xab, 0xcd, 0x12, 0x34] := by decide
example : (⟨[1, 2], 8⟩ : Poly).concat ⟨[3], 8⟩ = ⟨[1, 2, 3], 8⟩ := by decide
example : (8 : Nat) ∣ 16 ∧ (0:Nat) < 8 ∧ (8:Nat) ≠ (⟨[0x1234], 16⟩ : Poly).size ∧ (⟨[0x1234], 16⟩ : Poly).WF :=
  ⟨by decide, by decide, by decide, Or.inr (by decide)⟩

end Proofs.C16
