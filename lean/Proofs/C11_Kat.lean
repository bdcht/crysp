/-
  C11 (known answers) — the test vectors of the BLAKE submission (SHA-3 proposal BLAKE, version 1.3, appendix / final-round
  package: one-byte message 00) hold for `Spec.Blake` IN THE KERNEL for all four members, and, through `blake_refines`, for the
  model of crysp/blake.py.  (hashlib has BLAKE2 but not BLAKE-1, so the stream has no independent implementation for these.)
  The digests were typed from the publication.
-/
import Proofs.C11
namespace Proofs.C11_Kat
open Model Proofs.Lemmas

def h224 : List Nat := [0x45, 0x04, 0xcb, 0x03, 0x14, 0xfb, 0x2a, 0x4f, 0x7a, 0x69, 0x2e, 0x69, 0x6e, 0x48, 0x79, 0x12,
  0xfe, 0x3f, 0x24, 0x68, 0xfe, 0x31, 0x2c, 0x73, 0xa5, 0x27, 0x8e, 0xc5]
def h256 : List Nat := [0x0c, 0xe8, 0xd4, 0xef, 0x4d, 0xd7, 0xcd, 0x8d, 0x62, 0xdf, 0xde, 0xd9, 0xd4, 0xed, 0xb0, 0xa7,
  0x74, 0xae, 0x6a, 0x41, 0x92, 0x9a, 0x74, 0xda, 0x23, 0x10, 0x9e, 0x8f, 0x11, 0x13, 0x9c, 0x87]
def h384 : List Nat := [0x10, 0x28, 0x1f, 0x67, 0xe1, 0x35, 0xe9, 0x0a, 0xe8, 0xe8, 0x82, 0x25, 0x1a, 0x35, 0x55, 0x10,
  0xa7, 0x19, 0x36, 0x7a, 0xd7, 0x02, 0x27, 0xb1, 0x37, 0x34, 0x3e, 0x1b, 0xc1, 0x22, 0x01, 0x5c,
  0x29, 0x39, 0x1e, 0x85, 0x45, 0xb5, 0x27, 0x2d, 0x13, 0xa7, 0xc2, 0x87, 0x9d, 0xa3, 0xd8, 0x07]
def h512 : List Nat := [0x97, 0x96, 0x15, 0x87, 0xf6, 0xd9, 0x70, 0xfa, 0xba, 0x6d, 0x24, 0x78, 0x04, 0x5d, 0xe6, 0xd1,
  0xfa, 0xbd, 0x09, 0xb6, 0x1a, 0xe5, 0x09, 0x32, 0x05, 0x4d, 0x52, 0xbc, 0x29, 0xd3, 0x1b, 0xe4,
  0xff, 0x91, 0x02, 0xb9, 0xf6, 0x9e, 0x2b, 0xbd, 0xb8, 0x3b, 0xe1, 0x3d, 0x4b, 0x9c, 0x06, 0x09,
  0x1e, 0x5f, 0xa0, 0xb4, 0x8b, 0xd0, 0x81, 0xb6, 0x34, 0x05, 0x8b, 0xe0, 0xec, 0x49, 0xbe, 0xb3]

theorem spec_kat :
    Spec.Blake.hash Spec.Blake.blake224 [0] 8 0 = h224 ∧ Spec.Blake.hash Spec.Blake.blake256 [0] 8 0 = h256 ∧
    Spec.Blake.hash Spec.Blake.blake384 [0] 8 0 = h384 ∧ Spec.Blake.hash Spec.Blake.blake512 [0] 8 0 = h512 :=
  ⟨by decide +kernel, BlakeKat.blake256_zero_byte, by decide +kernel, by decide +kernel⟩

/-- the model of crysp's Blake(n)(b"\x00") returns the published digests -/
theorem model_kat :
    Blake.call Blake.blake224 [0] 0 none = .ok h224 ∧ Blake.call Blake.blake256 [0] 0 none = .ok h256 ∧
    Blake.call Blake.blake384 [0] 0 none = .ok h384 ∧ Blake.call Blake.blake512 [0] 0 none = .ok h512 := by
  obtain ⟨k1, k2, k3, k4⟩ := spec_kat
  have hM : ∀ b ∈ [0], b < 256 := by decide
  have p1 : BlakeEnd.Pair Blake.blake224 Spec.Blake.blake224 := Or.inl ⟨rfl, rfl⟩
  have p2 : BlakeEnd.Pair Blake.blake256 Spec.Blake.blake256 := Or.inr (Or.inl ⟨rfl, rfl⟩)
  have p3 : BlakeEnd.Pair Blake.blake384 Spec.Blake.blake384 := Or.inr (Or.inr (Or.inl ⟨rfl, rfl⟩))
  have p4 : BlakeEnd.Pair Blake.blake512 Spec.Blake.blake512 := Or.inr (Or.inr (Or.inr ⟨rfl, rfl⟩))
  open Proofs.C11 in
  exact ⟨(blake_refines p1 [0] hM 0 none (by decide)).trans (congrArg _ k1),
    (blake_refines p2 [0] hM 0 none (by decide)).trans (congrArg _ k2),
    (blake_refines p3 [0] hM 0 none (by decide)).trans (congrArg _ k3),
    (blake_refines p4 [0] hM 0 none (by decide)).trans (congrArg _ k4)⟩

end Proofs.C11_Kat
