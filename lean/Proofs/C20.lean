/-
  C20 — permutation and subset-sum helpers enumerate exactly and answer correctly.

  Model.Perms / Model.Knapsack mirror the code after the `fix:` commits (nextperm with repeats / [], combink under
  Python 3 without the function attribute and with p = 0, exactsum returning the list without the shared default
  accumulator, dynprog without the TypeError).  Generators are the list of their yields, the in-place list is
  returned as explicit state.
-/
import Mathlib.Data.List.Permutation
import Mathlib.Data.List.Sublists
import Model.Perms
import Model.Knapsack
import Spec.Perms
import Spec.Knapsack
import Proofs.Lemmas.PermutkL
import Proofs.Lemmas.PermsSpecL
import Proofs.Lemmas.CombinkL
import Proofs.Lemmas.KnapsackL
import Proofs.Lemmas.DynprogL
import Proofs.Lemmas.NextpermOrderL
import Proofs.Lemmas.NextpermL
namespace Proofs.C20
open Model Model.Perms Model.Knapsack

variable {α : Type}

/-- `Spec.Perms.perms` is selection order, the order of itertools.permutations.  No bound on k: for k > |l| both
    sides are `[l]`. -/
theorem permutk_yields (l : List α) (k : Nat) :
    (permutk l k).1 = (Spec.Perms.perms (l.drop k)).map (l.take k ++ ·) := by
  rw [Proofs.Lemmas.PermutkL.permutk_eq l k]

theorem permutk_restores (l : List α) (k : Nat) (hk : k ≤ l.length) : (permutk l k).2 = l := by
  rw [Proofs.Lemmas.PermutkL.permutk_eq l k]

/-- Mathlib's `List.permutations`: every arrangement of the tail, each as often as it arises by position -/
theorem permutk_perm (l : List α) (k : Nat) (hk : k ≤ l.length) :
    ((permutk l k).1).Perm ((l.drop k).permutations.map (l.take k ++ ·)) := by
  rw [permutk_yields l k]
  exact (Proofs.Lemmas.PermsSpecL.perms_perm_permutations _).map _

theorem permutk_count (l : List α) (k : Nat) (hk : k ≤ l.length) :
    (permutk l k).1.length = (l.length - k).factorial := by
  rw [permutk_yields l k, List.length_map, Proofs.Lemmas.PermsSpecL.length_perms, List.length_drop]

theorem permutk_nodup_mem (l : List α) (k : Nat) (hk : k ≤ l.length) :
    (l.Nodup → (permutk l k).1.Nodup)
    ∧ ∀ y, y ∈ (permutk l k).1 ↔ ∃ p, p.Perm (l.drop k) ∧ y = l.take k ++ p := by
  rw [permutk_yields l k]
  refine ⟨?_, ?_⟩
  · intro hnd
    have hd : (l.drop k).Nodup := hnd.sublist (List.drop_sublist k l)
    exact (Proofs.Lemmas.PermsSpecL.nodup_perms _ hd).map (fun a b h => List.append_cancel_left h)
  · intro y
    rw [List.mem_map]
    exact exists_congr fun p => and_congr (Proofs.Lemmas.PermsSpecL.mem_perms _ p) eq_comm

/-- `nextperm` (repeated elements and the empty list included) is the lexicographic successor among the arrangements of l,
    wrapping around from the last arrangement to the ascending one -/
theorem nextperm_succ (l : List Int) :
    ∃ r, nextperm l = .ok r ∧ r.Perm l
      ∧ ((∃ p : List Int, p.Perm l ∧ l < p) → l < r ∧ ∀ p : List Int, p.Perm l → l < p → ¬ p < r)
      ∧ ((¬ ∃ p : List Int, p.Perm l ∧ l < p) → r.Pairwise (· ≤ ·)) := by
  rcases Proofs.Lemmas.NextpermL.nextperm_cases l with ⟨hd, hr⟩ | ⟨pre, a, suf, lo, c, hi, rfl, hsuf, hsplit, hlo, hac, hr⟩
  · refine ⟨l.reverse, hr, List.reverse_perm l, ?_, ?_⟩
    · rintro ⟨p, hp, hlt⟩
      exact absurd hlt (Proofs.Lemmas.NextpermOrderL.desc_greatest l hd p hp)
    · intro _
      rw [List.pairwise_reverse]
      exact hd
  · have hperm : (pre ++ c :: (lo ++ a :: hi)).Perm (pre ++ a :: suf) :=
      (Proofs.Lemmas.NextpermOrderL.pivot_perm hsplit).append_left pre
    have hlt : pre ++ a :: suf < pre ++ c :: (lo ++ a :: hi) :=
      List.append_left_lt (List.cons_lt_cons_iff.2 (Or.inl hac))
    refine ⟨_, hr, hperm, ?_, ?_⟩
    · intro _
      refine ⟨hlt, ?_⟩
      intro p hp hlp
      exact List.not_lt.2 (Proofs.Lemmas.NextpermOrderL.pivot_least hsuf hsplit hlo hac pre p hp hlp)
    · intro h
      exact absurd ⟨_, hperm, hlt⟩ h

/-- so `nextperm` IS the successor function, not merely one of several admissible answers -/
theorem nextperm_unique (l r r' : List Int) (h : nextperm l = .ok r)
    (h1 : r'.Perm l) (h2 : l < r') (h3 : ∀ p : List Int, p.Perm l → l < p → ¬ p < r') : r' = r := by
  obtain ⟨r0, hr0, hp0, hs0, _⟩ := nextperm_succ l
  rw [h] at hr0
  cases hr0
  obtain ⟨hlt, hmin⟩ := hs0 ⟨r', h1, h2⟩
  exact List.le_antisymm (List.not_lt.1 (h3 r hp0 hlt)) (List.not_lt.1 (hmin r' h1 h2))

/-- `Spec.Perms.nextArr` is the brute-force successor over ALL arrangements `Spec.Perms.perms l`; so the `spec` column the
    driver echoes for `nextperm` lines IS the successor characterised by `nextperm_succ` / `nextperm_unique` -/
theorem nextperm_eq_nextArr (l : List Int) : nextperm l = .ok (Spec.Perms.nextArr l) := by
  obtain ⟨r, hr, hperm, hsucc, hlast⟩ := nextperm_succ l
  have hmem : ∀ p : List Int, p ∈ Spec.Perms.perms l ↔ p.Perm l := Proofs.Lemmas.PermsSpecL.mem_perms l
  have hin : ∀ p : List Int, p ∈ (Spec.Perms.perms l).filter (fun p => l < p) ↔ p.Perm l ∧ l < p := fun p => by
    rw [List.mem_filter, hmem, decide_eq_true_eq]
  rw [hr]
  congr 1
  unfold Spec.Perms.nextArr
  split
  next c cs hf =>
    -- some arrangement is above l: r is the least of them
    have hex : ∃ p : List Int, p.Perm l ∧ l < p := ⟨c, (hin c).1 (hf ▸ List.mem_cons_self)⟩
    exact (Proofs.Lemmas.NextpermOrderL.lexMin_eq (hf ▸ (hin r).2 ⟨hperm, (hsucc hex).1⟩)
      fun p hp => (hsucc hex).2 p ((hin p).1 (hf ▸ hp)).1 ((hin p).1 (hf ▸ hp)).2).symm
  next hf =>
    -- l is the last arrangement: r is ascending, hence the least arrangement of all
    have hnone : ¬ ∃ p : List Int, p.Perm l ∧ l < p := fun ⟨p, hp⟩ => by
      have := (hin p).2 hp
      rw [hf] at this
      cases this
    split
    next c cs hp =>
      exact (Proofs.Lemmas.NextpermOrderL.lexMin_eq (hp ▸ (hmem r).2 hperm) fun p hpm => List.not_lt.2
        (Proofs.Lemmas.NextpermOrderL.asc_least r (hlast hnone) p (((hmem p).1 (hp ▸ hpm)).trans hperm.symm))).symm
    next hp => exact absurd ((hmem l).2 (List.Perm.refl l)) (by rw [hp]; exact List.not_mem_nil)

/-- `Spec.Perms.combs`: lexicographic index order, the order of itertools.combinations -/
theorem combink_spec (l : List α) (p : Nat) (hp : p ≤ l.length) : combink l p 0 = .ok (Spec.Perms.combs p l) := by
  simpa using Proofs.Lemmas.CombinkL.combink_deep l p 0 (Nat.zero_le _) hp

theorem combs_exact (l : List α) (p : Nat) :
    (Spec.Perms.combs p l).Perm (List.sublistsLen p l)
    ∧ (∀ c, c ∈ Spec.Perms.combs p l ↔ c.Sublist l ∧ c.length = p)
    ∧ (Spec.Perms.combs p l).length = l.length.choose p
    ∧ (l.Nodup → (Spec.Perms.combs p l).Nodup) :=
  have h := Proofs.Lemmas.PermsSpecL.combs_perm_sublistsLen l p
  ⟨h, fun _ => h.mem_iff.trans List.mem_sublistsLen, h.length_eq.trans (List.length_sublistsLen p l),
   fun hn => h.nodup_iff.2 (List.nodup_sublistsLen p hn)⟩

theorem exactsum_refines (l : List Item) (s : Int) :
    exactsum l s = (Spec.Knapsack.firstSolution l s).map List.reverse := by
  unfold exactsum
  rw [Proofs.Lemmas.KnapsackL.exactsumAux_eq l _ s 0 [] (by omega) (by omega)]
  simp

theorem exactsum_sound (l : List Item) (s : Int) (c : List Item) (h : exactsum l s = some c) :
    c.reverse.Sublist l ∧ wsum c = s := by
  rw [exactsum_refines, Option.map_eq_some_iff] at h
  obtain ⟨c', hf, rfl⟩ := h
  obtain ⟨h1, h2⟩ := Proofs.Lemmas.KnapsackL.firstSolution_sound l s c' hf
  rw [List.reverse_reverse, ← h2]
  refine ⟨h1, ?_⟩
  rw [Proofs.Lemmas.KnapsackL.wsum_eq]
  simp only [Spec.Knapsack.wsum, List.map_reverse, List.sum_reverse]

/-- `none` is Python's `False` -/
theorem exactsum_complete (l : List Item) (hpos : ∀ it ∈ l, 0 < weight it) (s : Int) :
    exactsum l s = none ↔ ¬ ∃ c : List Item, c.Sublist l ∧ wsum c = s := by
  rw [exactsum_refines, Option.map_eq_none_iff]
  constructor
  · intro h ⟨c, hc, hs⟩
    have := Proofs.Lemmas.KnapsackL.firstSolution_complete l hpos s c hc hs
    rw [h] at this
    cases this
  · intro h
    cases hf : Spec.Knapsack.firstSolution l s with
    | none => rfl
    | some c' => exact absurd ⟨c', Proofs.Lemmas.KnapsackL.firstSolution_sound l s c' hf⟩ h

/-- KNOWN FINDING (C20-dynprog-reuse), kernel-checked witness: the result of `dynprog` on l = [(7,2)], s = 4 uses the only
    item twice, so no reordering of it is a sub-list of l: "sub-collection of the given items" is false for dynprog -/
theorem dynprog_not_sub :
    dynprog [(7, 2)] 4 = some [(7, 2), (7, 2)]
      ∧ ¬ ∃ c : List Item, c.Perm [(7, 2), (7, 2)] ∧ c.Sublist [(7, 2)] := by
  refine ⟨by decide +kernel, ?_⟩
  intro ⟨c, hp, hs⟩
  have h1 := hp.length_eq
  have h2 := hs.length_le
  simp at h1 h2
  omega

/-
  FULL STATEMENT (not provable: false for the code, see dynprog_not_sub — recorded as known finding C20-dynprog-reuse):
    theorem dynprog_spec (l) (hpos : ∀ it ∈ l, 0 < weight it) (s : Int) :
      (∀ c, dynprog l s = some c → (∃ c', c'.Perm c ∧ c'.Sublist l) ∧ wsum c = s
              ∧ ∀ d, d.Sublist l → wsum d = s → c.length ≤ d.length)
      ∧ (dynprog l s = none ↔ ¬ ∃ c, c.Sublist l ∧ wsum c = s)
  PROVED instead (`_partial`): the same with "collection of items of l, repetition allowed" in place of
  "sub-collection": every element of the result is an item of l, the weights sum to s, no collection with repetition
  has fewer elements, and None is returned exactly when s is not reachable even with repetition.
-/
theorem dynprog_partial (l : List Item) (hpos : ∀ it ∈ l, 0 < weight it) (s : Int) :
    (∀ c, dynprog l s = some c →
        (∀ it ∈ c, it ∈ l) ∧ wsum c = s ∧ ∀ d : List Item, (∀ it ∈ d, it ∈ l) → wsum d = s → c.length ≤ d.length)
    ∧ (dynprog l s = none ↔ ¬ ∃ d : List Item, (∀ it ∈ d, it ∈ l) ∧ wsum d = s) := by
  have hg := Proofs.Lemmas.DynprogL.dpTable_good l hpos s.toNat s (by omega)
  have hd : dynprog l s = (tget (dpTable l s.toNat) s).map (·.2) := by
    unfold dynprog tget
    split <;> rfl
  rw [hd]
  cases he : tget (dpTable l s.toNat) s with
  | none =>
    rw [he] at hg
    exact ⟨fun c h => (nomatch h), fun _ ⟨d, hd⟩ => hg d hd, fun _ => rfl⟩
  | some e =>
    rw [he] at hg
    obtain ⟨hlen, hrep, hmin⟩ := hg
    refine ⟨fun c hc => ?_, fun h => (nomatch h), fun h => absurd ⟨e.2, hrep⟩ h⟩
    obtain rfl : e.2 = c := Option.some.inj hc
    refine ⟨hrep.1, hrep.2, fun d hd hsum => ?_⟩
    rw [← hlen]
    exact hmin d ⟨hd, hsum⟩

example : (permutk [1, 2, 3] 1).1 = [[1, 2, 3], [1, 3, 2]] ∧ (permutk [1, 2, 3] 1).2 = [1, 2, 3] := by decide
example : (nextperm [1, 2, 1]).toOption = some [2, 1, 1] ∧ (nextperm [3, 2, 1]).toOption = some [1, 2, 3] := by decide +kernel
example : Spec.Perms.nextArr [1, 2, 1] = [2, 1, 1] ∧ Spec.Perms.nextArr [3, 2, 1] = [1, 2, 3] ∧ Spec.Perms.nextArr [] = [] := by decide +kernel
example : (combink [1, 2, 3, 4] 2 0).toOption = some [[1, 2], [1, 3], [1, 4], [2, 3], [2, 4], [3, 4]] := by decide +kernel
example : ∀ it ∈ ([(1, 3), (2, 5), (3, 2), (4, 7)] : List Item), 0 < weight it := by decide
example : exactsum [(1, 3), (2, 5), (3, 2), (4, 7)] 12 = some [(4, 7), (3, 2), (1, 3)] := by decide +kernel
example : exactsum [(1, 3), (2, 5), (3, 2), (4, 7)] 4 = none := by decide +kernel
example : dynprog [(1, 3), (2, 5), (3, 2), (4, 7)] 8 = some [(2, 5), (1, 3)] := by decide +kernel

end Proofs.C20
