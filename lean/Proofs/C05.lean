/-
  C05 — ECB/CBC/CTR/CTS modes follow SP 800-38A and decrypt what they encrypt.

  `Model.Mode` mirrors crysp/mode.py over a block cipher object `c : Model.BlockCipher` (any object with blocksize/enc/dec).
  `Implements c k`: on byte blocks of c.len bytes `c.enc`/`c.dec` return the values of the total functions `k.E`/`k.D` of the
  Spec cipher `k`, which map byte blocks to byte blocks and are mutually inverse.  The theorems hold for every such `c`, `k`;
  the `…_implements` theorems prove it for the library's `AES(K)`, `DES(K)`, `TDEA(K1,K2,K3)`, `Serpent(K)`, `Threefish(K,T)`
  with every accepted key (and tweak), and `lib_ecb … lib_cts_dec` restate the property with no hypothesis on the cipher left.
  `Bytes M`: all elements < 256 (M is a Python `bytes`).  `PadDom s l M`: the admissible (padding, message) pairs:
  PKCS#7 / X9.23 need l < 256, no padding needs a non-empty block multiple.  `CtrDom l iv`: the counter argument is an
  l-byte string, or None with an even block length (the default counter is two halves of ⌊l/2⌋ bytes).
  SP 800-38A appendix F vectors through Spec.Mode over Spec.Aes: Proofs/C05/KatF.lean.
-/
import Proofs.Lemmas.ModeCtsCbc
import Proofs.Lemmas.ModeCtrObj
import Proofs.Lemmas.ModeSeq
import Proofs.Lemmas.ModeToy
import Proofs.Lemmas.ModeInst
import Proofs.Lemmas.ModePadTie
namespace Proofs.C05
open Model Model.Mode Proofs.Lemmas.ModeL Proofs.Lemmas.ModeInst Proofs.Lemmas.Bytes

variable {c : BlockCipher} {k : Spec.Mode.Cipher}

/-- ECB.enc is the SP 800-38A ECB encryption of the padded message -/
theorem ecb_spec (h : Implements c k) (s : Spec.ModePad.Scheme) (M : List Nat) (hM : Bytes M) (hd : PadDom s c.len M) :
    ECB.enc c (toModel s) M = .ok (Spec.Mode.ecb k s M) :=
  (ecb_facts h s M hM hd).1

/-- CBC.enc is the IV followed by the SP 800-38A CBC chain of the padded message -/
theorem cbc_spec (h : Implements c k) (iv : List Nat) (hiv : IsBlock c.len iv) (s : Spec.ModePad.Scheme) (M : List Nat)
    (hM : Bytes M) (hd : PadDom s c.len M) :
    CBC.enc c iv (toModel s) M = .ok (Spec.Mode.cbc k iv s M) :=
  (cbc_facts h iv hiv s M hM hd).1

/-- CTR.enc with the default counter is SP 800-38A CTR with the counter blocks
    T_j = nonce ‖ BE((count0 + j) mod 2^(8·(len − ⌊len/2⌋))): the nonce is the first ⌊len/2⌋ bytes of the initial counter
    block (all zero when no counter is given), the running half wraps inside itself -/
theorem ctr_spec (h : Implements c k) (iv : Option (List Nat)) (hiv : CtrDom c.len iv) (M : List Nat) :
    CTR.enc c iv M = .ok (Spec.Mode.ctr k (iv.getD (List.replicate c.len 0)) M) :=
  ctr_enc_spec h iv hiv M

/-- CTS_ECB.enc is ECB with ciphertext stealing (a block multiple is plain ECB) -/
theorem cts_ecb_spec (h : Implements c k) (M : List Nat) (hM : Bytes M) (hlen : c.len ≤ M.length) :
    CTS_ECB.enc c .no M = .ok (Spec.Mode.ecbCts k M) :=
  cts_ecb_enc_spec h M hM hlen

/-- CTS_CBC.enc is the IV followed by CBC-CS2 of the SP 800-38A addendum (last two blocks swapped iff the last one is partial) -/
theorem cts_cbc_spec (h : Implements c k) (iv : List Nat) (hiv : IsBlock c.len iv) (M : List Nat) (hM : Bytes M)
    (hlen : c.len ≤ M.length) : CTS_CBC.enc c iv .no M = .ok (Spec.Mode.cbcCts k iv M) :=
  cts_cbc_enc_spec h iv hiv M hM hlen

/-- CTS_ECB.dec computes the Spec inverse (ECB-CTS decryption over CIPH⁻¹) on EVERY byte string of at least one block,
    not only on the ciphertexts `enc` produces -/
theorem cts_ecb_dec_spec (h : Implements c k) (C : List Nat) (hC : Bytes C) (hlen : c.len ≤ C.length) :
    CTS_ECB.dec c .no C = .ok (Spec.Mode.ecbCtsInv k C) :=
  Proofs.Lemmas.ModeL.cts_ecb_dec_spec h C hC hlen

/-- CTS_CBC.dec computes CBC-CS2-Decrypt of the SP 800-38A addendum, with the first block of the input as IV, on EVERY byte
    string of at least two blocks (the IV the object was built with is not used by `dec`; it only has to be one block long) -/
theorem cts_cbc_dec_spec (h : Implements c k) (iv : List Nat) (hiv : iv.length = c.len) (C : List Nat) (hC : Bytes C)
    (hlen : 2 * c.len ≤ C.length) : CTS_CBC.dec c iv .no C = .ok (Spec.Mode.cbcCtsInv k C) :=
  Proofs.Lemmas.ModeL.cts_cbc_dec_spec h iv hiv C hC hlen

/-- at the level of the specification alone: ECB-CTS decryption and CBC-CS2 decryption (IV in front) undo the
    corresponding encryptions, for every cipher function pair (E, D) = `k` that a model cipher implements — in particular
    FIPS 197, FIPS 46-3, SP 800-67, Serpent and Threefish with every key (`lib_implements`) -/
theorem cts_spec_inverse (h : Implements c k) :
    (∀ M, Bytes M → c.len ≤ M.length → Spec.Mode.ecbCtsInv k (Spec.Mode.ecbCts k M) = M) ∧
    (∀ iv M, IsBlock c.len iv → Bytes M → c.len ≤ M.length → Spec.Mode.cbcCtsInv k (Spec.Mode.cbcCts k iv M) = M) :=
  ⟨fun M hM hl => (ecbCts_facts h M hM hl).2.2, fun iv M hiv hM hl => (cbcCts_facts h iv hiv M hM hl).2.2.2⟩

/-! ### decryption inverts encryption (with an equally configured object in any padding state `st`) -/

theorem ecb_dec_enc (h : Implements c k) (s : Spec.ModePad.Scheme) (M : List Nat) (hM : Bytes M) (hd : PadDom s c.len M)
    (st : PadState) :
    (ECB.enc c (toModel s) M).bind (fun C => ECB.dec c (toModel s) C st) = .ok M := by
  rw [ecb_spec h s M hM hd]
  exact (ecb_facts h s M hM hd).2.1 st

theorem cbc_dec_enc (h : Implements c k) (iv : List Nat) (hiv : IsBlock c.len iv) (s : Spec.ModePad.Scheme) (M : List Nat)
    (hM : Bytes M) (hd : PadDom s c.len M) (st : PadState) :
    (CBC.enc c iv (toModel s) M).bind (fun C => CBC.dec c iv (toModel s) C st) = .ok M := by
  rw [cbc_spec h iv hiv s M hM hd]
  exact (cbc_facts h iv hiv s M hM hd).2.1 st

theorem ctr_dec_enc (h : Implements c k) (iv : Option (List Nat)) (hiv : CtrDom c.len iv) (M : List Nat) :
    (CTR.enc c iv M).bind (CTR.dec c iv) = .ok M := by
  rw [ctr_spec h iv hiv M]
  show CTR.dec c iv _ = _
  rw [ctr_dec_spec h iv hiv, (ctr_length_invol h _ (ctrDom_block hiv) M).2]

theorem cts_ecb_dec_enc (h : Implements c k) (M : List Nat) (hM : Bytes M) (hlen : c.len ≤ M.length) :
    (CTS_ECB.enc c .no M).bind (CTS_ECB.dec c .no) = .ok M := by
  rw [cts_ecb_spec h M hM hlen]
  exact cts_ecb_dec_of h M hM hlen

theorem cts_cbc_dec_enc (h : Implements c k) (iv : List Nat) (hiv : IsBlock c.len iv) (M : List Nat) (hM : Bytes M)
    (hlen : c.len ≤ M.length) :
    (CTS_CBC.enc c iv .no M).bind (CTS_CBC.dec c iv .no) = .ok M := by
  rw [cts_cbc_spec h iv hiv M hM hlen]
  exact cts_cbc_dec_of h iv hiv M hM hlen

/-- the same, from permutation hypotheses stated on the model cipher alone (the form in which C03 delivers its results) -/
theorem dec_enc_of_permutation (c : BlockCipher) (hpos : 0 < c.len)
    (henc : ∀ b, IsBlock c.len b → ∃ y, c.enc b = .ok y ∧ IsBlock c.len y ∧ c.dec y = .ok b)
    (hdec : ∀ y, IsBlock c.len y → ∃ b, c.dec y = .ok b ∧ IsBlock c.len b ∧ c.enc b = .ok y) :
    (∀ s M st, Bytes M → PadDom s c.len M → (ECB.enc c (toModel s) M).bind (fun C => ECB.dec c (toModel s) C st) = .ok M) ∧
    (∀ iv s M st, IsBlock c.len iv → Bytes M → PadDom s c.len M →
      (CBC.enc c iv (toModel s) M).bind (fun C => CBC.dec c iv (toModel s) C st) = .ok M) ∧
    (∀ iv M, CtrDom c.len iv → (CTR.enc c iv M).bind (CTR.dec c iv) = .ok M) ∧
    (∀ M, Bytes M → c.len ≤ M.length → (CTS_ECB.enc c .no M).bind (CTS_ECB.dec c .no) = .ok M) ∧
    (∀ iv M, IsBlock c.len iv → Bytes M → c.len ≤ M.length → (CTS_CBC.enc c iv .no M).bind (CTS_CBC.dec c iv .no) = .ok M) := by
  have h := implements_of_model c hpos henc hdec
  exact ⟨fun s M st hM hd => ecb_dec_enc h s M hM hd st, fun iv s M st hiv hM hd => cbc_dec_enc h iv hiv s M hM hd st,
    fun iv M hiv => ctr_dec_enc h iv hiv M, fun M hM hl => cts_ecb_dec_enc h M hM hl,
    fun iv M hiv hM hl => cts_cbc_dec_enc h iv hiv M hM hl⟩

theorem ctr_length (h : Implements c k) (iv : Option (List Nat)) (hiv : CtrDom c.len iv) (M : List Nat) :
    ∃ C, CTR.enc c iv M = .ok C ∧ C.length = M.length :=
  ⟨_, ctr_spec h iv hiv M, (ctr_length_invol h _ (ctrDom_block hiv) M).1⟩

theorem cts_ecb_length (h : Implements c k) (M : List Nat) (hM : Bytes M) (hlen : c.len ≤ M.length) :
    ∃ C, CTS_ECB.enc c .no M = .ok C ∧ C.length = M.length :=
  ⟨_, cts_ecb_spec h M hM hlen, (ecbCts_facts h M hM hlen).2.1⟩

theorem cts_cbc_length (h : Implements c k) (iv : List Nat) (hiv : IsBlock c.len iv) (M : List Nat) (hM : Bytes M)
    (hlen : c.len ≤ M.length) :
    ∃ C, CTS_CBC.enc c iv .no M = .ok C ∧ C.length = M.length + c.len ∧ C.take c.len = iv :=
  ⟨_, cts_cbc_spec h iv hiv M hM hlen, (cbcCts_facts h iv hiv M hM hlen).2.1, (cbcCts_facts h iv hiv M hM hlen).2.2.1⟩

theorem ecb_length (h : Implements c k) (s : Spec.ModePad.Scheme) (M : List Nat) (hM : Bytes M) (hd : PadDom s c.len M) :
    ∃ C, ECB.enc c (toModel s) M = .ok C ∧ C.length = if s = .none then M.length else (M.length / c.len + 1) * c.len :=
  ⟨_, ecb_spec h s M hM hd, (ecb_facts h s M hM hd).2.2⟩

theorem cbc_length (h : Implements c k) (iv : List Nat) (hiv : IsBlock c.len iv) (s : Spec.ModePad.Scheme) (M : List Nat)
    (hM : Bytes M) (hd : PadDom s c.len M) :
    ∃ C, CBC.enc c iv (toModel s) M = .ok C ∧ C.take c.len = iv ∧
      C.length = (if s = .none then M.length else (M.length / c.len + 1) * c.len) + c.len :=
  ⟨_, cbc_spec h iv hiv s M hM hd, (cbc_facts h iv hiv s M hM hd).2.2⟩

/-- an IV that is not one block long is refused (the constructor's assert) -/
theorem cbc_rejects_iv (iv : List Nat) (s : Scheme) (M : List Nat) (hiv : iv.length ≠ c.len) :
    ∃ e, CBC.enc c iv s M = .error e := by
  unfold CBC.enc
  split
  · exact ⟨_, rfl⟩
  · exact ⟨_, if_pos hiv⟩

theorem ecb_dec_rejects_length (s : Scheme) (C : List Nat) (st : PadState) (hC : C.length % c.len ≠ 0) :
    ∃ e, ECB.dec c s C st = .error e := by
  unfold ECB.dec
  split
  · exact ⟨_, rfl⟩
  · exact ⟨_, if_pos hC⟩

theorem cbc_dec_rejects_length (iv : List Nat) (s : Scheme) (C : List Nat) (st : PadState) (hC : C.length % c.len ≠ 0) :
    ∃ e, CBC.dec c iv s C st = .error e := by
  unfold CBC.dec
  split
  · exact ⟨_, rfl⟩
  · rw [if_pos hC, ite_self]
    exact ⟨_, rfl⟩

theorem ctr_rejects_counter (iv M : List Nat) (hiv : iv.length ≠ c.len) : ∃ e, CTR.enc c (some iv) M = .error e := by
  unfold CTR.enc
  split
  · exact ⟨_, rfl⟩
  · exact ⟨_, by rw [DefaultCounter.new, if_pos hiv]⟩

/-! ### one CTR object used again and again

  `Model.Mode.CTR.Obj` is what a `CTR` object keeps between calls (`self.counter` = bytesize / nonce / count0, and that
  counter's running `count`); `Obj.step` is one public call — `enc`, `dec`, `counter.setup(nonce,count)`,
  `obj.counter = DefaultCounter(obj.len[,iv])`, `counter.reset()`, `counter()` — and `Obj.run` a history of them.  The
  correspondence stream (`ctrseq` lines) drives the real object and this machine through the same histories. -/

/-- HISTORY INDEPENDENCE of the key stream: what `obj.enc(M)` / `obj.dec(M)` return depends on the cipher, on the counter
    block in force (`obj.counter.nonce`, `obj.counter.count0`) and on M — on nothing else the object holds or has done -/
theorem ctr_history_independent (c : BlockCipher) (o₁ o₂ : CTR.Obj) (M : List Nat)
    (hn : o₁.counter.nonce = o₂.counter.nonce) (hc : o₁.counter.count0 = o₂.counter.count0) :
    (o₁.enc c M).1 = (o₂.enc c M).1 ∧ (o₁.dec c M).1 = (o₂.dec c M).1 := by
  have e := encWith_congr c o₁.counter o₂.counter hn hc M
  exact ⟨by rw [obj_enc_fst, obj_enc_fst, e], by rw [obj_dec_fst, obj_dec_fst, e]⟩

/-- … in particular after any two histories of public calls, from any two starting objects -/
theorem ctr_step_depends_only_on_counter (c : BlockCipher) (o₁ o₂ : CTR.Obj) (h₁ h₂ : List CTR.Step) (M : List Nat)
    (hn : (CTR.Obj.run c o₁ h₁).2.counter.nonce = (CTR.Obj.run c o₂ h₂).2.counter.nonce)
    (hc : (CTR.Obj.run c o₁ h₁).2.counter.count0 = (CTR.Obj.run c o₂ h₂).2.counter.count0) :
    (CTR.Obj.run c o₁ (h₁ ++ [.enc M])).1.getLast? = (CTR.Obj.run c o₂ (h₂ ++ [.enc M])).1.getLast? ∧
    (CTR.Obj.run c o₁ (h₁ ++ [.dec M])).1.getLast? = (CTR.Obj.run c o₂ (h₂ ++ [.dec M])).1.getLast? := by
  obtain ⟨e1, e2⟩ := ctr_history_independent c _ _ M hn hc
  simp only [run_last, CTR.Obj.step, e1, e2, and_self]

/-- the route `obj.counter.setup(nonce,count)`: after ANY history on ANY object, setup and then `enc(M)` return what the
    first call on a new object `CTR(cipher, nonce ‖ count)` returns (nonce = the first ⌊len/2⌋ bytes of the block) -/
theorem ctr_after_setup (c : BlockCipher) (o : CTR.Obj) (hist : List CTR.Step) (nonce count M : List Nat)
    (hn : nonce.length = c.len / 2) (hl : nonce.length + count.length = c.len) :
    (CTR.Obj.run c o (hist ++ [.setup (some nonce) (some count), .enc M])).1.getLast?
      = some (.bytes (CTR.enc c (some (nonce ++ count)) M)) := by
  have hd : DefaultCounter.new c.len (some (nonce ++ count)) = .ok ⟨c.len, nonce, count⟩ := by
    simp [DefaultCounter.new, hl, ← hn]
  rw [List.append_cons, run_last, run_snoc_obj]
  simp only [CTR.Obj.step, obj_enc_fst, ← encWith_new c _ _ hd M]
  rw [encWith_congr c ((CTR.Obj.run c o hist).2.counter.setup (some nonce) (some count)) ⟨c.len, nonce, count⟩ rfl rfl]

/-- the route `obj.counter = DefaultCounter(obj.len[,iv])`: after ANY history, the assignment and then `enc(M)` return what
    the first call on a new object `CTR(cipher[,iv])` returns -/
theorem ctr_after_assign (c : BlockCipher) (o : CTR.Obj) (hist : List CTR.Step) (iv : Option (List Nat)) (M : List Nat)
    (hiv : ∀ v, iv = some v → v.length = c.len) :
    (CTR.Obj.run c o (hist ++ [.assign iv, .enc M])).1.getLast? = some (.bytes (CTR.enc c iv M)) := by
  obtain ⟨d, hd⟩ : ∃ d, DefaultCounter.new c.len iv = .ok d := by
    cases iv with
    | none => exact ⟨_, rfl⟩
    | some v => exact ⟨⟨c.len, v.take (c.len / 2), v.drop (c.len / 2)⟩, by simp [DefaultCounter.new, hiv v rfl]⟩
  rw [List.append_cons, run_last, run_snoc_obj]
  simp only [CTR.Obj.step, hd, obj_enc_fst, encWith_new c _ _ hd M]

theorem ctr_calls_keep_counter (c : BlockCipher) (o : CTR.Obj) (M : List Nat) :
    (o.step c (.enc M)).2.counter = o.counter ∧ (o.step c (.dec M)).2.counter = o.counter ∧
    (o.step c .reset).2.counter = o.counter ∧ (o.step c .call).2.counter = o.counter := by
  have he := obj_enc_counter c o M
  refine ⟨he, ?_, rfl, ?_⟩
  · simp only [CTR.Obj.step, CTR.Obj.dec]
    cases (o.enc c M).1 with
    | error e => exact he
    | ok P => by_cases hp : P.length ≠ M.length <;> simp [hp, he]
  · simp only [CTR.Obj.step]
    cases o.count <;> rfl

/-- SP 800-38A at every step: in ANY state of the object whose nonce ‖ count0 is a byte block of the cipher (count0 not
    empty), `enc(M)` and `dec(M)` are CTR with T_j = nonce ‖ [(count0 + j) mod 2^(8·|count0|)] over the standard's cipher,
    as long as M, and `dec` on the same object — after the `enc`, or after any calls that keep the counter — gives M back -/
theorem ctr_obj_spec (h : Implements c k) (o : CTR.Obj) (hne : o.counter.count0 ≠ []) (hnb : Bytes o.counter.nonce)
    (hcb : Bytes o.counter.count0) (hlen : o.counter.nonce.length + o.counter.count0.length = c.len) (M : List Nat) :
    (o.enc c M).1 = .ok (Spec.Mode.ctrOf k o.counter.nonce o.counter.count0 M) ∧
    (o.dec c M).1 = .ok (Spec.Mode.ctrOf k o.counter.nonce o.counter.count0 M) ∧
    (Spec.Mode.ctrOf k o.counter.nonce o.counter.count0 M).length = M.length ∧
    ((o.enc c M).2.dec c (Spec.Mode.ctrOf k o.counter.nonce o.counter.count0 M)).1 = .ok M := by
  have hd : IsBlock c.len (o.counter.nonce ++ o.counter.count0) := ⟨by rw [List.length_append, hlen], hnb.append hcb⟩
  have hli := ctrOf_length_invol h hd
  have hdec : ∀ (o' : CTR.Obj), o'.counter = o.counter → ∀ X,
      (o'.dec c X).1 = .ok (Spec.Mode.ctrOf k o.counter.nonce o.counter.count0 X) := by
    intro o' e X
    rw [obj_dec_fst, e, encWith_spec h _ hne hd X]
    simp only
    rw [if_neg (not_not_intro (hli X).1)]
  refine ⟨by rw [obj_enc_fst]; exact encWith_spec h _ hne hd M, hdec o rfl M, (hli M).1, ?_⟩
  have hk : (o.enc c M).2.counter = o.counter := (ctr_calls_keep_counter c o M).1
  rw [hdec _ hk, (hli M).2]

/-- the two readings of the initial counter block agree: for a block `iv` of the cipher, `Spec.Mode.ctr` (nonce = first
    ⌊len/2⌋ bytes, as `CTR(cipher,iv)` splits it) is `Spec.Mode.ctrOf` with that split -/
theorem ctr_eq_ctrOf (k : Spec.Mode.Cipher) (iv : List Nat) (hiv : iv.length = k.len) (M : List Nat) :
    Spec.Mode.ctr k iv M = Spec.Mode.ctrOf k (iv.take (k.len / 2)) (iv.drop (k.len / 2)) M := by
  unfold Spec.Mode.ctr Spec.Mode.ctrOf
  rw [counterBlock_eq_of k.len iv hiv]

/-! ### the block ciphers of the library

  `Model.Mode.Ciphers.aes K`, `.des K`, `.tdea K1 K2 K3`, `.serpent K`, `.threefish K T` are the objects `AES(K)`, `DES(K)`,
  `TDEA(K1,K2,K3)`, `Serpent(K)`, `Threefish(K,T)` as the modes see them (Model/ModeCiphers.lean); `Spec.ModeCiphers.fips197 K`,
  `.fips46 K`, `.sp80067 ko`, `.serpent K`, `.threefish K T` are CIPH_K / CIPH⁻¹_K of FIPS 197, FIPS 46-3, SP 800-67 (key bundle
  `ko`), the Serpent submission and Threefish-256/512/1024 of Skein 1.3 (key K, tweak T).
  Each `…_implements` pairs `Implements` with the success of the constructor; no hypothesis about the cipher is left. -/

/-- AES-128/192/256: every key of 16, 24 or 32 bytes -/
theorem aes_implements (K : List Nat) (hl : K.length = 16 ∨ K.length = 24 ∨ K.length = 32) (hb : Bytes K) :
    Implements (Ciphers.aes K) (Spec.ModeCiphers.fips197 K) ∧ Ciphers.aes? K = .ok (Ciphers.aes K) :=
  ⟨Proofs.Lemmas.ModeInst.aes_implements K ⟨hl, hb⟩, aes_ctor K ⟨hl, hb⟩⟩

/-- DES: every 8-byte key (weak keys, any parity) -/
theorem des_implements (K : List Nat) (hl : K.length = 8) (hb : Bytes K) :
    Implements (Ciphers.des K) (Spec.ModeCiphers.fips46 K) ∧ Ciphers.des? K = .ok (Ciphers.des K) :=
  ⟨Proofs.Lemmas.ModeInst.des_implements K ⟨hl, hb⟩, des_ctor K ⟨hl, hb⟩⟩

/-- TDEA: every accepted constructor call `TDEA(K1,K2,K3)`, with the key bundle `ko` (keying option 1, 2 or 3) it denotes -/
theorem tdea_implements (K1 : List Nat) (K2 K3 : Option (List Nat)) (ko : Spec.Des.Keying)
    (hcall : Spec.ModeCiphers.keyingOfCall K1 K2 K3 = some ko) (hko : KeyingOk ko) :
    Implements (Ciphers.tdea K1 K2 K3) (Spec.ModeCiphers.sp80067 ko) ∧ Ciphers.tdea? K1 K2 K3 = .ok (Ciphers.tdea K1 K2 K3) :=
  ⟨Proofs.Lemmas.ModeInst.tdea_implements K1 K2 K3 ko ⟨hcall, hko⟩, tdea_ctor K1 K2 K3 ko ⟨hcall, hko⟩⟩

/-- the calling forms: one string of 8 / 16 / 24 bytes (keying option 3 / 2 / 1), two 8-byte strings (option 2),
    three 8-byte strings (option 1) are accepted calls, with these bundles -/
theorem tdea_calling_forms :
    (∀ K, K.length = 8 → Bytes K → TdeaKey K none none (.opt3 K)) ∧
    (∀ K, K.length = 16 → Bytes K → TdeaKey K none none (.opt2 (K.take 8) (K.drop 8))) ∧
    (∀ K, K.length = 24 → Bytes K → TdeaKey K none none (.opt1 (K.take 8) ((K.drop 8).take 8) (K.drop 16))) ∧
    (∀ K1 K2, IsBlock 8 K1 → IsBlock 8 K2 → TdeaKey K1 (some K2) none (.opt2 K1 K2)) ∧
    (∀ K1 K2 K3, IsBlock 8 K1 → IsBlock 8 K2 → IsBlock 8 K3 → TdeaKey K1 (some K2) (some K3) (.opt1 K1 K2 K3)) :=
  ⟨tdeaKey_string8, tdeaKey_string16, tdeaKey_string24, tdeaKey_two, tdeaKey_three⟩

/-- Serpent: every key of 0..32 bytes (shorter keys padded as the submission prescribes); the object with its key
    schedule computed once is the same cipher -/
theorem serpent_implements (K : List Nat) (hl : K.length ≤ 32) (hb : Bytes K) :
    Implements (Ciphers.serpent K) (Spec.ModeCiphers.serpent K) ∧ Ciphers.serpent? K = .ok (Ciphers.serpent K) :=
  ⟨Proofs.Lemmas.ModeInst.serpent_implements K ⟨hl, hb⟩, serpent_ctor K ⟨hl, hb⟩⟩

/-- Threefish-256/512/1024: every key of 32, 64 or 128 bytes with every 16-byte tweak; the block is as long as the key; the
    object with its extended key / tweak words computed once (and `blocksize` read from `K.size`) is the same cipher -/
theorem threefish_implements (K T : List Nat) (hl : K.length = 32 ∨ K.length = 64 ∨ K.length = 128) (hb : Bytes K)
    (htl : T.length = 16) (htb : Bytes T) :
    Implements (Ciphers.threefish K T) (Spec.ModeCiphers.threefish K T) ∧ (Ciphers.threefish K T).len = K.length ∧
    Ciphers.threefish? K T = .ok (Ciphers.threefish K T) :=
  ⟨Proofs.Lemmas.ModeInst.threefish_implements K T ⟨hl, hb, htl, htb⟩, rfl, threefish_ctor K T ⟨hl, hb, htl, htb⟩⟩

/-- the block lengths of the library: 8 (DES, TDEA), 16 (AES, Serpent), 32 / 64 / 128 bytes (Threefish-256/512/1024) — all
    even and below 256, which is what `lib_ecb … lib_ctr` need of them; each one occurs -/
theorem lib_block_lengths :
    (∀ {c k}, LibCipher c k → c.len = 8 ∨ c.len = 16 ∨ c.len = 32 ∨ c.len = 64 ∨ c.len = 128) ∧
    (∀ n, n = 8 ∨ n = 16 ∨ n = 32 ∨ n = 64 ∨ n = 128 → ∃ c k, LibCipher c k ∧ c.len = n) := by
  refine ⟨fun h => lib_len h, ?_⟩
  have hz : ∀ n, Bytes (List.replicate n 0) := fun n => AllBytes.replicate (by decide) _
  intro n hn
  rcases hn with rfl | rfl | h
  · exact ⟨_, _, .des (List.replicate 8 0) ⟨by simp, hz _⟩, rfl⟩
  · exact ⟨_, _, .aes (List.replicate 16 0) ⟨by simp, hz _⟩, rfl⟩
  · exact ⟨_, _, .threefish (List.replicate n 0) (List.replicate 16 0) ⟨by simpa using h, hz _, by simp, hz _⟩,
      by simp [Ciphers.threefish]⟩

/-! #### the property for the library: `LibCipher c k` — c is `AES(K)` / `DES(K)` / `TDEA(K1,K2,K3)` / `Serpent(K)` /
    `Threefish(K,T)` with an accepted key (and tweak), k the standard's cipher with that key.  Every block length is 8, 16,
    32, 64 or 128 bytes, so every padding scheme is admissible for every message (`LibPadDom`: nopadding needs a non-empty
    block multiple; a PKCS#7 / X9.23 pad byte holds up to 128) and the default counter for every cipher (`LibCtrDom`: None or
    any one-block string; its nonce and running halves have 4, 8, 16, 32 or 64 bytes). -/

/-- ECB: SP 800-38A ECB over the standard's cipher of the padded message; length; decryption by an equally configured
    object in any padding state -/
theorem lib_ecb (hc : LibCipher c k) (s : Spec.ModePad.Scheme) (M : List Nat) (hM : Bytes M) (hd : LibPadDom c.len s M)
    (st : PadState) :
    ECB.enc c (toModel s) M = .ok (Spec.Mode.ecb k s M) ∧
    ECB.dec c (toModel s) (Spec.Mode.ecb k s M) st = .ok M ∧
    (Spec.Mode.ecb k s M).length = (if s = .none then M.length else (M.length / c.len + 1) * c.len) := by
  have f := ecb_facts (lib_implements hc) s M hM (lib_padDom hc s M hd)
  exact ⟨f.1, f.2.1 st, f.2.2⟩

/-- CBC: IV ‖ SP 800-38A CBC over the standard's cipher of the padded message; length; decryption -/
theorem lib_cbc (hc : LibCipher c k) (iv : List Nat) (hiv : IsBlock c.len iv) (s : Spec.ModePad.Scheme) (M : List Nat)
    (hM : Bytes M) (hd : LibPadDom c.len s M) (st : PadState) :
    CBC.enc c iv (toModel s) M = .ok (Spec.Mode.cbc k iv s M) ∧
    CBC.dec c iv (toModel s) (Spec.Mode.cbc k iv s M) st = .ok M ∧
    (Spec.Mode.cbc k iv s M).take c.len = iv ∧
    (Spec.Mode.cbc k iv s M).length = (if s = .none then M.length else (M.length / c.len + 1) * c.len) + c.len := by
  have f := cbc_facts (lib_implements hc) iv hiv s M hM (lib_padDom hc s M hd)
  exact ⟨f.1, f.2.1 st, f.2.2⟩

/-- CTR with the default counter (None, or any initial counter block): SP 800-38A CTR over the standard's cipher with
    T_j = nonce ‖ BE((count0 + j) mod 2^(8·⌈len/2⌉)); every message length; |C| = |M|; decryption -/
theorem lib_ctr (hc : LibCipher c k) (iv : Option (List Nat)) (hiv : LibCtrDom c.len iv) (M : List Nat) :
    CTR.enc c iv M = .ok (Spec.Mode.ctr k (iv.getD (List.replicate c.len 0)) M) ∧
    (Spec.Mode.ctr k (iv.getD (List.replicate c.len 0)) M).length = M.length ∧
    (CTR.enc c iv M).bind (CTR.dec c iv) = .ok M := by
  have h := lib_implements hc
  have hiv' := lib_ctrDom hc iv hiv
  exact ⟨ctr_spec h iv hiv' M, (ctr_length_invol h _ (ctrDom_block hiv') M).1, ctr_dec_enc h iv hiv' M⟩

/-- ECB with ciphertext stealing, |M| ≥ one block: the stolen-ciphertext construction over the standard's cipher,
    |C| = |M|, decryption -/
theorem lib_cts_ecb (hc : LibCipher c k) (M : List Nat) (hM : Bytes M) (hlen : c.len ≤ M.length) :
    CTS_ECB.enc c .no M = .ok (Spec.Mode.ecbCts k M) ∧
    (Spec.Mode.ecbCts k M).length = M.length ∧
    CTS_ECB.dec c .no (Spec.Mode.ecbCts k M) = .ok M := by
  have h := lib_implements hc
  exact ⟨cts_ecb_spec h M hM hlen, (ecbCts_facts h M hM hlen).2.1, cts_ecb_dec_of h M hM hlen⟩

/-- CBC with ciphertext stealing, |M| ≥ one block: IV ‖ CBC-CS2 (SP 800-38A addendum) over the standard's cipher,
    |C| = |M| + one block, decryption -/
theorem lib_cts_cbc (hc : LibCipher c k) (iv : List Nat) (hiv : IsBlock c.len iv) (M : List Nat) (hM : Bytes M)
    (hlen : c.len ≤ M.length) :
    CTS_CBC.enc c iv .no M = .ok (Spec.Mode.cbcCts k iv M) ∧
    (Spec.Mode.cbcCts k iv M).length = M.length + c.len ∧
    (Spec.Mode.cbcCts k iv M).take c.len = iv ∧
    CTS_CBC.dec c iv .no (Spec.Mode.cbcCts k iv M) = .ok M := by
  have h := lib_implements hc
  obtain ⟨_, hl, ht, _⟩ := cbcCts_facts h iv hiv M hM hlen
  exact ⟨cts_cbc_spec h iv hiv M hM hlen, hl, ht, cts_cbc_dec_of h iv hiv M hM hlen⟩

/-- decryption of arbitrary strings by the stealing modes over a library cipher: the Spec inverses over the standard's cipher -/
theorem lib_cts_dec (hc : LibCipher c k) (iv : List Nat) (hiv : iv.length = c.len) (C : List Nat) (hC : Bytes C) :
    (c.len ≤ C.length → CTS_ECB.dec c .no C = .ok (Spec.Mode.ecbCtsInv k C)) ∧
    (2 * c.len ≤ C.length → CTS_CBC.dec c iv .no C = .ok (Spec.Mode.cbcCtsInv k C)) :=
  ⟨fun hl => cts_ecb_dec_spec (lib_implements hc) C hC hl, fun hl => cts_cbc_dec_spec (lib_implements hc) iv hiv C hC hl⟩

/-! #### instances of `lib_*`, read for one cipher at a time -/

/-- `CBC(AES(K),iv)` with the default PKCS#7 padding, any key of 16/24/32 bytes, any 16-byte IV, ANY message:
    the output is IV ‖ SP 800-38A CBC over FIPS 197 of the PKCS#7-padded message, and `dec` returns the message -/
example (K iv M : List Nat) (hl : K.length = 16 ∨ K.length = 24 ∨ K.length = 32) (hK : Bytes K) (hiv : IsBlock 16 iv)
    (hM : Bytes M) :
    CBC.enc (Ciphers.aes K) iv .pkcs7 M = .ok (Spec.Mode.cbc (Spec.ModeCiphers.fips197 K) iv .pkcs7 M) ∧
    (CBC.enc (Ciphers.aes K) iv .pkcs7 M).bind (fun C => CBC.dec (Ciphers.aes K) iv .pkcs7 C) = .ok M := by
  obtain ⟨h1, h2, _, _⟩ := lib_cbc (.aes K ⟨hl, hK⟩) iv hiv .pkcs7 M hM (fun h => by cases h) {}
  have h1' : CBC.enc (Ciphers.aes K) iv .pkcs7 M = _ := h1
  exact ⟨h1', by rw [h1']; exact h2⟩

/-- `CTR(TDEA(K))` with one 24-byte key string and the default counter, ANY message: SP 800-38A CTR over TDEA
    keying option 1 with the three 8-byte parts of K, nonce and count zero; same length; `dec` inverts -/
example (K M : List Nat) (hl : K.length = 24) (hK : Bytes K) :
    CTR.enc (Ciphers.tdea K none none) none M
      = .ok (Spec.Mode.ctr (Spec.ModeCiphers.sp80067 (.opt1 (K.take 8) ((K.drop 8).take 8) (K.drop 16))) (List.replicate 8 0) M) ∧
    (CTR.enc (Ciphers.tdea K none none) none M).bind (CTR.dec (Ciphers.tdea K none none) none) = .ok M := by
  obtain ⟨h1, _, h3⟩ := lib_ctr (.tdea K none none _ (tdeaKey_string24 K hl hK)) none (fun _ h => by cases h) M
  exact ⟨h1, h3⟩

/-- `CTS_ECB(Serpent(K))`, any key of at most 32 bytes, any message of at least 16 bytes: as long as the message -/
example (K M : List Nat) (hl : K.length ≤ 32) (hK : Bytes K) (hM : Bytes M) (hlen : 16 ≤ M.length) :
    ∃ C, CTS_ECB.enc (Ciphers.serpent K) .no M = .ok C ∧ C.length = M.length ∧
      C = Spec.Mode.ecbCts (Spec.ModeCiphers.serpent K) M ∧ CTS_ECB.dec (Ciphers.serpent K) .no C = .ok M := by
  obtain ⟨h1, h2, h3⟩ := lib_cts_ecb (.serpent K ⟨hl, hK⟩) M hM hlen
  exact ⟨_, h1, h2, rfl, h3⟩

/-- `CTR(Threefish(K,T))` with the default counter (None, or any 128-byte initial counter block), Threefish-1024, ANY
    message: SP 800-38A CTR over Threefish-1024 with T_j = 64-byte nonce ‖ BE((count0 + j) mod 2^512); same length; `dec` inverts -/
example (K T M : List Nat) (iv : Option (List Nat)) (hl : K.length = 128) (hK : Bytes K) (hT : IsBlock 16 T)
    (hiv : ∀ v, iv = some v → IsBlock 128 v) :
    CTR.enc (Ciphers.threefish K T) iv M
      = .ok (Spec.Mode.ctr (Spec.ModeCiphers.threefish K T) (iv.getD (List.replicate 128 0)) M) ∧
    (Spec.Mode.ctr (Spec.ModeCiphers.threefish K T) (iv.getD (List.replicate 128 0)) M).length = M.length ∧
    (CTR.enc (Ciphers.threefish K T) iv M).bind (CTR.dec (Ciphers.threefish K T) iv) = .ok M := by
  have h := lib_ctr (.threefish K T ⟨Or.inr (Or.inr hl), hK, hT.1, hT.2⟩) iv
    (fun v hv => by show IsBlock K.length v; rw [hl]; exact hiv v hv) M
  have e : (Ciphers.threefish K T).len = 128 := hl
  rw [e] at h
  exact h

/-- `CBC(Threefish(K,T),iv)` with PKCS#7, Threefish-512: a pad of up to 64 bytes; IV ‖ CBC chain; `dec` returns the message -/
example (K T iv M : List Nat) (hl : K.length = 64) (hK : Bytes K) (hT : IsBlock 16 T) (hiv : IsBlock 64 iv) (hM : Bytes M) :
    CBC.enc (Ciphers.threefish K T) iv .pkcs7 M = .ok (Spec.Mode.cbc (Spec.ModeCiphers.threefish K T) iv .pkcs7 M) ∧
    (Spec.Mode.cbc (Spec.ModeCiphers.threefish K T) iv .pkcs7 M).length = (M.length / 64 + 1) * 64 + 64 ∧
    CBC.dec (Ciphers.threefish K T) iv .pkcs7 (Spec.Mode.cbc (Spec.ModeCiphers.threefish K T) iv .pkcs7 M) = .ok M := by
  obtain ⟨h1, h2, _, h4⟩ := lib_cbc (.threefish K T ⟨Or.inr (Or.inl hl), hK, hT.1, hT.2⟩) iv
    (by show IsBlock K.length iv; rw [hl]; exact hiv) .pkcs7 M hM (fun h => by cases h) {}
  have e : (Ciphers.threefish K T).len = 64 := hl
  rw [e] at h4
  exact ⟨h1, by simpa using h4, h2⟩

/-! ### the two padding specifications agree (Spec.ModePad of this property, Spec.Padding of the padding property C09) -/

/-- for every byte string the padded string Spec.ModePad defines (PKCS#7, X9.23, bit padding, none; block of l bytes) is
    the bit-level padded string of Spec.Padding (block of 8·l bits), read back as bytes -/
theorem modepad_eq_padding (s : Spec.ModePad.Scheme) (l : Nat) (hl : 0 < l) (M : List Nat) (hM : Bytes M)
    (h256 : s = .pkcs7 ∨ s = .x923 → l < 256) :
    Spec.ModePad.pad s l M =
      Spec.Padding.padBytes (Proofs.Lemmas.ModePadTie.toPadding s) (8 * l) M (8 * M.length) :=
  Proofs.Lemmas.ModePadTie.pad_eq s l hl M hM h256

/-- the PKCS#7 / X9.23 unpadding maps of the two specifications are the same functions (all inputs) -/
theorem modepad_unpad_eq_padding (l : Nat) (X : List Nat) :
    Spec.ModePad.unpkcs7 l X = Spec.Padding.pkcs7Unpad l X ∧ Spec.ModePad.unx923 l X = Spec.Padding.x923Unpad l X :=
  ⟨Proofs.Lemmas.ModePadTie.unpkcs7_eq l X, Proofs.Lemmas.ModePadTie.unx923_eq l X⟩

/-! ### non-vacuity: the hypotheses are inhabited by a non-trivial instance -/

/-- library instances: Threefish-256, AES-192, TDEA called with one 24-byte string, Serpent with a 5-byte key, DES -/
example : LibCipher (Ciphers.threefish (List.range 32) (List.range 16)) (Spec.ModeCiphers.threefish (List.range 32) (List.range 16)) :=
  .threefish _ _ ⟨by decide, by unfold Bytes; decide, by decide, by unfold Bytes; decide⟩
example : LibCipher (Ciphers.aes (List.range 24)) (Spec.ModeCiphers.fips197 (List.range 24)) :=
  .aes _ ⟨by decide, by unfold Bytes; decide⟩
example : LibCipher (Ciphers.tdea (List.range 24) none none)
    (Spec.ModeCiphers.sp80067 (.opt1 (List.range 8) [8, 9, 10, 11, 12, 13, 14, 15] [16, 17, 18, 19, 20, 21, 22, 23])) :=
  .tdea _ _ _ _ (tdeaKey_string24 (List.range 24) (by decide) (by unfold Bytes; decide))
example : LibCipher (Ciphers.serpent [1, 2, 3, 4, 255]) (Spec.ModeCiphers.serpent [1, 2, 3, 4, 255]) :=
  .serpent _ ⟨by decide, by unfold Bytes; decide⟩
example : LibCipher (Ciphers.des [1, 1, 1, 1, 1, 1, 1, 1]) (Spec.ModeCiphers.fips46 [1, 1, 1, 1, 1, 1, 1, 1]) :=
  .des _ ⟨by decide, by unfold Bytes; decide⟩
example : LibPadDom 16 .x923 [1, 2, 3] ∧ LibPadDom 16 .none (List.replicate 32 7) ∧ LibCtrDom 16 none ∧
    LibCtrDom 8 (some [0, 0, 0, 1, 255, 255, 255, 255]) ∧ LibPadDom 128 .pkcs7 (List.replicate 200 7) ∧
    LibCtrDom 32 (some (List.replicate 16 9 ++ List.replicate 16 255)) := by
  refine ⟨?_, ?_, ?_, ?_, ?_, ?_⟩
  · intro h; cases h
  · intro _; exact ⟨by decide, by decide⟩
  · intro v h; cases h
  · intro v h; cases h; exact ⟨rfl, by unfold Bytes; decide⟩
  · intro h; cases h
  · intro v h; cases h; exact ⟨rfl, by unfold Bytes; decide⟩

/-- one object through a history, computed: `CTR(rot)` with the default counter encrypts ABCDE, gets the counter block
    07 07 ‖ ff ff by `setup`, encrypts ABCDE again (the running half wraps to 0000 for the second block) and is asked for the
    next counter block: the second ciphertext differs from the first and is the one a NEW object `CTR(rot, 0707ffff)` returns -/
example :
    (CTR.Obj.run (Toy.rot 4 [1, 2, 3, 4]) ⟨⟨4, [0, 0], [0, 0]⟩, none⟩
      [.enc [65, 66, 67, 68, 69], .setup (some [7, 7]) (some [255, 255]), .enc [65, 66, 67, 68, 69], .call]).1.map outBytes
      = [some [67, 65, 71, 69, 71], none, some [68, 190, 184, 66, 64], some [7, 7, 0, 1]] ∧
    okBytes (CTR.enc (Toy.rot 4 [1, 2, 3, 4]) (some [7, 7, 255, 255]) [65, 66, 67, 68, 69]) = some [68, 190, 184, 66, 64] := by
  decide +kernel

/-- the hypotheses of `ctr_obj_spec` hold in the state that history leaves (and `ctr_step_depends_only_on_counter` applies to
    it and a new object with that counter block) -/
example :
    let o := (CTR.Obj.run (Toy.rot 4 [1, 2, 3, 4]) ⟨⟨4, [0, 0], [0, 0]⟩, none⟩
      [.enc [65, 66, 67, 68, 69], .setup (some [7, 7]) (some [255, 255]), .enc [65, 66, 67, 68, 69], .call]).2
    o.counter.count0 ≠ [] ∧ Bytes o.counter.nonce ∧ Bytes o.counter.count0 ∧
    o.counter.nonce.length + o.counter.count0.length = (Toy.rot 4 [1, 2, 3, 4]).len ∧ o.count = some ⟨2, 16⟩ ∧
    o.counter.nonce = (⟨4, [7, 7], [255, 255]⟩ : DefaultCounter).nonce := by
  refine ⟨by decide +kernel, ?_, ?_, by decide +kernel, by decide +kernel, by decide +kernel⟩
  · unfold Bytes
    decide +kernel
  · unfold Bytes
    decide +kernel

/-! ### one ECB / CBC / CTS object used again and again

  `Model.Mode.Seq.Obj` is what an `ECB` / `CBC` / `CTS_ECB` / `CTS_CBC` object keeps between calls: the state of its padding
  object `self.pad` (every `enc` resets it and leaves the pad count of ITS message behind; `dec` hands it to `pad.remove`).
  `Seq.Obj.step` is one public call, `Seq.Obj.run` a history of them; `Cfg` = (class, IV, padding scheme).  The correspondence
  stream (`modeseq` lines) drives the real object and this machine through the same histories, Nullpadding included. -/

/-- the result of `dec` does not depend on the padding state of the decrypting object — for every padding scheme except
    Nullpadding (whose `remove` strips the pad count of the latest `enc`: known finding C10-nullpad-remove) -/
theorem modeseq_dec_ignores_pad_state (cfg : Cfg) (c : BlockCipher) (hs : cfg.scheme ≠ .null) (C : List Nat) (st st' : PadState) :
    cfg.dec c C st = cfg.dec c C st' := by
  unfold Cfg.dec
  cases cfg.kind with
  | ctsEcb => rfl
  | ctsCbc => rfl
  | ecb => exact ecb_dec_state_free c cfg.scheme hs C st st'
  | cbc => exact cbc_dec_state_free c cfg.iv cfg.scheme hs C st st'

/-- HISTORY INDEPENDENCE: from ANY starting state of the object, through ANY history of `enc` / `dec` calls, every call returns
    what it returns as the only call on a new object (`Step.alone`): `enc(M)` a function of the configuration and M, `dec(C)` a
    function of the configuration and C — in particular not of the messages encrypted before, their lengths, or the order of
    the calls.  (Every padding scheme except Nullpadding.) -/
theorem modeseq_history_independent (cfg : Cfg) (c : BlockCipher) (hs : cfg.scheme ≠ .null) :
    ∀ (steps : List Seq.Step) (o : Seq.Obj), (Seq.Obj.run cfg c o steps).1 = steps.map (Seq.Step.alone cfg c)
  | [], _ => rfl
  | s :: ss, o => by
    simp only [Seq.Obj.run, List.map_cons, modeseq_history_independent cfg c hs ss]
    cases s with
    | enc M => rfl
    | dec C => simp only [Seq.Obj.step, Seq.Step.alone, modeseq_dec_ignores_pad_state cfg c hs C o.pad {}]

/-- the step-sequence corollary of `ecb_dec_enc`: ONE object `ECB(cipher,pad=s)` in any state, any calls `before`, then
    `enc(M)` — which returns the SP 800-38A ciphertext C of the padded M —, any calls `between` (encryptions of messages of other
    lengths, decryptions, refused calls), then `dec(C)`: the object gives M back.  s: no padding / PKCS#7 / X9.23 / bit padding -/
theorem modeseq_ecb_dec_earlier (h : Implements c k) (s : Spec.ModePad.Scheme) (M : List Nat) (hM : Bytes M) (hd : PadDom s c.len M)
    (o : Seq.Obj) (before between : List Seq.Step) :
    (Seq.Obj.run ⟨.ecb, [], toModel s⟩ c o (before ++ [.enc M])).1.getLast? = some (.ok (Spec.Mode.ecb k s M)) ∧
    (Seq.Obj.run ⟨.ecb, [], toModel s⟩ c o (before ++ .enc M :: between ++ [.dec (Spec.Mode.ecb k s M)])).1.getLast? = some (.ok M) := by
  refine ⟨by rw [seq_run_last]; exact congrArg some (ecb_spec h s M hM hd), ?_⟩
  rw [seq_run_last]
  exact congrArg some ((ecb_facts h s M hM hd).2.1 _)

/-- the same for ONE object `CBC(cipher,iv,pad=s)` -/
theorem modeseq_cbc_dec_earlier (h : Implements c k) (iv : List Nat) (hiv : IsBlock c.len iv) (s : Spec.ModePad.Scheme) (M : List Nat)
    (hM : Bytes M) (hd : PadDom s c.len M) (o : Seq.Obj) (before between : List Seq.Step) :
    (Seq.Obj.run ⟨.cbc, iv, toModel s⟩ c o (before ++ [.enc M])).1.getLast? = some (.ok (Spec.Mode.cbc k iv s M)) ∧
    (Seq.Obj.run ⟨.cbc, iv, toModel s⟩ c o (before ++ .enc M :: between ++ [.dec (Spec.Mode.cbc k iv s M)])).1.getLast? = some (.ok M) := by
  refine ⟨by rw [seq_run_last]; exact congrArg some (cbc_spec h iv hiv s M hM hd), ?_⟩
  rw [seq_run_last]
  exact congrArg some ((cbc_facts h iv hiv s M hM hd).2.1 _)

/-- … and for the stealing modes: after any history, `dec` of what an earlier `enc(M)` returned gives M back -/
theorem modeseq_cts_dec_earlier (h : Implements c k) (iv : List Nat) (hiv : IsBlock c.len iv) (M : List Nat) (hM : Bytes M)
    (hlen : c.len ≤ M.length) (o : Seq.Obj) (before between : List Seq.Step) :
    (∃ C, CTS_ECB.enc c .no M = .ok C ∧
      (Seq.Obj.run ⟨.ctsEcb, [], .no⟩ c o (before ++ .enc M :: between ++ [.dec C])).1.getLast? = some (.ok M)) ∧
    (∃ C, CTS_CBC.enc c iv .no M = .ok C ∧
      (Seq.Obj.run ⟨.ctsCbc, iv, .no⟩ c o (before ++ .enc M :: between ++ [.dec C])).1.getLast? = some (.ok M)) := by
  refine ⟨⟨_, cts_ecb_spec h M hM hlen, ?_⟩, ⟨_, cts_cbc_spec h iv hiv M hM hlen, ?_⟩⟩
  · rw [seq_run_last]
    exact congrArg some (cts_ecb_dec_of h M hM hlen)
  · rw [seq_run_last]
    exact congrArg some (cts_cbc_dec_of h iv hiv M hM hlen)

/-- computed: ONE object `ECB(rot,pad=bitpadding)` encrypts AB (16 pad bits), then ABCDE (24 pad bits), then decrypts the FIRST
    ciphertext and the second: both messages come back; the history leaves the pad count 24 of the latest message behind -/
example :
    (Seq.Obj.run ⟨.ecb, [], .bit⟩ (Toy.rot 4 [1, 2, 3, 4]) {}
      [.enc [65, 66], .enc [65, 66, 67, 68, 69], .dec [64, 131, 4, 64], .dec [64, 64, 64, 64, 130, 3, 4, 68]]).1.map okBytes
      = [some [64, 131, 4, 64], some [64, 64, 64, 64, 130, 3, 4, 68], some [65, 66], some [65, 66, 67, 68, 69]] ∧
    (Seq.Obj.run ⟨.ecb, [], .bit⟩ (Toy.rot 4 [1, 2, 3, 4]) {} [.enc [65, 66], .enc [65, 66, 67, 68, 69]]).2.pad.padcnt = 24 := by
  decide +kernel

/-- the hypothesis `scheme ≠ Nullpadding` of `modeseq_dec_ignores_pad_state` / `modeseq_history_independent` cannot be dropped:
    the same history with Nullpadding returns A for the first ciphertext (24 bits stripped, the pad count of the second
    message, instead of 16) while a new object returns AB 00 00 (nothing stripped) -/
example :
    (Seq.Obj.run ⟨.ecb, [], .null⟩ (Toy.rot 4 [1, 2, 3, 4]) {} [.enc [65, 66], .enc [65, 66, 67, 68, 69], .dec [64, 3, 4, 64]]).1.map okBytes
      = [some [64, 3, 4, 64], some [64, 64, 64, 64, 2, 3, 4, 68], some [65]] ∧
    okBytes (Seq.Step.alone ⟨.ecb, [], .null⟩ (Toy.rot 4 [1, 2, 3, 4]) (.dec [64, 3, 4, 64])) = some [65, 66, 0, 0] := by
  decide +kernel

/-- a concrete permutation cipher on 8-byte blocks satisfying `Implements` (for every block length n ≥ 1 and n-byte key:
    `Proofs.Lemmas.ModeL.toy_rot_implements`) -/
example : Implements (Toy.rot 8 [1, 2, 3, 4, 5, 6, 7, 250]) ⟨8, Toy.rotEncF [1, 2, 3, 4, 5, 6, 7, 250], Toy.rotDecF [1, 2, 3, 4, 5, 6, 7, 250]⟩ :=
  toy_rot_implements 8 (by decide) _ ⟨rfl, by unfold Bytes; decide⟩

/-- the domains are inhabited: a 13-byte message under every padding scheme with 8-byte blocks, a 16-byte one without -/
example : PadDom .pkcs7 8 (List.replicate 13 7) ∧ PadDom .x923 8 (List.replicate 13 7) ∧ PadDom .bit 8 (List.replicate 13 7)
    ∧ PadDom .none 8 (List.replicate 16 7) ∧ Bytes (List.replicate 13 7) := by
  refine ⟨by show 8 < 256; decide, by show 8 < 256; decide, trivial, by show 16 % 8 = 0 ∧ 0 < 16; decide,
    AllBytes.replicate (by decide) _⟩

example : CtrDom 8 none ∧ CtrDom 8 (some [0, 0, 0, 1, 255, 255, 255, 255]) ∧ IsBlock 8 [9, 8, 7, 6, 5, 4, 3, 2] := by
  refine ⟨by show 8 % 2 = 0; decide, ⟨rfl, by unfold Bytes; decide⟩, ⟨rfl, by unfold Bytes; decide⟩⟩

/-- the theorems compute: the toy cipher in CBC with PKCS#7 on a 3-byte message -/
example : CBC.enc (Toy.rot 4 [1, 2, 3, 4]) [9, 9, 9, 9] .pkcs7 [65, 66, 67]
    = .ok (Spec.Mode.cbc ⟨4, Toy.rotEncF [1, 2, 3, 4], Toy.rotDecF [1, 2, 3, 4]⟩ [9, 9, 9, 9] .pkcs7 [65, 66, 67]) := by
  rfl

end Proofs.C05
