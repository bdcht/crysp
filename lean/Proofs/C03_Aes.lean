/-
  C03, AES part — AES of crysp/aes.py (Model.Aes, tables regenerated from the source) is a permutation for every key:
  dec inverts enc and enc inverts dec on every 16-byte block, the result has the block length, and the exposed
  component pairs Sbox/Sbox_inv, ShiftRows/InvShiftRows, MixColumns/InvMixColumns are mutual inverses on their whole
  domain (MixColumns on all 2^32 columns by the ring laws of GF(2^8), `circ_circ` in AesMix.lean, not by sampling).
-/
import Proofs.Lemmas.AesApi
namespace Proofs.C03_Aes
open Model Proofs.Aes

/-! ### S-boxes (complete domain: the tables are the FIPS 197 S-boxes, which invert each other on all 256 bytes) -/

theorem sboxinv_sbox : ∀ b < 256, Aes.sboxInv (Aes.sbox b) = b := fun _ h => (sbox_pair.undo h).1
theorem sbox_sboxinv : ∀ b < 256, Aes.sbox (Aes.sboxInv b) = b := fun _ h => (sbox_pair.undo h).2

/-- `Sbox_inv(Sbox(state)) == state == Sbox(Sbox_inv(state))` for byte states of every length (the exposed functions) -/
theorem Sbox_pair (s : List Nat) (h : IsBytes s) :
    (Aes.SboxE s >>= Aes.SboxInvE) = .ok s ∧ (Aes.SboxInvE s >>= Aes.SboxE) = .ok s :=
  (subBytes_pair.exposed SboxE_ok SboxInvE_ok h).1

/-! ### ShiftRows / InvShiftRows: every 16-coefficient state (no condition on the coefficients) -/

theorem ShiftRows_pair (s : List Nat) (h : s.length = 16) :
    (Aes.ShiftRowsE s >>= Aes.InvShiftRowsE) = .ok s ∧ (Aes.InvShiftRowsE s >>= Aes.ShiftRowsE) = .ok s :=
  (shiftRows_pair.exposed ShiftRowsE_ok InvShiftRowsE_ok h).1

/-- on every one of the 2^32 columns, both ways -/
theorem MixColumn_pair (a b c d : Nat) (ha : a < 256) (hb : b < 256) (hc : c < 256) (hd : d < 256) :
    Aes.invMixColumn (Aes.mixColumn [a, b, c, d]) = [a, b, c, d] ∧
    Aes.mixColumn (Aes.invMixColumn [a, b, c, d]) = [a, b, c, d] :=
  mixColumn_pair.undo (wd_mk ha hb hc hd)

/-- on every 16-byte state (the exposed methods) -/
theorem MixColumns_pair (s : List Nat) (h : St s) :
    (Aes.MixColumnsE s >>= Aes.InvMixColumnsE) = .ok s ∧ (Aes.InvMixColumnsE s >>= Aes.MixColumnsE) = .ok s :=
  (mixColumns_pair.exposed (MixColumnsE_ok ·.1) (InvMixColumnsE_ok ·.1) h).1

theorem AddRoundKey_involution (s k : List Nat) (h : k.length = s.length) :
    Aes.addRoundKey (Aes.addRoundKey s k) k = s := addRoundKey_addRoundKey h

/-! ### the cipher: every key of 16/24/32 bytes, every 16-byte block -/

theorem dec_enc (K B : List Nat) (hK : KeyOk K) (hB : St B) : (Aes.enc K B >>= Aes.dec K) = .ok B :=
  ((cipher_pair_key hK).exposed (enc_ok hK.1 ·.1) (dec_ok hK.1 ·.1) hB).1.1

theorem enc_dec (K B : List Nat) (hK : KeyOk K) (hB : St B) : (Aes.dec K B >>= Aes.enc K) = .ok B :=
  ((cipher_pair_key hK).exposed (enc_ok hK.1 ·.1) (dec_ok hK.1 ·.1) hB).1.2

/-- whenever enc / dec return, the result has the length of the input block (and is again a block of bytes) -/
theorem enc_length (K B C : List Nat) (hK : KeyOk K) (hB : St B) (h : Aes.enc K B = .ok C) : C.length = B.length ∧ St C := by
  have hst := ((cipher_pair_key hK).st hB).1
  rw [enc_ok hK.1 hB.1] at h
  exact Except.ok.inj h ▸ ⟨hst.1.trans hB.1.symm, hst⟩

theorem dec_length (K B C : List Nat) (hK : KeyOk K) (hB : St B) (h : Aes.dec K B = .ok C) : C.length = B.length ∧ St C := by
  have hst := ((cipher_pair_key hK).st hB).2
  rw [dec_ok hK.1 hB.1] at h
  exact Except.ok.inj h ▸ ⟨hst.1.trans hB.1.symm, hst⟩

/-- unconditional length law: any successful enc (whatever the key and input) returns exactly 16 bytes, the input length -/
theorem enc_ok_length (K B C : List Nat) (h : Aes.enc K B = .ok C) : B.length = 16 ∧ C.length = 16 := by
  by_cases hb : B.length = 16
  · by_cases hk : K.length = 16 ∨ K.length = 24 ∨ K.length = 32
    · rw [enc_ok hk hb] at h
      injection h with h
      rw [← h]
      exact ⟨hb, (addRoundKey_length _ _).trans (shiftRows_length _)⟩
    · rw [enc_err_key hk] at h
      cases h
  · obtain ⟨e, he⟩ := enc_err_block (K := K) hb
    rw [he] at h
    cases h

/-- consequence for the standard itself (the spec half of `cipher_pair_key`, which carries model and standard
    together): FIPS 197 InvCipher inverts Cipher and conversely, for every key of 16/24/32 bytes and every block -/
theorem fips_roundtrip (K B : List Nat) (hK : KeyOk K) (hB : St B) :
    Spec.Aes.invCipher K (Spec.Aes.cipher K B) = B ∧ Spec.Aes.cipher K (Spec.Aes.invCipher K B) = B :=
  (cipher_pair_key hK).spec_undo hB

/-! ### non-vacuity -/

example : KeyOk (List.replicate 16 0) ∧ KeyOk (List.replicate 24 255) ∧ KeyOk (List.range 32) ∧ St (List.range 16) := by
  refine ⟨⟨by decide, ?_⟩, ⟨by decide, ?_⟩, ⟨by decide, ?_⟩, ⟨by decide, ?_⟩⟩ <;> (unfold IsBytes; decide +kernel)

end Proofs.C03_Aes
