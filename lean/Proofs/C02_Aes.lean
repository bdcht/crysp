/-
  C02, AES part — AES-128/192/256 of crysp/aes.py (Model.Aes, tables regenerated from the source) encrypt and decrypt
  exactly as FIPS 197 (Spec.Aes), sizes the standard does not define are rejected, and the exposed `gmul` is
  multiplication in GF(2^8) = GF(2)[x]/(x^8+x^4+x^3+x+1) for every pair of bytes.
-/
import Proofs.Lemmas.AesApi
import Proofs.C02_Aes.SpecFacts
namespace Proofs.C02_Aes
open Model Proofs.Aes

/-! ### sanity of Spec.Aes -/

/-- `gfinv` is the multiplicative inverse in GF(2^8) (every non-zero element), and 0 ↦ 0 -/
theorem gfinv_is_inverse : ∀ b < 256, Spec.Aes.gfmul b (Spec.Aes.gfinv b) = (if b = 0 then 0 else 1) := gfmul_gfinv

theorem xtime_is_mul_x : ∀ b < 256, Spec.Aes.xtime b = Spec.Aes.gfmul b 2 ∧ Spec.Aes.xtime b = Spec.Aes.gfmul 2 b :=
  fun b hb => ⟨(xtime_eq_gfmul b hb).trans (gfmul_comm (by decide) hb), xtime_eq_gfmul b hb⟩

/-- {01} is the unit and products of bytes are bytes (here: the products with the extreme element) -/
theorem gfmul_one : ∀ b < 256, Spec.Aes.gfmul b 1 = b ∧ Spec.Aes.gfmul 1 b = b ∧ Spec.Aes.gfmul b 255 < 256 :=
  fun b hb => ⟨gfmul_one_right b hb, gfmul_one_left b hb, gfmul_lt hb (by decide)⟩

/-- the S-box of §5.1.1 and the inverse S-box of §5.3.2 are mutually inverse -/
theorem spec_invSbox_sbox : ∀ b < 256, Spec.Aes.invSbox (Spec.Aes.sbox b) = b ∧ Spec.Aes.sbox (Spec.Aes.invSbox b) = b :=
  fun _ hb => Aes.spec_invSbox_sbox hb

/-- `AES.sboxtable` is the FIPS 197 S-box (all 256 entries) -/
theorem sbox_eq_spec : ∀ b < 256, Aes.sbox b = Spec.Aes.sbox b := sbox_spec

/-- `AES.sboxinvtable` is the FIPS 197 inverse S-box (all 256 entries) -/
theorem sboxinv_eq_spec : ∀ b < 256, Aes.sboxInv b = Spec.Aes.invSbox b := sboxInv_spec

/-- the exposed `gmul` (Exp/Log tables of the source) is multiplication modulo x^8+x^4+x^3+x+1 on all 65 536 byte pairs;
    in particular it never raises on bytes: `gmul(a,0)` and `gmul(0,b)` return 0 without a table look-up -/
theorem gmul_eq_gfmul : ∀ a b, a < 256 → b < 256 → Aes.gmul a b = .ok (Spec.Aes.gfmul a b) :=
  fun _ _ ha hb => Aes.gmul_eq_gfmul ha hb

/-- `Rcon[1..10]` (the only entries any key size reads) are x^(j-1) -/
theorem rcon_eq_spec : ∀ j, 1 ≤ j → j ≤ 10 → Model.Gen.Aes.rcon.getD j 0 % 256 = Spec.Aes.xpow (j - 1) :=
  fun j h1 h2 => rcon_spec j (by omega) (by omega)

/-- the index permutation probed from `ShiftRows` is s'_{r,c} = s_{r,(c+r) mod 4} in the column-major layout -/
theorem shiftRows_idx_eq_spec :
    Model.Gen.Aes.shiftRowsIdx = (List.range 16).map fun i => i % 4 + 4 * ((i / 4 + i % 4) % 4) := shiftRowsIdx_spec

theorem invShiftRows_idx_eq_spec :
    Model.Gen.Aes.invShiftRowsIdx = (List.range 16).map fun i => i % 4 + 4 * ((i / 4 + 4 - i % 4) % 4) := invShiftRowsIdx_spec

theorem subBytes_refines (s : List Nat) (h : IsBytes s) :
    Aes.SboxE s = .ok (Spec.Aes.subBytes s) ∧ Aes.subBytes s = Spec.Aes.subBytes s :=
  ⟨(subBytes_pair.exposed SboxE_ok SboxInvE_ok h).2.1, (subBytes_pair.spec h).1⟩

theorem invSubBytes_refines (s : List Nat) (h : IsBytes s) :
    Aes.SboxInvE s = .ok (Spec.Aes.invSubBytes s) ∧ Aes.invSubBytes s = Spec.Aes.invSubBytes s :=
  ⟨(subBytes_pair.exposed SboxE_ok SboxInvE_ok h).2.2, (subBytes_pair.spec h).2⟩

theorem shiftRows_refines (s : List Nat) (h : s.length = 16) : Aes.ShiftRowsE s = .ok (Spec.Aes.shiftRows s) :=
  (shiftRows_pair.exposed ShiftRowsE_ok InvShiftRowsE_ok h).2.1

theorem invShiftRows_refines (s : List Nat) (h : s.length = 16) : Aes.InvShiftRowsE s = .ok (Spec.Aes.invShiftRows s) :=
  (shiftRows_pair.exposed ShiftRowsE_ok InvShiftRowsE_ok h).2.2

theorem mixColumns_refines (s : List Nat) (h : St s) : Aes.MixColumnsE s = .ok (Spec.Aes.mixColumns s) :=
  (mixColumns_pair.exposed (MixColumnsE_ok ·.1) (InvMixColumnsE_ok ·.1) h).2.1

theorem invMixColumns_refines (s : List Nat) (h : St s) : Aes.InvMixColumnsE s = .ok (Spec.Aes.invMixColumns s) :=
  (mixColumns_pair.exposed (MixColumnsE_ok ·.1) (InvMixColumnsE_ok ·.1) h).2.2

theorem addRoundKey_refines (s : List Nat) (w : List (List Nat)) (r : Nat) (hs : St s) (hk : St (Aes.roundKey w r)) :
    Aes.addRoundKey s (Aes.roundKey w r) = Spec.Aes.addRoundKey s w r :=
  addRoundKey_spec (hk.1.trans hs.1.symm)

theorem keySchedule_refines (K : List Nat) (h : KeyOk K) : Aes.keyscheduleE K = .ok (Spec.Aes.keyExpansion K) := by
  rw [keyscheduleE_ok h.1, (keySchedule_spec_wf h).1]

/-- AES-128/192/256 encryption of crysp = FIPS 197 Cipher, for every key and every block -/
theorem enc_refines (K B : List Nat) (hK : KeyOk K) (hB : St B) : Aes.enc K B = .ok (Spec.Aes.cipher K B) :=
  ((cipher_pair_key hK).exposed (enc_ok hK.1 ·.1) (dec_ok hK.1 ·.1) hB).2.1

/-- AES-128/192/256 decryption of crysp = FIPS 197 InvCipher, for every key and every block -/
theorem dec_refines (K B : List Nat) (hK : KeyOk K) (hB : St B) : Aes.dec K B = .ok (Spec.Aes.invCipher K B) :=
  ((cipher_pair_key hK).exposed (enc_ok hK.1 ·.1) (dec_ok hK.1 ·.1) hB).2.2

/-- keys of a size FIPS 197 does not define are rejected by the constructor, hence by enc, dec and keyschedule -/
theorem key_size_rejected (K B : List Nat) (h : ¬ (K.length = 16 ∨ K.length = 24 ∨ K.length = 32)) :
    (∃ e, Aes.enc K B = .error e) ∧ (∃ e, Aes.dec K B = .error e) ∧ (∃ e, Aes.keyscheduleE K = .error e) :=
  ⟨⟨_, enc_err_key h⟩, ⟨_, dec_err_key h⟩, ⟨_, keyscheduleE_err h⟩⟩

/-- blocks that are not 16 bytes are rejected (never silently processed), whatever the key -/
theorem block_size_rejected (K B : List Nat) (h : B.length ≠ 16) :
    (∃ e, Aes.enc K B = .error e) ∧ (∃ e, Aes.dec K B = .error e) :=
  ⟨enc_err_block h, dec_err_block h⟩

/-! ### non-vacuity and known answers: the FIPS 197 Appendix B / C.1–C.3 vectors (`k128 … ctB`) and their evaluation
    through Spec.Aes are in Proofs/C02_Aes/SpecFacts.lean -/
open SpecFacts

/-- the hypotheses of the refinement theorems are inhabited by the FIPS vectors of all three key sizes -/
theorem kat_inputs_ok : KeyOk k128 ∧ KeyOk k192 ∧ KeyOk k256 ∧ St ptC := by
  refine ⟨⟨by decide, ?_⟩, ⟨by decide, ?_⟩, ⟨by decide, ?_⟩, ⟨by decide, ?_⟩⟩ <;>
    (unfold IsBytes; decide +kernel)
/-- and so the model itself (the code's tables and control flow) reproduces FIPS 197 C.1 and C.3, both directions -/
example : Aes.enc k128 ptC = .ok ct128 ∧ Aes.enc k256 ptC = .ok ct256 ∧ Aes.dec k256 ct256 = .ok ptC := by
  obtain ⟨h1, _, h3, hp⟩ := kat_inputs_ok
  have hc : St ct256 := ⟨by decide, by unfold IsBytes; decide +kernel⟩
  rw [enc_refines k128 ptC h1 hp, enc_refines k256 ptC h3 hp, dec_refines k256 ct256 h3 hc, kat_c1.1, kat_c3.1, kat_c3.2]
  exact ⟨rfl, rfl, rfl⟩
/-- size rejection is not vacuous -/
example : ¬ ([0, 1, 2] : List Nat).length = 16 := by decide

end Proofs.C02_Aes
