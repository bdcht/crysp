/-
  C09 — Padding: exact message‖pad in full blocks, true bit counts, unpad inverts pad.

  `p : Padder` = scheme + block size; `Valid p` = the configurations the property quantifies over
  (block size a positive multiple of 8; pad length fits a byte for PKCS#7/X9.23; for MD/SHA strengthening w % 4 = 0 and
  2w+1 ≤ B — below that the real code raises, known finding C09-md-small-block; BLAKE's own block size).
  `Bytes m` = every element of the list is a byte value.  `effLen m L` = the bit length in force (`L` or 8·|m|).
  `p.iterblocks st m L padding` = Model of the generator: `.yields` = the blocks, each with the object state
  (bitcnt, padcnt, padflag) observable at that yield, `.final` = state left behind, `.err` = the exception, if any.
  A fresh object is `{}` (all counters 0); the theorems are stated for every non-final state where that is true
  of the code, so that they cover histories.
-/
import Proofs.Lemmas.PaddingUnpad
import Proofs.Lemmas.PaddingCont
namespace Proofs.C09
open Model Model.Padder Spec.Padding Proofs.Lemmas.Padding

/-- the concatenation of the emitted blocks is the message's first L bits followed by exactly the pad the
    scheme's specification prescribes (as bytes); no exception -/
theorem blocks_concat (p : Padder) (hv : Valid p) (st : PadState) (hflag : st.padflag = false) (hfresh : st.bitcnt = 0)
    (m : List Nat) (hm : Bytes m) (L : Option Nat) (hL : effLen m L ≤ 8 * m.length)
    (hbg : L ≠ none → BitGranular p.scheme) :
    (p.iterblocks st m L true).err = none ∧
    ((p.iterblocks st m L true).yields.map (·.1)).flatten = padBytes (specOf p.scheme) p.blocksize m (effLen m L) := by
  obtain ⟨h1, h2, _⟩ := run_facts p hv st hflag m (fun _ => hm) L hL hbg
  exact ⟨h1, by rw [h2, concat_eq_spec p hv st hfresh m hm L hL hbg]⟩

/-- what is emitted is a byte string again (every value < 256), so block consumers may rely on it -/
theorem blocks_bytes (p : Padder) (hv : Valid p) (st : PadState) (hflag : st.padflag = false)
    (m : List Nat) (hm : Bytes m) (L : Option Nat) (hL : effLen m L ≤ 8 * m.length)
    (hbg : L ≠ none → BitGranular p.scheme) :
    Bytes (((p.iterblocks st m L true).yields.map (·.1)).flatten) := by
  rw [(run_facts p hv st hflag m (fun _ => hm) L hL hbg).2.1]
  exact Lemmas.Bytes.AllBytes.append (Lemmas.Bytes.AllBytes.take hm _) (bitsToBytes_Bytes _)

/-- every emitted block has B/8 bytes; only the unpadded scheme's last block may be shorter -/
theorem blocks_length (p : Padder) (hv : Valid p) (st : PadState) (hflag : st.padflag = false)
    (m : List Nat) (hm : Bytes m) (L : Option Nat) (hL : effLen m L ≤ 8 * m.length)
    (hbg : L ≠ none → BitGranular p.scheme) (i : Nat) (h : i < (p.iterblocks st m L true).yields.length) :
    ((p.iterblocks st m L true).yields[i]).1.length = p.blocklen ∨
      (p.scheme = .no ∧ i + 1 = (p.iterblocks st m L true).yields.length ∧
        ((p.iterblocks st m L true).yields[i]).1.length ≤ p.blocklen) :=
  (run_facts p hv st hflag m (fun _ => hm) L hL hbg).2.2.2.1 i h

/-- the number of emitted blocks is the minimum the scheme allows: ⌈(L + shortest pad)/B⌉, and at least one -/
theorem blocks_minimal (p : Padder) (hv : Valid p) (st : PadState) (hflag : st.padflag = false)
    (m : List Nat) (hm : Bytes m) (L : Option Nat) (hL : effLen m L ≤ 8 * m.length)
    (hbg : L ≠ none → BitGranular p.scheme) :
    (p.iterblocks st m L true).yields.length =
      max 1 ((effLen m L + minPad p.scheme + p.blocksize - 1) / p.blocksize) := by
  rw [(run_facts p hv st hflag m (fun _ => hm) L hL hbg).2.2.1, count_closed p hv m L hL]

/-- the consumed-bit counter reported with block i = the number of message bits up to and including that block
    (plus what earlier pieces fed), and 0 for a block that carries padding only -/
theorem bitcnt_at_yield (p : Padder) (hv : Valid p) (st : PadState) (hflag : st.padflag = false)
    (m : List Nat) (hm : Bytes m) (L : Option Nat) (hL : effLen m L ≤ 8 * m.length)
    (hbg : L ≠ none → BitGranular p.scheme) (i : Nat) (h : i < (p.iterblocks st m L true).yields.length) :
    ((p.iterblocks st m L true).yields[i]).2.bitcnt =
      if i * p.blocksize < effLen m L then st.bitcnt + min (effLen m L) ((i + 1) * p.blocksize) else 0 :=
  (run_facts p hv st hflag m (fun _ => hm) L hL hbg).2.2.2.2.1 i h

/-- the pad-bit counter equals the number of pad bits added (schemes that define it: none, zero, bit, PKCS#7,
    X9.23): message bits + padcnt = bits emitted; the other schemes leave it untouched -/
theorem padcnt_law (p : Padder) (hv : Valid p) (st : PadState) (hflag : st.padflag = false) (hpc : st.padcnt = 0)
    (m : List Nat) (hm : Bytes m) (L : Option Nat) (hL : effLen m L ≤ 8 * m.length)
    (hbg : L ≠ none → BitGranular p.scheme) :
    (match p.scheme with
     | .md _ | .sha _ | .blake _ => (p.iterblocks st m L true).final.padcnt = 0
     | _ => effLen m L + (p.iterblocks st m L true).final.padcnt
              = 8 * ((p.iterblocks st m L true).yields.map (·.1)).flatten.length) := by
  obtain ⟨_, h2, _, _, _, _, _, h8, _⟩ := run_facts p hv st hflag m (fun _ => hm) L hL hbg
  obtain ⟨e, h1, _⟩ := call_facts p hv m L hL
  have hlen : 8 * ((p.iterblocks st m L true).yields.map (·.1)).flatten.length
      = effLen m L + (modelTail p 0 (rOf p m L)).length := by
    have hk : kOf p m L * p.blocklen ≤ m.length := by omega
    rw [h2, emitted, List.length_append, List.length_take, Nat.min_eq_left hk, Nat.mul_add,
      (tailBytes_length p hv st m L hL hbg).1]
    simp only [rOf, kOf] at *
    omega
  rw [hlen, h8]
  cases hs : p.scheme with
  | md _ | sha _ | blake _ => simp only [tailPadcnt, hs, hpc]
  | no => simp [tailPadcnt, modelTail, hs, hpc]
  | null | bit | pkcs7 | x923 => simp only [tailPadcnt, hs]

/-- after the call the pad flag is set, and it was set at the tail blocks only -/
theorem padflag_law (p : Padder) (hv : Valid p) (st : PadState) (hflag : st.padflag = false)
    (m : List Nat) (hm : Bytes m) (L : Option Nat) (hL : effLen m L ≤ 8 * m.length)
    (hbg : L ≠ none → BitGranular p.scheme) :
    (p.iterblocks st m L true).final.padflag = true ∧
    ∀ i (h : i < (p.iterblocks st m L true).yields.length),
      ((p.iterblocks st m L true).yields[i]).2.padflag = decide (kOf p m L ≤ i) := by
  obtain ⟨_, _, _, _, _, h6, h7, _⟩ := run_facts p hv st hflag m (fun _ => hm) L hL hbg
  exact ⟨h7, fun i h => (h6 i h).1⟩

/-- removing the padding from the concatenation of the emitted blocks (on the object that produced them: zero
    padding needs its `padcnt`) returns exactly the first L bits of the message, last partial byte zero-filled -/
theorem remove_pad (p : Padder) (hv : Valid p) (st : PadState) (hflag : st.padflag = false)
    (m : List Nat) (hm : Bytes m) (L : Option Nat) (hL : effLen m L ≤ 8 * m.length)
    (hbg : L ≠ none → BitGranular p.scheme) :
    p.remove (p.iterblocks st m L true).final (((p.iterblocks st m L true).yields.map (·.1)).flatten)
      = .ok (msgBytes m (effLen m L)) := by
  obtain ⟨_, h2, _, _, _, _, _, h8, _⟩ := run_facts p hv st hflag m (fun _ => hm) L hL hbg
  obtain ⟨_, h1, hr, _⟩ := call_facts p hv m L hL
  rw [h2, concat_bits p hv st m hm L hL, msgBytes]
  refine remove_tail p hv _ _ (kOf p m L) _ _ ?_ hr (fun hb => ⟨m, hm, ?_⟩) (fun hs => ?_)
  · simp only [takeBits, List.length_take, bytesToBits_length, rOf]
    omega
  · rw [(rOf_byte p hv m L hL hbg hb).1]
    exact takeBits_whole m
  · rw [h8]
    simp [tailPadcnt, hs, modelTail_null p hs 0 _ hr, zeros]

/-- PKCS#7: `remove` succeeds exactly on the well-padded strings (last byte q, 1 ≤ q ≤ block length, the last q
    bytes all equal q) and then strips those q bytes; every other string (empty included) raises -/
theorem pkcs7_remove_iff (p : Padder) (hs : p.scheme = .pkcs7) (st : PadState) (c : List Nat) :
    ((∃ r, p.remove st c = .ok r) ↔ pkcs7WellPadded p.blocklen c) ∧
    (∀ r, p.remove st c = .ok r → ∃ q, c.getLast? = some q ∧ r = c.take (c.length - q)) :=
  remove_iff_of_unpad (remove_pkcs7 p hs st c)

/-- ANSI X9.23: `remove` succeeds exactly on the well-padded strings (last byte q, 1 ≤ q ≤ block length, the q−1
    bytes before it zero) and then strips those q bytes; every other string raises -/
theorem x923_remove_iff (p : Padder) (hs : p.scheme = .x923) (st : PadState) (c : List Nat) :
    ((∃ r, p.remove st c = .ok r) ↔ x923WellPadded p.blocklen c) ∧
    (∀ r, p.remove st c = .ok r → ∃ q, c.getLast? = some q ∧ r = c.take (c.length - q)) :=
  remove_iff_of_unpad (remove_x923 p hs st c)

/-! ### requests that cannot be met are refused (no block, an exception, the object unchanged) -/

/-- a block size that is not a whole number of bytes is refused by the constructor -/
theorem refuse_blocksize (s : Model.Scheme) (l : Nat) (h : l % 8 ≠ 0) : ∃ e, Padder.mk? s l = .error e := by
  simp [Padder.mk?, h]

/-- … and every other positive block size is accepted -/
theorem accept_blocksize (s : Model.Scheme) (l : Nat) (h : l % 8 = 0) (hpos : 0 < l) :
    Padder.mk? s l = .ok ⟨s, l⟩ := by
  have : ¬ l = 0 := by omega
  simp [Padder.mk?, h, this]

/-- a second message after the pad is refused, whatever the scheme, arguments and counters -/
theorem refuse_after_pad (p : Padder) (st : PadState) (m : List Nat) (L : Option Nat) (padding : Bool)
    (h : st.padflag = true) :
    (p.iterblocks st m L padding).yields = [] ∧ (p.iterblocks st m L padding).err.isSome ∧
      (p.iterblocks st m L padding).final = st :=
  iterblocks_refused p st m L padding (.inl h)

/-- a bit length beyond the data is refused -/
theorem refuse_bitlen_beyond (p : Padder) (st : PadState) (m : List Nat) (L : Nat) (padding : Bool)
    (h : L > 8 * m.length) :
    (p.iterblocks st m (some L) padding).yields = [] ∧ (p.iterblocks st m (some L) padding).err.isSome ∧
      (p.iterblocks st m (some L) padding).final = st :=
  iterblocks_refused p st m (some L) padding (.inr (.inl h))

/-- unpadded input that is not a whole number of blocks is refused -/
theorem refuse_unpadded_nonmultiple (p : Padder) (st : PadState) (m : List Nat) (L : Option Nat)
    (h : effLen m L % p.blocksize ≠ 0) :
    (p.iterblocks st m L false).yields = [] ∧ (p.iterblocks st m L false).err.isSome ∧
      (p.iterblocks st m L false).final = st :=
  iterblocks_refused p st m L false (.inr (.inr ⟨rfl, h⟩))

/-! ### unpadded (`padding=False`) pieces: whole blocks out, counters accumulate -/

/-- an unpadded call on a whole number of blocks emits exactly those blocks, reports after block i the bits fed so
    far, leaves padcnt and padflag alone and adds the bit length to the counter (an empty piece emits nothing) -/
theorem unpadded_call (p : Padder) (hv : Valid p) (st : PadState) (hflag : st.padflag = false)
    (m : List Nat) (L : Option Nat) (hL : effLen m L ≤ 8 * m.length) (hmul : effLen m L % p.blocksize = 0) :
    (p.iterblocks st m L false).err = none ∧
    ((p.iterblocks st m L false).yields.map (·.1)).flatten = m.take (effLen m L / 8) ∧
    (p.iterblocks st m L false).yields.length = effLen m L / p.blocksize ∧
    (∀ i (h : i < (p.iterblocks st m L false).yields.length),
      ((p.iterblocks st m L false).yields[i]).1.length = p.blocklen ∧
      ((p.iterblocks st m L false).yields[i]).2 = { st with bitcnt := st.bitcnt + (i + 1) * p.blocksize }) ∧
    (p.iterblocks st m L false).final = { st with bitcnt := st.bitcnt + effLen m L } := by
  rw [unpadded_run p hv.pos st hflag m L hL hmul]
  obtain ⟨n, hn, hd, hn8⟩ := whole_blocks p hv _ hmul
  have h8 : effLen m L / 8 = n * p.blocklen := by omega
  refine ⟨rfl, ?_, by simp [loopYields_length], ?_, rfl⟩
  · simp only [loopYields_blocks, flatten_blocks, hd, h8]
  · intro i h
    simp only [loopYields_length, hd] at h
    simp only [loopYields_getElem, blockAt_length, and_true]
    have : (i + 1) * p.blocklen ≤ n * p.blocklen := Nat.mul_le_mul_right _ (by omega)
    rw [Nat.succ_mul] at this
    omega

/-- **continuation** (what incremental hashing relies on): block-aligned data fed with `padding=False`, then a
    final call whose piece carries at least one message bit, yields exactly the blocks, the states observable at
    every block, the final state and the outcome of ONE call on the concatenation — for every scheme, every bit
    length of the last piece, every starting counter (so it iterates over any number of pieces) -/
theorem continuation (p : Padder) (hv : Valid p) (st : PadState) (hflag : st.padflag = false)
    (m1 m2 : List Nat) (hm1 : (8 * m1.length) % p.blocksize = 0)
    (L2 : Option Nat) (hL2 : effLen m2 L2 ≤ 8 * m2.length) (hpos2 : 0 < effLen m2 L2) :
    let r1 := p.iterblocks st m1 none false
    let r2 := p.iterblocks r1.final m2 L2 true
    let one := p.iterblocks st (m1 ++ m2) (L2.map (8 * m1.length + ·)) true
    r1.err = none ∧ one.yields = r1.yields ++ r2.yields ∧ one.final = r2.final ∧ one.err = r2.err :=
  pieces_run p hv st hflag m1 m2 hm1 L2 hL2 hpos2

/-- **continuation with an empty last piece** (schemes that always pad: bit, PKCS#7, X9.23, MD, SHA, BLAKE):
    block-aligned non-empty data fed with `padding=False`, then a final call on the empty string, emits the same
    blocks with the same bit counters (the padding-only block reports 0) and leaves the same final state as ONE
    call on the data; neither raises.  (The pad flag observed at the last data block differs: it is emitted before
    the final call.  Zero padding and the unpadded scheme are excluded: their last full block is already out, so
    the empty final call pads/emits an empty piece of its own.) -/
theorem continuation_empty (p : Padder) (hv : Valid p) (hap : AlwaysPads p.scheme) (st : PadState)
    (hflag : st.padflag = false) (m1 : List Nat) (hm : Bytes m1) (hne : m1 ≠ [])
    (hm1 : (8 * m1.length) % p.blocksize = 0) :
    let r1 := p.iterblocks st m1 none false
    let r2 := p.iterblocks r1.final [] none true
    let one := p.iterblocks st m1 none true
    r1.err = none ∧ r2.err = none ∧ one.err = none ∧
    one.yields.map (·.1) = r1.yields.map (·.1) ++ r2.yields.map (·.1) ∧
    one.yields.map (·.2.bitcnt) = r1.yields.map (·.2.bitcnt) ++ r2.yields.map (·.2.bitcnt) ∧
    one.final = r2.final :=
  pieces_run_empty p hv hap st hflag m1 hm hne hm1

/-- a history on a fresh object — block-aligned data with `padding=False`, then a final piece with at least one
    message bit — emits, all calls together, exactly the standard's padded string of the whole message -/
theorem pieces_concat (p : Padder) (hv : Valid p) (m1 m2 : List Nat) (hb1 : Bytes m1) (hb2 : Bytes m2)
    (hm1 : (8 * m1.length) % p.blocksize = 0)
    (L2 : Option Nat) (hL2 : effLen m2 L2 ≤ 8 * m2.length) (hpos2 : 0 < effLen m2 L2)
    (hbg : L2 ≠ none → BitGranular p.scheme) :
    let r1 := p.iterblocks {} m1 none false
    let r2 := p.iterblocks r1.final m2 L2 true
    r1.err = none ∧ r2.err = none ∧
    ((r1.yields ++ r2.yields).map (·.1)).flatten
      = padBytes (specOf p.scheme) p.blocksize (m1 ++ m2) (8 * m1.length + effLen m2 L2) := by
  intro r1 r2
  obtain ⟨h1, h2, _, h4⟩ := continuation p hv {} rfl m1 m2 hm1 L2 hL2 hpos2
  have he := effLen_shift m1 m2 L2
  have hL : effLen (m1 ++ m2) (L2.map (8 * m1.length + ·)) ≤ 8 * (m1 ++ m2).length := by
    rw [he, List.length_append]
    omega
  obtain ⟨g1, g2⟩ := blocks_concat p hv {} rfl rfl (m1 ++ m2) (Lemmas.Bytes.AllBytes.append hb1 hb2) (L2.map (8 * m1.length + ·)) hL
    (by intro h; apply hbg; intro h0; rw [h0] at h; simp at h)
  refine ⟨h1, ?_, ?_⟩
  · show r2.err = none
    rw [← h4]
    exact g1
  · show ((r1.yields ++ r2.yields).map (·.1)).flatten = _
    rw [← h2, g2, he]

/-- once a padded call has completed, every further call on the object is refused and changes nothing -/
theorem call_after_final_refused (p : Padder) (hv : Valid p) (st : PadState) (hflag : st.padflag = false)
    (m : List Nat) (hm : Bytes m) (L : Option Nat) (hL : effLen m L ≤ 8 * m.length)
    (hbg : L ≠ none → BitGranular p.scheme) (m' : List Nat) (L' : Option Nat) (padding' : Bool) :
    let fin := (p.iterblocks st m L true).final
    (p.iterblocks fin m' L' padding').yields = [] ∧ (p.iterblocks fin m' L' padding').err.isSome ∧
      (p.iterblocks fin m' L' padding').final = fin :=
  refuse_after_pad p _ m' L' padding' (padflag_law p hv st hflag m hm L hL hbg).1

/-- two unpadded pieces in a row behave like one unpadded call on their concatenation -/
theorem unpadded_append (p : Padder) (hv : Valid p) (st : PadState) (hflag : st.padflag = false)
    (m1 m2 : List Nat) (hm1 : (8 * m1.length) % p.blocksize = 0) (hm2 : (8 * m2.length) % p.blocksize = 0) :
    let r1 := p.iterblocks st m1 none false
    let r2 := p.iterblocks r1.final m2 none false
    let one := p.iterblocks st (m1 ++ m2) none false
    one.yields = r1.yields ++ r2.yields ∧ one.final = r2.final ∧ one.err = none ∧ r1.err = none ∧ r2.err = none := by
  intro r1 r2 one
  have hr1 : r1 = _ := unpadded_run p hv.pos st hflag m1 none (Nat.le_refl _) hm1
  have hr2 : r2 = _ := unpadded_run p hv.pos r1.final (by rw [hr1]; exact hflag) m2 none (Nat.le_refl _) hm2
  have h12 : (8 * (m1 ++ m2).length) % p.blocksize = 0 := by
    rw [List.length_append, Nat.mul_add, Nat.add_mod, hm1, hm2]
    simp
  have hone : one = _ := unpadded_run p hv.pos st hflag (m1 ++ m2) none (Nat.le_refl _) h12
  obtain ⟨n1, hn1, _, hn8⟩ := whole_blocks p hv _ hm1
  obtain ⟨n2, hn2, _, _⟩ := whole_blocks p hv _ hm2
  have hlen : m1.length = n1 * p.blocklen := by omega
  have e12 : 8 * (m1 ++ m2).length = (n1 + n2) * p.blocksize := by
    rw [List.length_append, Nat.add_mul]
    omega
  have hfin1 : r1.final = { st with bitcnt := st.bitcnt + n1 * p.blocksize } := by
    rw [hr1]
    simp [effLen, hn1]
  rw [hfin1] at hr2
  rw [hone, hr2, hr1]
  simp only [effLen, Option.getD_none, e12, hn1, hn2, Nat.mul_div_cancel _ hv.pos,
    loopYields_append p st m1 m2 n1 n2 hlen, and_true, true_and]
  simp [Nat.add_mul, Nat.add_assoc]

/-! ### reuse of one object: `reset()` / `.new` -/

/-- whatever state the object is in (mid-message, padded, any counters), `reset()` / `.new` puts it into the state of a
    freshly constructed object, hence every later `iterblocks` call and every later `remove` is the one a fresh object gives -/
theorem reset_is_fresh (p : Padder) (st : PadState) :
    p.reset st = {} ∧
    ((p.reset st).padflag = false ∧ (p.reset st).bitcnt = 0 ∧ (p.reset st).padcnt = 0) ∧
    (∀ m L padding, p.iterblocks (p.reset st) m L padding = p.iterblocks {} m L padding) ∧
    (∀ c, p.remove (p.reset st) c = p.remove {} c) :=
  ⟨rfl, ⟨rfl, rfl, rfl⟩, fun _ _ _ => rfl, fun _ => rfl⟩

/-- any history (iterblocks calls, resets, removes) that follows a reset — after an arbitrary earlier history `pre` from
    an arbitrary state — gives step for step the results of the same history on a fresh object -/
theorem history_after_reset (p : Padder) (st : PadState) (em : List Nat) (pre post : List PadStep) :
    p.runSteps st em (pre ++ .reset :: post) = p.runSteps st em pre ++ .state {} :: p.runSteps {} [] post := by
  induction pre generalizing st em with
  | nil => rfl
  | cons a pre ih =>
    cases a with
    | call m l f => simp only [List.cons_append, Padder.runSteps, ih]
    | reset => simp only [List.cons_append, Padder.runSteps, ih]
    | remove c => simp only [List.cons_append, Padder.runSteps, ih]

/-- in particular: a first message, a reset, then a second message fed in block-aligned pieces gives exactly the
    blocks, counters and final state of the second message on a fresh object: its unpadded pieces report
    `padcnt = 0`, whatever pad the first message got -/
theorem reset_then_unpadded (p : Padder) (hv : Valid p) (st : PadState)
    (m : List Nat) (L : Option Nat) (hL : effLen m L ≤ 8 * m.length) (hmul : effLen m L % p.blocksize = 0) :
    (p.iterblocks (p.reset st) m L false).err = none ∧
    (p.iterblocks (p.reset st) m L false).final = { padflag := false, bitcnt := effLen m L, padcnt := 0 } ∧
    ∀ y ∈ (p.iterblocks (p.reset st) m L false).yields, y.2.padcnt = 0 ∧ y.2.padflag = false := by
  obtain ⟨h1, _, _, h4, h5⟩ := unpadded_call p hv (p.reset st) rfl m L hL hmul
  refine ⟨h1, by rw [h5]; simp [Padder.reset], ?_⟩
  intro y hy
  obtain ⟨i, hi, rfl⟩ := List.getElem_of_mem hy
  rw [(h4 i hi).2]
  exact ⟨rfl, rfl⟩

/-! ### non-vacuity: the hypotheses are inhabited by the library's real configurations -/

example : Valid ⟨.md 32, 512⟩ := ⟨by decide, by decide, by decide⟩
example : Valid ⟨.sha 64, 1024⟩ := ⟨by decide, by decide, by decide⟩
example : Valid (Padder.blakeP 256) := ⟨by decide, by decide, rfl⟩
example : Valid (Padder.blakeP 384) := ⟨by decide, by decide, rfl⟩
example : Valid ⟨.pkcs7, 128⟩ := ⟨by decide, by decide, by decide⟩
example : Valid ⟨.x923, 64⟩ := ⟨by decide, by decide, by decide⟩
example : Valid ⟨.bit, 8⟩ := ⟨by decide, by decide, trivial⟩
example : Valid ⟨.null, 3072⟩ := ⟨by decide, by decide, trivial⟩
example : Valid ⟨.no, 16⟩ := ⟨by decide, by decide, trivial⟩
example : Bytes [0x61, 0x62, 0x63] := by
  intro x hx
  simp at hx
  omega
example : AlwaysPads (Padder.blakeP 512).scheme := trivial
example : BitGranular (Model.Scheme.sha 32) := trivial
/-- FIPS 180-4 §5.1.1's example: "abc" under SHA-1/SHA-256 padding is 61626380 0…0 00000018 (one 64-byte block) -/
example : ((⟨.sha 32, 512⟩ : Padder).iterblocks {} [0x61, 0x62, 0x63] none true).yields.map (·.1)
    = [[0x61, 0x62, 0x63, 0x80] ++ List.replicate 59 0 ++ [0x18]] := by decide +kernel
example : pkcs7WellPadded 8 [1, 2, 3, 3, 3] := ⟨3, rfl, by decide, by decide, by decide, rfl⟩
example : ¬ pkcs7WellPadded 8 [1, 2, 3, 2, 3] := by
  rintro ⟨q, h1, _, _, _, h5⟩
  simp at h1
  subst h1
  simp at h5

/-- zero padding on 64-bit blocks: 20 message bytes leave (padflag, bitcnt, padcnt) = (true, 160, 32) — not the fresh
    state — and after the reset 16 unpadded bytes leave (false, 128, 0), the whole string survives `remove` -/
example : ((⟨.null, 64⟩ : Padder).iterblocks {} (List.replicate 20 0x41) none true).final
    = { padflag := true, bitcnt := 160, padcnt := 32 } := by decide +kernel
example :
    ((⟨.null, 64⟩ : Padder).iterblocks
      ((⟨.null, 64⟩ : Padder).reset ((⟨.null, 64⟩ : Padder).iterblocks {} (List.replicate 20 0x41) none true).final)
      (List.replicate 16 0x42) none false).final = { padflag := false, bitcnt := 128, padcnt := 0 } := by decide +kernel
example :
    ((⟨.null, 64⟩ : Padder).remove { padflag := false, bitcnt := 128, padcnt := 0 } (List.replicate 16 0x42)).toOption
      = some (List.replicate 16 0x42) := by decide +kernel
example : ((⟨.null, 64⟩ : Padder).runSteps {} []
    [.call (List.replicate 20 0x41) none true, .reset, .call (List.replicate 16 0x42) none false]).length = 3 := rfl

end Proofs.C09
