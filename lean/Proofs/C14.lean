/-
  C14 (MD4/MD5/SHA-0/SHA-1/SHA-2 part) — hashing a message piecewise gives the same digest as hashing it at once.

  The object skeleton (`initstate`, `update(M,bitlen,padding)`, `__call__`) is Model.HashObj; `Refines c h emb` says that IV,
  compression and serialisation of the object `c` are those of a Merkle–Damgård function `h : Spec.MDHash σ` (any chaining
  type σ, any compression function) through the embedding `emb`; `Framing` says its padder is the MD or SHA scheme with the
  block / length-field sizes of `h`.  Both are established for the ten objects of the library in `EndToEnd.alg_cases`.
-/
import Proofs.Lemmas.EndToEnd
import Proofs.Lemmas.StreamingBitlen
import Proofs.Lemmas.MultiProj
namespace Proofs.C14
open Model Proofs.Lemmas.Parse Proofs.Lemmas.Compose Proofs.Lemmas.Streaming Proofs.Lemmas.EndToEnd

/-- the object after `initstate(); update(p1); …; update(pk)` -/
def feed (c : HashCore) (pieces : List (List Spec.Byte)) : HashObj :=
  pieces.foldl (fun o P => (c.update o (toNatBytes P) none false).1) c.initstate

/-- **update_pieces**, generic in the compression function: for every cut of a message into block-aligned pieces
    (empty pieces and multi-block pieces included, any number of them) followed by a final piece of any length — with
    an optional bit length counted within that final piece —
    `init; update(p1); …; update(pk); update(q, bitlen, padding=True)` returns what the one-shot call returns on
    `p1 ‖ … ‖ pk ‖ q`. -/
theorem update_pieces {σ : Type} {c : HashCore} {h : Spec.MDHash σ} {emb : σ → List Bits} (R : Refines c h emb)
    {w B bl ll : Nat} {bigend : Bool} (F : Framing c h w B bl ll bigend)
    (pieces : List (List Spec.Byte)) (hal : ∀ P ∈ pieces, P.length % bl = 0) (q : List Spec.Byte) (kw : Option Nat)
    (hkw : ∀ l, kw = some l → l ≤ 8 * q.length) :
    (c.update (feed c pieces) (toNatBytes q) kw true).2
      = c.hash (toNatBytes (pieces.flatten ++ q)) (kw.map (8 * pieces.flatten.length + ·)) :=
  Proofs.Lemmas.Streaming.update_pieces R F pieces hal q kw hkw

/-- **bitcnt_after_pieces**: after feeding block-aligned pieces the bit counter is the number of bits fed so far, no
    padding has been added, and the chaining value is the standard's after absorbing those blocks (stated for every list
    of pieces, hence after each piece) -/
theorem bitcnt_after_pieces {σ : Type} {c : HashCore} {h : Spec.MDHash σ} {emb : σ → List Bits} (R : Refines c h emb)
    {w B bl ll : Nat} {bigend : Bool} (F : Framing c h w B bl ll bigend)
    (pieces : List (List Spec.Byte)) (hal : ∀ P ∈ pieces, P.length % bl = 0) :
    (feed c pieces).pad = { padflag := false, bitcnt := 8 * pieces.flatten.length, padcnt := 0 } ∧
    (feed c pieces).H = emb (h.absorb h.init (Spec.groups bl pieces.flatten)) := by
  have := run_pieces R F pieces hal h.init {} rfl
  simp only [feed, HashCore.initstate, R.iv, this]
  simp

/-- the ten objects of the library: piecewise = one-shot = the standard's digest of the concatenation -/
theorem update_pieces_all (alg : Model.Alg) (pieces : List (List Spec.Byte))
    (hal : ∀ P ∈ pieces, P.length % alg.blocklen = 0) (q : List Spec.Byte) :
    ∃ c, alg.new = .ok c ∧
      (c.update (feed c pieces) (toNatBytes q) none true).2 = Model.hash alg (toNatBytes (pieces.flatten ++ q)) none ∧
      (c.update (feed c pieces) (toNatBytes q) none true).2
        = .ok (toNatBytes (Spec.hash (toSpec alg) (Spec.bytesToBits (pieces.flatten ++ q)))) ∧
      (feed c pieces).pad.bitcnt = 8 * pieces.flatten.length := by
  obtain ⟨c, hc, σ, h, emb, w, B, ll, bigend, R, F, _⟩ := alg_cases alg
  have h1 := Proofs.Lemmas.Streaming.update_pieces R F pieces hal q none (fun l hl => by cases hl)
  have h2 : Model.hash alg (toNatBytes (pieces.flatten ++ q)) none = c.hash (toNatBytes (pieces.flatten ++ q)) none := by
    rw [Model.hash, hc]
    rfl
  exact ⟨c, hc, h1.trans h2.symm, (h1.trans h2.symm).trans (hash_eq_none alg _),
    congrArg PadState.bitcnt (bitcnt_after_pieces R F pieces hal).1⟩

/-- the object after `initstate(); update(b1,bitlen=L1); …; update(bk,bitlen=Lk)`: every piece is a buffer and the number
    of its bits that count -/
def feedL (c : HashCore) (pieces : List (List Spec.Byte × Nat)) : HashObj :=
  pieces.foldl (fun o P => (c.update o (toNatBytes P.1) (some P.2) false).1) c.initstate

/-- what a buffer given with L bits (whole bytes) contributes to the message: its first L/8 bytes -/
def cut (P : List Spec.Byte × Nat) : List Spec.Byte := P.1.take (P.2 / 8)

/-- **feed_bitlen**: feeding buffers with explicit bit lengths (each a whole number of blocks and at most the buffer:
    L = 0 on a NON-EMPTY buffer and L = 8n on a buffer longer than n bytes included) leaves the object exactly where
    feeding the cut pieces without bit lengths leaves it -/
theorem feed_bitlen {σ : Type} {c : HashCore} {h : Spec.MDHash σ} {w B bl ll : Nat} {bigend : Bool}
    (F : Framing c h w B bl ll bigend) (pieces : List (List Spec.Byte × Nat))
    (hal : ∀ P ∈ pieces, P.2 ≤ 8 * P.1.length ∧ P.2 % (8 * bl) = 0) :
    feedL c pieces = feed c (pieces.map cut) := by
  have hB : c.padder.blocksize = 8 * bl := by rw [F.hp]; exact F.hB
  rw [feedL, feed, List.foldl_map]
  refine Proofs.Lemmas.Fold.foldl_congr_mem (fun P hP o => ?_) _
  rw [Proofs.Lemmas.StreamingBitlen.update_bitlen_nonfinal c bl hB F.hbl o (toNatBytes P.1) P.2
    (by rw [toNatBytes_length]; exact (hal P hP).1) (hal P hP).2]
  simp only [toNatBytes, cut, List.map_take]

/-- **update_pieces_bitlen**: buffers given with their bit lengths (whole blocks; 0 bits of a non-empty buffer, 8n bits
    of a longer buffer) followed by a final buffer with an optional bit length (any 0 ≤ L ≤ 8|q|) give the one-shot
    result on the concatenation of the first L bits of every piece, and the bit counter before the final piece is the
    sum of the bit lengths given -/
theorem update_pieces_bitlen {σ : Type} {c : HashCore} {h : Spec.MDHash σ} {emb : σ → List Bits} (R : Refines c h emb)
    {w B bl ll : Nat} {bigend : Bool} (F : Framing c h w B bl ll bigend)
    (pieces : List (List Spec.Byte × Nat)) (hal : ∀ P ∈ pieces, P.2 ≤ 8 * P.1.length ∧ P.2 % (8 * bl) = 0)
    (q : List Spec.Byte) (kw : Option Nat) (hkw : ∀ l, kw = some l → l ≤ 8 * q.length) :
    (c.update (feedL c pieces) (toNatBytes q) kw true).2
      = c.hash (toNatBytes ((pieces.map cut).flatten ++ q)) (kw.map (8 * (pieces.map cut).flatten.length + ·)) ∧
    (feedL c pieces).pad.bitcnt = 8 * (pieces.map cut).flatten.length := by
  have hcut : ∀ P ∈ pieces.map cut, P.length % bl = 0 := by
    intro P hP
    obtain ⟨Q, hQ, rfl⟩ := List.mem_map.mp hP
    obtain ⟨h1, h2⟩ := hal Q hQ
    obtain ⟨j, hj⟩ := Nat.dvd_of_mod_eq_zero h2
    have : Q.2 / 8 = bl * j := by rw [hj, Nat.mul_assoc, Nat.mul_div_cancel_left _ (by decide : 0 < 8)]
    simp only [cut, List.length_take, this]
    rw [Nat.min_eq_left (by omega)]
    exact Nat.mul_mod_right _ _
  rw [feed_bitlen F pieces hal]
  exact ⟨Proofs.Lemmas.Streaming.update_pieces R F _ hcut q kw hkw, by rw [(bitcnt_after_pieces R F _ hcut).1]⟩

/-- **initstate_forgets**: `initstate()` does not look at the object it is called on — after an abandoned stream (blocks
    fed, never finalised), a finished digest or a refused step the object is the one a new object starts as: chaining
    value = IV, bit counter 0, no padding added; so `update_pieces` / `update_pieces_bitlen` (stated from `c.initstate`)
    hold after `initstate()` on an object with ANY history.  (In the model this is how `initstate` is written —
    `self.H = …; self.padmethod = XXpadding(…)` — and the `… | init | …` lines of the stream tie it to the code.) -/
theorem initstate_forgets (c : HashCore) :
    c.initstate.pad = { padflag := false, bitcnt := 0, padcnt := 0 } ∧ c.initstate.H = c.iv := ⟨rfl, rfl⟩

/-- **call_forgets_history**: the one-shot call `h(M,bitlen)` does not look at the object it is called on (it starts with
    `initstate()`): the digest AND the object left behind are those of a fresh object, whatever was fed, finished, called
    or refused before (the `… | call … | init | …` lives of the `hashseq` lines, the `<k> call` steps of `hashseqs`) -/
theorem call_forgets_history (c : HashCore) (o o' : HashObj) (M : List Nat) (bitlen : Option Nat) :
    c.call o M bitlen = c.call o' M bitlen := rfl

/-- **siblings_do_not_interfere** (the `hashseqs` / `blakeseqs` / `nilsimsa.seqs` lines): several objects alive at the same
    time are entries of a list, a step on object k rewrites entry k (`Model.Multi.run`).  For EVERY step function, every
    interleaving of steps and every object j of the store: the state of object j after the whole line and everything
    printed for object j are those of the run of j's OWN steps alone, in their order.  So `update_pieces`,
    `update_pieces_bitlen`, `bitcnt_after_pieces` hold for each stream of an interleaved line.  That the Python objects
    are as independent is what the correspondence lines test. -/
theorem siblings_do_not_interfere {σ ω ρ : Type} (step : Nat → σ → ω → σ × ρ) (objs : List σ)
    (steps : List (Nat × ω)) (j : Nat) (o : σ) (hj : objs[j]? = some o) :
    (Model.Multi.run step objs steps).1[j]? = some (Model.Multi.runOne (step j) o (Model.Multi.own j steps)).1 ∧
    ((Model.Multi.run step objs steps).2.filter (·.1 == j)).map (·.2)
      = (Model.Multi.runOne (step j) o (Model.Multi.own j steps)).2 :=
  Proofs.Lemmas.MultiProj.run_proj step j steps objs o hj

/-- non-vacuity: two counters stepped alternately; object 1 sees only its own two steps -/
example : (Model.Multi.run (fun _ (n : Nat) (d : Nat) => (n + d, n + d)) [0, 100] [(0, 1), (1, 5), (0, 2), (1, 7)]).2
    = [(0, 1), (1, 105), (0, 3), (1, 112)] := by decide

/-! non-vacuity: block-aligned cuts exist with empty and multi-block pieces -/
example : ∃ (pieces : List (List Spec.Byte)), (∀ P ∈ pieces, P.length % 64 = 0) ∧ pieces.length = 3 ∧
    pieces.flatten.length = 192 :=
  ⟨[List.replicate 64 0#8, [], List.replicate 128 1#8],
   by intro P hP; simp only [List.mem_cons, List.not_mem_nil, or_false] at hP
      rcases hP with rfl | rfl | rfl <;> simp only [List.length_replicate, List.length_nil],
   rfl, by simp only [List.flatten_cons, List.flatten_nil, List.length_append, List.length_replicate, List.length_nil]⟩

/-- bit lengths as a reused 64-byte buffer gives them: a full read, an empty read (0 bits of a non-empty buffer) -/
example : ∃ (pieces : List (List Spec.Byte × Nat)), (∀ P ∈ pieces, P.2 ≤ 8 * P.1.length ∧ P.2 % (8 * 64) = 0) ∧
    (pieces.map cut).flatten.length = 64 ∧ (pieces.map (·.1.length)).sum = 192 :=
  ⟨[(List.replicate 64 7#8, 512), (List.replicate 64 7#8, 0), (List.replicate 64 7#8, 0)],
   by intro P hP; simp only [List.mem_cons, List.not_mem_nil, or_false] at hP
      rcases hP with rfl | rfl | rfl <;> simp only [List.length_replicate] <;> decide,
   by decide, by decide⟩

end Proofs.C14
