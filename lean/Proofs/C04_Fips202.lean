/-
  C04 / FIPS 202 — the bit-level reading of the standard agrees with the lane-level specification.
  Spec.Fips202 transcribes FIPS 202 literally (bit strings; the state array of bits A[x,y,z]; Algorithms 1–11 as the
  standard words them); Spec.Keccak, which the C04 theorems about the code are stated against, works on 25 lanes of w
  bits.  Under the correspondence `lanes w A` = the state whose lane (x,y) has A[x,y,z] as its bit z, every step mapping
  of Spec.Fips202 is that of Spec.Keccak, for EVERY lane size w ≥ 1; hence the permutations, the sponge, SHA3-n and SHAKEn
  agree, and, composed with the theorems of Proofs.C04, the MODEL of the code equals FIPS 202 as literally transcribed.
  What remains trusted is that Spec/Fips202.lean is a faithful transcription of the printed standard.
-/
import Model.Keccak
import Model.Sha3
import Spec.Keccak
import Spec.Fips202
import Spec.Fips202Eval
import Proofs.C04
import Proofs.C04.SpecKat
import Proofs.Lemmas.Fips202Step
import Proofs.Lemmas.Fips202Perm
import Proofs.Lemmas.Fips202Sponge
namespace Proofs.C04_Fips202
open Model Model.Keccak Spec.Fips202
open Proofs.Lemmas.KeccakPad Proofs.Lemmas.KeccakSponge Proofs.Lemmas.KeccakString
open Proofs.Lemmas.Fips202Step Proofs.Lemmas.Fips202Perm Proofs.Lemmas.Fips202Sponge

/-! ### the correspondence is a bijection between bits and lanes -/

theorem lanes_bit (w : Nat) (A : StateArray) (x y z : Nat) (hx : x < 5) (hy : y < 5) (hz : z < w) :
    (Spec.Keccak.lane (lanes w A) x y).getLsbD z = A x y z := by
  rw [lane_lanes, getLsbD_laneOf, Nat.mod_eq_of_lt hx, Nat.mod_eq_of_lt hy]; simp [hz]

theorem lanes_surjective (w : Nat) (L : Spec.Keccak.State w) :
    lanes w (fun x y z => (Spec.Keccak.lane L x y).getLsbD z) = L := by
  refine state_ext fun i hi z hz => ?_
  rw [lanes_getElem w _ i hi, getLsbD_laneOf]
  simp only [hz, decide_true, Bool.true_and, Spec.Keccak.lane]
  congr 2
  omega

/-! ### §3.2 the five step mappings, every lane size w ≥ 1, every state array -/

/-- Algorithm 1 (θ on bits: columns C[x,z], D[x,z] = C[(x−1) mod 5, z] ⊕ C[(x+1) mod 5, (z−1) mod w]) is the
    lane-level θ (D[x] = C[x−1] ⊕ ROT(C[x+1], 1)) -/
theorem theta_agrees {w : Nat} (hw : 0 < w) (A : StateArray) :
    lanes w (theta w A) = Spec.Keccak.theta (lanes w A) := by
  unfold Spec.Keccak.theta
  apply lanes_eq_mkState
  intro x hx y hy z hz
  have hm : mod ((z : Int) - ((1 : Nat) : Int)) w < w := mod_lt _ hw
  simp only [Spec.Fips202.theta, mod5_sub_one, mod5_add_one, BitVec.getLsbD_xor]
  rw [rot_bit hw _ 1 z hz]
  simp only [BitVec.getLsbD_xor, lane_lanes, getLsbD_laneOf, hz, hm, decide_true, Bool.true_and, Nat.mod_mod,
    Nat.mod_eq_of_lt hx, Nat.mod_eq_of_lt hy, Nat.reduceMod]
  rfl

/-- Algorithm 2 (ρ on bits: the 24-step walk (x,y) ← (y,(2x+3y) mod 5) from (1,0), bit z of the t-th lane read at
    (z − (t+1)(t+2)/2) mod w; lane (0,0) kept) is the lane-level ρ (rotation of lane (x,y) by its offset) -/
theorem rho_agrees {w : Nat} (hw : 0 < w) (A : StateArray) :
    lanes w (rho w A) = Spec.Keccak.rho (lanes w A) := by
  unfold Spec.Keccak.rho
  apply lanes_eq_mkState
  intro x hx y hy z hz
  have hm : mod ((z : Int) - (Spec.Keccak.rhoOffset x y : Nat)) w < w := mod_lt _ hw
  rw [rot_bit hw _ _ z hz, lane_lanes, getLsbD_laneOf, rho_at A x y z hx hy hz, Nat.mod_eq_of_lt hx,
    Nat.mod_eq_of_lt hy]
  simp [hm]

/-- Algorithm 3 (A′[x,y,z] = A[(x+3y) mod 5, x, z]) is the lane-level π -/
theorem pi_agrees (w : Nat) (A : StateArray) : lanes w (pi A) = Spec.Keccak.pi (lanes w A) := by
  unfold Spec.Keccak.pi
  apply lanes_eq_mkState
  intro x hx y hy z hz
  simp only [pi, mod5_pi, lane_lanes, getLsbD_laneOf, hz, decide_true, Bool.true_and, Nat.mod_mod,
    Nat.mod_eq_of_lt hx]

/-- Algorithm 4 (A′[x,y,z] = A[x,y,z] ⊕ ((A[(x+1) mod 5,y,z] ⊕ 1)·A[(x+2) mod 5,y,z])) is the lane-level χ -/
theorem chi_agrees (w : Nat) (A : StateArray) : lanes w (chi A) = Spec.Keccak.chi (lanes w A) := by
  unfold Spec.Keccak.chi
  apply lanes_eq_mkState
  intro x hx y hy z hz
  simp only [Spec.Fips202.chi, mod5_add_one, mod5_add_two, BitVec.getLsbD_xor, BitVec.getLsbD_and, BitVec.getLsbD_not,
    lane_lanes, getLsbD_laneOf, hz, decide_true, Bool.true_and, Nat.mod_eq_of_lt hx,
    Nat.mod_eq_of_lt hy, Bool.xor_true]

/-- Algorithm 5: rc(t) transcribed step by step is the LFSR output of Spec.Keccak -/
theorem rc_agrees (t : Nat) : rc (t : Int) = Spec.Keccak.rc t := by
  rw [Proofs.Lemmas.KeccakEval.rc_eval, rc, mod_natCast]
  split
  · rename_i h0; rw [h0]; rfl
  · exact congrArg (·.getD 0 false) (rc_fold (t % 255) 1)

/-- Algorithm 6 steps 2–3: the string RC (RC[2^j − 1] = rc(j + 7·ir), j = 0 … ℓ) is the lane RC[ir] of Spec.Keccak -/
theorem RC_agrees (w ir z : Nat) : (RC w (ir : Int)).getD z false = (Spec.Keccak.RC w ir).getLsbD z := by
  have hc : ∀ j : Nat, rc ((j : Int) + 7 * (ir : Int)) = Spec.Keccak.rcCache.getD ((j + 7 * ir) % 255) false := by
    intro j
    rw [Proofs.Lemmas.KeccakEval.rcCache_getD _ (Nat.mod_lt _ (by decide))]
    have : ((j : Int) + 7 * (ir : Int)) = ((j + 7 * ir : Nat) : Int) := by omega
    rw [this, rc_agrees]
    simp only [Spec.Keccak.rc, Nat.mod_mod]
  show bit (RC w (ir : Int)) z = _
  unfold RC Spec.Keccak.RC
  simp only [hc]
  exact ((rcLoops_agree w _ _).2 z).1

/-- Algorithm 6 (ι) is the lane-level ι -/
theorem iota_agrees (w : Nat) (A : StateArray) (ir : Nat) :
    lanes w (iota w A (ir : Int)) = Spec.Keccak.iota (lanes w A) ir := by
  unfold Spec.Keccak.iota
  apply lanes_eq_mkState
  intro x hx y hy z hz
  by_cases h : x = 0 ∧ y = 0
  · obtain ⟨rfl, rfl⟩ := h
    rw [if_pos ⟨rfl, rfl⟩, BitVec.getLsbD_xor, lane_lanes, getLsbD_laneOf, ← RC_agrees]
    simp only [Spec.Fips202.iota, hz, decide_true, Bool.true_and, Nat.zero_mod, and_self, if_true]
  · rw [if_neg h, lane_lanes, getLsbD_laneOf]
    simp only [Spec.Fips202.iota, if_neg h, hz, decide_true, Bool.true_and, Nat.mod_eq_of_lt hx, Nat.mod_eq_of_lt hy]

/-- Rnd(A, ir) = ι(χ(π(ρ(θ(A)))), ir) on bits is the lane-level round -/
theorem Rnd_agrees {w : Nat} (hw : 0 < w) (A : StateArray) (ir : Nat) :
    lanes w (Rnd w A (ir : Int)) = Spec.Keccak.rnd (lanes w A) ir := by
  simp only [Rnd, Spec.Keccak.rnd, iota_agrees, chi_agrees, pi_agrees, rho_agrees hw, theta_agrees hw]

/-- the seven lane sizes w = 2^ℓ of the standard -/
theorem Rnd_agrees_pow2 (l : Nat) (_hl : l ≤ 6) (A : StateArray) (ir : Nat) :
    lanes (2 ^ l) (Rnd (2 ^ l) A (ir : Int)) = Spec.Keccak.rnd (lanes (2 ^ l) A) ir :=
  Rnd_agrees (Nat.two_pow_pos l) A ir

/-! ### §3.1.2 / §3.1.3 strings ⇔ state arrays -/

/-- §3.1.2 (A[x,y,z] = S[w(5y+x)+z]): the lanes of the state array of a string -/
theorem toStateArray_agrees (w : Nat) (S : Str) :
    lanes w (toStateArray w S) = Spec.Keccak.stateOfString w S := by
  refine state_ext fun i hi z hz => ?_
  rw [lanes_getElem w _ i hi, getLsbD_laneOf, getLsbD_stateOfString]
  have : 5 * (i / 5) + i % 5 = i := by omega
  simp only [toStateArray, this, bit, hz, decide_true, Bool.true_and]

/-- §3.1.3 (S = Plane(0) ‖ … ‖ Plane(4), Plane(j) = Lane(0,j) ‖ … ‖ Lane(4,j)): the string of the 25 lanes -/
theorem toStr_agrees (w : Nat) (A : StateArray) : toStr w A = Spec.Keccak.stringOfState (lanes w A) := toStr_eq w A

/-! ### §3.3 / §3.4 the permutations -/

/-- **KECCAK-p[25w, nr] (Algorithm 7) on bit strings = Keccak-p of Spec.Keccak on lanes**: every lane size w ≥ 1,
    every number of rounds nr ≤ 12 + 2ℓ (rounds ir = 12+2ℓ−nr … 12+2ℓ−1) -/
theorem KECCAK_p_agrees {w : Nat} (hw : 0 < w) (nr : Nat) (hnr : nr ≤ 12 + 2 * Nat.log2 w) (S : Str) :
    KECCAK_p (25 * w) nr S
      = Spec.Keccak.stringOfState (Spec.Keccak.keccakP w nr (Spec.Keccak.stateOfString w S)) := by
  have hb : 25 * w / 25 = w := Nat.mul_div_cancel_left w (by decide)
  simp only [KECCAK_p, Spec.Keccak.keccakP, hb, roundIndex_cast hnr, toStr_eq, ← toStateArray_agrees]
  rw [List.foldl_hom (lanes w) (g₂ := fun A i => Spec.Keccak.rnd A (12 + 2 * Nat.log2 w - nr + i))
    fun A k => (Rnd_agrees hw A _).symm]

/-- **KECCAK-f[25w] = KECCAK-p[25w, 12 + 2ℓ] on bit strings = Keccak-f of Spec.Keccak** -/
theorem KECCAK_f_agrees {w : Nat} (hw : 0 < w) (S : Str) : KECCAK_f (25 * w) S = Spec.Keccak.fString w S := by
  have hb : 25 * w / 25 = w := Nat.mul_div_cancel_left w (by decide)
  simp only [KECCAK_f, hb, Spec.Keccak.fString, Spec.Keccak.keccakF, Spec.Keccak.nRounds]
  exact KECCAK_p_agrees hw _ (Nat.le_refl _) S

/-- the seven permutations of the standard, b = 25·2^ℓ ∈ {25, 50, 100, 200, 400, 800, 1600} -/
theorem KECCAK_f_agrees_pow2 (l : Nat) (_hl : l ≤ 6) (S : Str) :
    KECCAK_f (25 * 2 ^ l) S = Spec.Keccak.fString (2 ^ l) S := KECCAK_f_agrees (Nat.two_pow_pos l) S

/-- KECCAK-p[1600, 24], the permutation of KECCAK[c] (§5.2), is Keccak-f[1600] of Spec.Keccak -/
theorem KECCAK_p_1600_24 : KECCAK_p 1600 24 = Spec.Keccak.fString 64 := by
  funext S
  exact KECCAK_f_agrees (w := 64) (by decide) S

/-! ### §4, §5 pad10*1 and the sponge construction -/

/-- Algorithm 9 (j = (−m−2) mod x on the integers) = the padding rule of Spec.Keccak -/
theorem pad10s1_agrees (x m : Nat) (hx : 0 < x) : pad10s1 x m = Spec.Keccak.pad101 x m := by
  have e : (-(m : Int) - 2) = -(((m + 2 : Nat)) : Int) := by omega
  simp only [pad10s1, Spec.Keccak.pad101, e, mod_neg _ _ hx, zeros]
  rfl

/-- **Algorithm 8 = the sponge of Spec.Keccak**, for every function f on strings of length b (the squeezing loop
    "Z = Z ‖ Trunc_r(S); if d ≤ |Z| return Trunc_d(Z); S = f(S)" against ⌈d/r⌉ pieces truncated to d) -/
theorem SPONGE_agrees (b r : Nat) (hr : 0 < r) (hrb : r ≤ b) (f : Str → Str) (hf : ∀ S, (f S).length = b)
    (N : Str) (d : Nat) : SPONGE b f pad10s1 r N d = Spec.Keccak.sponge f b r N d := by
  obtain ⟨k, hk⟩ := padded_length r N.length hr
  have hP : (N ++ Spec.Keccak.pad101 r N.length).length = r * k := by rw [List.length_append]; exact hk
  simp only [SPONGE, Spec.Keccak.sponge, pad10s1_agrees r _ hr]
  rw [chunksOf_eq r hr, hP, nblk_mul r k hr, Nat.mul_div_cancel_left k hr, List.foldl_map]
  rw [squeeze_agree f b r d hr hrb hf (d + 1) _ []
    (Lemmas.Fold.foldl_inv (fun S : Str => S.length = b) _ _ (fun _ _ _ _ => hf _) (by simp [zeros]))
    (by simp only [List.length_nil, Nat.zero_add]
        exact Nat.le_trans (Nat.le_succ d) (Nat.le_mul_of_pos_right _ hr))]
  rfl

/-- SPONGE[KECCAK-f[25w], pad10*1, r] = the Keccak sponge of Spec.Keccak -/
theorem SPONGE_KECCAK_f_agrees {w : Nat} (hw : 0 < w) (r : Nat) (hr : 0 < r) (hrb : r ≤ 25 * w) (N : Str) (d : Nat) :
    SPONGE (25 * w) (KECCAK_f (25 * w)) pad10s1 r N d = Spec.Keccak.keccak w r N d := by
  have hf : KECCAK_f (25 * w) = Spec.Keccak.fString w := funext fun S => KECCAK_f_agrees hw S
  rw [SPONGE_agrees (25 * w) r hr hrb _ (fun S => by rw [KECCAK_f]; exact KECCAK_p_length _ S) N d, hf]
  rfl

/-- §5.2: KECCAK[c](N, d) = SPONGE[KECCAK-p[1600, 24], pad10*1, 1600 − c](N, d) -/
theorem KECCAK_agrees (c : Nat) (hc : c < 1600) (N : Str) (d : Nat) : KECCAK c N d = Spec.Keccak.keccakC c N d := by
  unfold KECCAK
  rw [SPONGE_agrees 1600 (1600 - c) (by omega) (by omega) _
    (fun S => KECCAK_p_length (w := 64) 24 S) N d, KECCAK_p_1600_24]
  rfl

/-! ### Appendix B.1 -/

/-- h2b (Algorithm 10) of a byte string written in hexadecimal = its bits, each byte least significant bit first -/
theorem h2b_agrees (M : List Nat) (n : Nat) : h2b (hexOfBytes M) n = (Spec.Keccak.bitsOfBytes M).take n := by
  simp only [h2b, Trunc, h2bT_agree]

theorem h2b_full (M : List Nat) : h2b (hexOfBytes M) (8 * M.length) = Spec.Keccak.bitsOfBytes M := by
  rw [h2b_agrees, List.take_of_length_le (by rw [bitsOfBytes_length]; exact Nat.le_refl _)]

/-- b2h (Algorithm 11), read back as bytes = the byte string of Spec.Keccak (zero-filled last byte) -/
theorem b2h_agrees (Z : Str) : bytesOfHex (b2h Z) = Spec.Keccak.bytesOfBits Z := by
  simp only [b2h, Spec.Keccak.bytesOfBits, bytesOfHex_pairs, chunksOf_eq 8 (by decide), List.map_map]
  have hm : (Z.length + 7) / 8 = nblk 8 Z.length := rfl
  rw [hm]
  apply List.map_congr_left
  intro i _
  simp only [Function.comp]
  have hT : ∀ j, (Z ++ zeros (mod (-(Z.length : Int)) 8)).getD j false = bit Z j := fun j =>
    Lemmas.Fold.getD_append_replicate Z _ j false
  simp only [hT, Nat.add_zero]
  have e : Spec.Keccak.bitsToNat (List.take 8 (List.drop (8 * i) Z)) =
      Spec.Keccak.bitsToNat [bit Z (8 * i), bit Z (8 * i + 1), bit Z (8 * i + 2), bit Z (8 * i + 3),
        bit Z (8 * i + 4), bit Z (8 * i + 5), bit Z (8 * i + 6), bit Z (8 * i + 7)] := by
    apply Nat.eq_of_testBit_eq
    intro t
    rw [testBit_bitsToNat, testBit_bitsToNat, bit_take, bit_drop]
    by_cases h : t < 8
    · have : t = 0 ∨ t = 1 ∨ t = 2 ∨ t = 3 ∨ t = 4 ∨ t = 5 ∨ t = 6 ∨ t = 7 := by omega
      rcases this with rfl | rfl | rfl | rfl | rfl | rfl | rfl | rfl <;> simp [bit]
    · rw [bit_of_length_le (i := t) (by simp only [List.length_cons, List.length_nil]; omega)]
      simp [h]
  rw [e]
  simp only [Spec.Keccak.bitsToNat]
  omega

/-- the message bits of the native (LSB-first) mode are h2b(H, L) of the message's hexadecimal writing -/
theorem msgBits_lsb_eq_h2b (M : List Nat) (L : Nat) : msgBits true M (some L) = h2b (hexOfBytes M) L := by
  rw [h2b_agrees]; rfl

/-! ### §6 SHA3-n and SHAKEn -/

/-- SHA3-224/256/384/512 of Spec.Fips202 on h2b(M), converted by b2h = Spec.Keccak.sha3 -/
theorem SHA3_agrees (n : Nat) (hn : n ∈ [224, 256, 384, 512]) (M : List Nat) :
    bytesOfHex (b2h (SHA3 n (h2b (hexOfBytes M) (8 * M.length)))) = Spec.Keccak.sha3 n M := by
  rw [b2h_agrees, h2b_full]
  simp only [List.mem_cons, List.not_mem_nil, or_false] at hn
  rcases hn with rfl | rfl | rfl | rfl
  · simp [SHA3, SHA3_224, Spec.Keccak.sha3, KECCAK_agrees 448 (by decide)]
  · simp [SHA3, SHA3_256, Spec.Keccak.sha3, KECCAK_agrees 512 (by decide)]
  · simp [SHA3, SHA3_384, Spec.Keccak.sha3, KECCAK_agrees 768 (by decide)]
  · simp [SHA3, SHA3_512, Spec.Keccak.sha3, KECCAK_agrees 1024 (by decide)]

/-- SHAKE128 / SHAKE256 of Spec.Fips202 = Spec.Keccak.shake -/
theorem SHAKE_agrees (n : Nat) (hn : n = 128 ∨ n = 256) (M : List Nat) (d : Nat) :
    bytesOfHex (b2h (SHAKE n (h2b (hexOfBytes M) (8 * M.length)) d)) = Spec.Keccak.shake n M d := by
  rw [b2h_agrees, h2b_full]
  rcases hn with rfl | rfl
  · simp [SHAKE, SHAKE128, Spec.Keccak.shake, KECCAK_agrees 256 (by decide)]
  · simp [SHAKE, SHAKE256, Spec.Keccak.shake, KECCAK_agrees 512 (by decide)]

/-- §6.3: SHAKEn(M, d) = RawSHAKEn(M ‖ 11, d) holds for the transcription -/
theorem SHAKE_eq_RawSHAKE (M : Str) (d : Nat) :
    SHAKE128 M d = RawSHAKE128 (M ++ [true, true]) d ∧ SHAKE256 M d = RawSHAKE256 (M ++ [true, true]) d := by
  simp [SHAKE128, SHAKE256, RawSHAKE128, RawSHAKE256]

/-- **the sponge object of the library = Algorithm 8 over KECCAK-f[b] of the literal transcription**, on the domain of
    `Proofs.C04.sponge_refines`:  `Keccak(b=25w,r=r,len=d)(M,bitlen)` returns the bytes b2h writes for
    SPONGE[KECCAK-f[25w], pad10*1, r](N, d),  N the message bits in the mode's order (`msgBits_lsb_eq_h2b`: in the
    native mode N = h2b(M, L)) -/
theorem sponge_refines_fips202 {w} (hw : w ∈ [1, 2, 4, 8, 16, 32, 64]) (r : Nat) (hr0 : 0 < r) (hrb : r ≤ 25 * w)
    (hr : r ≤ 1536) (lsb : Bool) (M : List Nat) (hM : ∀ b ∈ M, b < 256) (bitlen : Option Nat)
    (hL : ∀ L, bitlen = some L → L ≤ 8 * M.length) (d : Nat) (hd : 0 < d) :
    (Keccak.mk (25 * w) r (some d)).bind (fun c => Keccak.call { c with duplexing := lsb } M bitlen)
      = .ok (bytesOfHex (b2h (SPONGE (25 * w) (KECCAK_f (25 * w)) pad10s1 r (msgBits lsb M bitlen) d))) := by
  have hw0 : 0 < w := Nat.pos_of_dvd_of_pos (Proofs.Lemmas.KeccakLane.dvd64 hw) (by decide)
  rw [Proofs.C04.sponge_refines hw r hr0 hrb hr lsb M hM bitlen hL d hd, b2h_agrees,
    SPONGE_KECCAK_f_agrees hw0 r hr0 hrb]

/-- **SHA3-224/256/384/512 of the library = FIPS 202 §6.1 as literally transcribed**:
    `SHA3(n)(M)` = b2h(SHA3-n(h2b(M, 8|M|))) -/
theorem sha3_refines_fips202 (n : Nat) (hn : n ∈ [224, 256, 384, 512]) (M : List Nat) (hM : ∀ b ∈ M, b < 256) :
    Sha3.sha3 n M = .ok (bytesOfHex (b2h (SHA3 n (h2b (hexOfBytes M) (8 * M.length))))) := by
  rw [Proofs.C04.sha3_refines n hn M hM, SHA3_agrees n hn M]

/-- **SHAKE128 / SHAKE256 of the library = FIPS 202 §6.2 as literally transcribed**, d ≥ 1 in bits:
    `SHAKEn(M,d)` = b2h(SHAKEn(h2b(M, 8|M|), d)) -/
theorem shake_refines_fips202 (n : Nat) (hn : n = 128 ∨ n = 256) (M : List Nat) (hM : ∀ b ∈ M, b < 256)
    (d : Nat) (hd : 0 < d) :
    Sha3.shake (2 * n) M d = .ok (bytesOfHex (b2h (SHAKE n (h2b (hexOfBytes M) (8 * M.length)) d))) := by
  rw [Proofs.C04.shake_refines n hn M hM d hd, SHAKE_agrees n hn M d]

/-- Spec.Fips202Eval (the state written down after every round) computes Algorithm 7 -/
theorem KECCAK_p_eval_eq {w : Nat} (hw : 0 < w) (nr : Nat) (hnr : nr ≤ 12 + 2 * Nat.log2 w) (S : Str) :
    Eval.KECCAK_p_eval (25 * w) nr S = KECCAK_p (25 * w) nr S := by
  have hb : 25 * w / 25 = w := Nat.mul_div_cancel_left w (by decide)
  rw [KECCAK_p_agrees hw nr hnr S, ← toStateArray_agrees, ← lanes_unpack_pack w (toStateArray w S)]
  simp only [Eval.KECCAK_p_eval, Spec.Keccak.keccakP, hb, roundIndex_cast hnr, toStr_eq]
  have h : ∀ (n k : Nat), Spec.Keccak.rnd (lanes w (Eval.unpack w n)) (12 + 2 * Nat.log2 w - nr + k)
      = lanes w (Eval.unpack w (Eval.rndEval w n ((12 + 2 * Nat.log2 w - nr + k : Nat) : Int))) := by
    intro n k
    rw [Eval.rndEval, lanes_unpack_pack, Rnd_agrees hw]
  rw [List.foldl_hom (fun n => lanes w (Eval.unpack w n)) h]

/-- what the driver prints for `fips202.sha3` / `fips202.shake` is SHA3-n / SHAKEn of Spec.Fips202 -/
theorem SHA3_eval_eq (n : Nat) (hn : n ∈ [224, 256, 384, 512]) (M : Str) : Eval.SHA3_eval n M = SHA3 n M := by
  have hp : Eval.KECCAK_p_eval 1600 24 = KECCAK_p 1600 24 :=
    funext fun S => KECCAK_p_eval_eq (w := 64) (by decide) 24 (by decide) S
  simp only [List.mem_cons, List.not_mem_nil, or_false] at hn
  rcases hn with rfl | rfl | rfl | rfl <;>
    simp [Eval.SHA3_eval, Eval.KECCAK_eval, hp, SHA3, SHA3_224, SHA3_256, SHA3_384, SHA3_512, KECCAK]

theorem SHAKE_eval_eq (n : Nat) (hn : n = 128 ∨ n = 256) (M : Str) (d : Nat) :
    Eval.SHAKE_eval n M d = SHAKE n M d := by
  have hp : Eval.KECCAK_p_eval 1600 24 = KECCAK_p 1600 24 :=
    funext fun S => KECCAK_p_eval_eq (w := 64) (by decide) 24 (by decide) S
  rcases hn with rfl | rfl <;> simp [Eval.SHAKE_eval, Eval.KECCAK_eval, hp, SHAKE, SHAKE128, SHAKE256, KECCAK]

/-! ### known answers for Spec.Fips202 itself

Carried over by the agreement theorems from the kernel evaluations of Proofs/C04/SpecKat.lean (the lane-level
specification evaluates 25w bits at a time).  Proofs/C04/Fips202Kat.lean runs rc, pad10*1 and h2b of the literal
transcription directly; its permutation vectors also go through `KECCAK_p_agrees`. -/

/-- FIPS 202 / NIST example values: SHA3-256 of the empty message = a7ffc6f8 bf1ed766 51c14756 a061d662 f580ff4d
    e43b49fa 82d80a4b 80f8434a — for SHA3-256 of the literal transcription -/
example : bytesOfHex (b2h (SHA3_256 []))
    = [0xa7, 0xff, 0xc6, 0xf8, 0xbf, 0x1e, 0xd7, 0x66, 0x51, 0xc1, 0x47, 0x56, 0xa0, 0x61, 0xd6, 0x62, 0xf5, 0x80,
       0xff, 0x4d, 0xe4, 0x3b, 0x49, 0xfa, 0x82, 0xd8, 0x0a, 0x4b, 0x80, 0xf8, 0x43, 0x4a] := by
  have h := (SHA3_agrees 256 (by decide) []).trans Proofs.C04.SpecKat.kat_sha3_256_empty
  have e1 : h2b (hexOfBytes []) (8 * ([] : List Nat).length) = [] := by decide
  have e2 : ∀ M, SHA3 256 M = SHA3_256 M := fun M => by simp [SHA3]
  rw [e1, e2] at h
  exact h

/-- the 43 message bits of the compact-Keccak vector (Msg = F219BD629820, Len = 43, NIST bit order) -/
def kat200N : Str :=
  [false, true, false, false, true, true, true, true, true, false, false, true, true, false, false, false, true,
   false, true, true, true, true, false, true, false, true, false, false, false, true, true, false, false, false,
   false, true, true, false, false, true, true, false, false]

/-- compact Keccak, b = 200, r = 40 (KeccakReferenceAndOptimized; also in the library's tests):
    Squeezed = C8F9476DBF0B0FE01F80629FD5689097AAAC6732 — for SPONGE[KECCAK-f[200], pad10*1, 40] of the literal
    transcription -/
example : bytesOfHex (b2h (SPONGE 200 (KECCAK_f 200) pad10s1 40 kat200N 160))
    = [0xC8, 0xF9, 0x47, 0x6D, 0xBF, 0x0B, 0x0F, 0xE0, 0x1F, 0x80, 0x62, 0x9F, 0xD5, 0x68, 0x90, 0x97, 0xAA, 0xAC,
       0x67, 0x32] := by
  have hN : kat200N = Spec.Keccak.msgBitsNIST [0xF2, 0x19, 0xBD, 0x62, 0x98, 0x20] 43 := by decide
  have h := SPONGE_KECCAK_f_agrees (w := 8) (by decide) 40 (by decide) (by decide) kat200N 160
  rw [b2h_agrees, show (200 : Nat) = 25 * 8 from rfl, h, hN]
  exact Proofs.C04.SpecKat.kat_b200

end Proofs.C04_Fips202
