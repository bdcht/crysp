/-
  C17 — MD6 digests equal the specification for every digest size, mode parameter L, key, round count and
  message bit length.
-/
import Model.Md6
import Spec.Md6
import Proofs.Lemmas.Md6F
import Proofs.Lemmas.Md6V
import Proofs.Lemmas.Md6Mode
namespace Proofs.C17
open Model Model.Md6 Proofs.Lemmas

/-! ### the constants the code reads (Model.Gen.Md6) are the report's -/

theorem Q_eq : Gen.Md6.Q = Spec.Md6.Q.map (·.toNat) := Md6Mode.Q_toNat

/-- … and the report's Q is what it claims to be: the first 960 bits of the fractional part of √6 -/
theorem Q_is_sqrt6 : Spec.Md6.QisSqrt6 := by
  unfold Spec.Md6.QisSqrt6; decide +kernel

theorem shift_tables_eq : Gen.Md6.rin = Spec.Md6.rshift ∧ Gen.Md6.lin = Spec.Md6.lshift := ⟨Md6F.rin_eq, Md6F.lin_eq⟩

/-- tap positions, as a tuple and as the five names the loop uses -/
theorem taps_eq : Gen.Md6.taps = [Spec.Md6.t0, Spec.Md6.t1, Spec.Md6.t2, Spec.Md6.t3, Spec.Md6.t4]
    ∧ Gen.Md6.t0 = Spec.Md6.t0 ∧ Gen.Md6.t1 = Spec.Md6.t1 ∧ Gen.Md6.t2 = Spec.Md6.t2
    ∧ Gen.Md6.t3 = Spec.Md6.t3 ∧ Gen.Md6.t4 = Spec.Md6.t4 := by decide

/-- S₀, the mask S* and the rotation of the round-constant recurrence; 16 steps per round, 16 output words -/
theorem S_constants_eq : Gen.Md6.S0 = Spec.Md6.S0.toNat ∧ Gen.Md6.Smask = Spec.Md6.Sstar.toNat ∧ Gen.Md6.Srot = 1
    ∧ Gen.Md6.stepsPerRound = 16 ∧ Gen.Md6.jWrap = 16 ∧ Gen.Md6.cWords = Spec.Md6.c := ⟨Md6F.S0_toNat, by decide⟩

/-- the constructor's default round count, probed for EVERY d ≤ 512 without and with a key, is the report's
    r = 40 + ⌊d/4⌋ (at least 80 with a key) -/
theorem default_rounds_eq : ∀ d ≤ 512,
    Gen.Md6.defaultRounds.getD d 0 = Spec.Md6.defaultRounds d 0 ∧
    Gen.Md6.defaultRoundsKeyed.getD d 0 = Spec.Md6.defaultRounds d 1 := by
  -- the probed tables are the rule tabulated; compared as whole lists, one pass (indexing walks the table per d)
  have h : Gen.Md6.defaultRounds =(List.range 513).map (Spec.Md6.defaultRounds · 0) ∧
      Gen.Md6.defaultRoundsKeyed = (List.range 513).map (Spec.Md6.defaultRounds · 1) := by decide +kernel
  intro d hd
  have hd' : d < 513 := by omega
  rw [h.1, h.2]
  simp [List.getD_eq_getElem?_getD, List.getElem?_range hd']

/-- … and the model's rule is the report's for every d and key -/
theorem default_rounds_refines (d : Nat) (key : List Nat) (L : Nat) :
    (Md6.new d key L).rounds = Spec.Md6.defaultRounds d key.length := by
  simp only [Md6.new, Md6.defaultRounds, Spec.Md6.defaultRounds, Option.getD_none]
  by_cases h : key.length = 0 <;> simp [h]

/-- MD6.f equals the report's compression function f_r for EVERY round count r ≥ 1 and every 89-word input
    (r = 0 is outside the report and is an artefact in the code: `Poly(0,64,dim=0)` has one coefficient) -/
theorem f_refines (r : Nat) (hr : 1 ≤ r) (N : List Nat) (hN : N.length = 89) :
    Md6.f r N = (Spec.Md6.compress r (N.map (BitVec.ofNat 64))).map (·.toNat) :=
  Md6F.f_refines' r hr N hN

/-- the loop's running round constant is the report's S'_{⌊s/16⌋} -/
theorem round_constant_is_Sr (N : List Spec.Md6.Word) (s : Nat) :
    ((List.range s).foldl Spec.Md6.step (N.toArray, Spec.Md6.S0)).2 = Spec.Md6.Sr (s / 16) := by
  refine Fold.foldl_range_inv (fun i (st : Array Spec.Md6.Word × Spec.Md6.Word) => st.2 = Spec.Md6.Sr (i / 16))
    _ s _ rfl fun i _ st ih => ?_
  simp only [Spec.Md6.step, ih]
  by_cases h : i % 16 = 15
  · rw [if_pos h, show (i + 1) / 16 = i / 16 + 1 by omega]; rfl
  · rw [if_neg h, show (i + 1) / 16 = i / 16 by omega]

/-- the control word the code assembles by `Bits` concatenation and slice assignment (`V[20:36] = p`, PAR) is the
    report's V = 0⁴‖r¹²‖L⁸‖z⁴‖p¹⁶‖keylen⁸‖d¹², for every field value that fits its field -/
theorem V_layout (d keylen z L r p : Nat) (hr : r < 2^12) (hL : L < 2^8) (hz : z < 2^4) (hp : p < 2^16)
    (hk : keylen < 2^8) (hd : d < 2^12) :
    Md6.setP (Md6.V0 d keylen z L r) p = .ok ⟨(Spec.Md6.V r L z p keylen d).toNat, 64⟩ :=
  Md6V.setP_V0 d keylen z L r p hr hL hz hp hk hd

/-- … and in SEQ, where the last block gets `V[20:36] = p; V[36:40] = Bits(1,4)` on a word built with z = 0 -/
theorem V_layout_seq (d keylen L r p : Nat) (hr : r < 2^12) (hL : L < 2^8) (hp : p < 2^16)
    (hk : keylen < 2^8) (hd : d < 2^12) :
    (Md6.setP (Md6.V0 d keylen 0 L r) p >>= Md6.setZ1) = .ok ⟨(Spec.Md6.V r L 1 p keylen d).toNat, 64⟩
    ∧ Md6.V0 d keylen 0 L r = ⟨(Spec.Md6.V r L 0 0 keylen d).toNat, 64⟩ :=
  ⟨(congrArg (· >>= Md6.setZ1) (Md6V.setP_V0 d keylen 0 L r p hr hL (by omega) hp hk hd)).trans
      (Md6V.setZ1_V d keylen L r p hr hL hp hk hd),
    Md6V.V0_eq d keylen 0 L r hr hL (by omega) hk hd⟩

/-- the node id `(level<<56)+index` stored into `W[23]` is the report's U = ℓ⁸‖i⁵⁶ -/
theorem U_layout (level index : Nat) (hl : level < 2^8) (hi : index < 2^56) :
    ((level <<< 56) + index) % 2 ^ 64 = (Spec.Md6.U level index).toNat :=
  Md6V.U_eq level index hl hi

/-! ### mode of operation

  Hypotheses used below, all part of the property's own quantifier (and of the report's parameter space):
  d ≤ 512, L ≤ 64, 1 ≤ r < 4096 (a 12-bit field), key of at most 64 bytes, message bytes are < 256 (`hkb` says the
  same of the key; the proofs do not read it), the message is shorter than 2^64 bits (the report's bound; it keeps the
  node index inside its 56-bit field), and an explicit bit length does not exceed the message.
  `m` = the bit length actually hashed = `bitlen` if given, else 8|M|. -/

/-- one call of MD6.PAR at any level below 256 is the report's PAR: j = max(1,⌈m/4096⌉) compressions of
    Q‖K‖U(ℓ,i)‖V(r,L,z,p,keylen,d)‖B_i with z = [j = 1] and p = the padding bits of the last block -/
theorem par_level_refines (d L r : Nat) (key M : List Nat) (level : Nat) (bitlen : Option Nat)
    (hd : d ≤ 512) (hL : L ≤ 64) (hr1 : 1 ≤ r) (hr : r < 4096) (hkey : key.length ≤ 64)
    (hkb : ∀ x ∈ key, x < 256) (hM : ∀ x ∈ M, x < 256) (hlevel : level < 256)
    (hbl : bitlen.getD (8 * M.length) ≤ 8 * M.length) (hlen : 8 * M.length < 2 ^ 64) :
    Md6.PAR (Md6.new d key L (some r)) level M bitlen =
      .ok (Spec.Md6.ofWords (Spec.Md6.par ⟨d, key, L, r⟩ level M (bitlen.getD (8 * M.length)))) :=
  Md6Mode.par_refines (Md6Mode.dom_of hd hL hr1 hr hkey hkb) level hlevel M hM bitlen hbl hlen

/-- MD6.SEQ is the report's SEQ (chained compressions with the 16-word chaining prefix, z = 1 and p on the last
    block only, node ids (L+1, i)) followed by the final chop to d bits -/
theorem seq_refines (d L r : Nat) (key M : List Nat) (bitlen : Option Nat)
    (hd : d ≤ 512) (hL : L ≤ 64) (hr1 : 1 ≤ r) (hr : r < 4096) (hkey : key.length ≤ 64)
    (hkb : ∀ x ∈ key, x < 256) (hM : ∀ x ∈ M, x < 256)
    (hbl : bitlen.getD (8 * M.length) ≤ 8 * M.length) (hlen : 8 * M.length < 2 ^ 64) :
    Md6.SEQ (Md6.new d key L (some r)) M bitlen =
      .ok (Spec.Md6.chop d (Spec.Md6.seq ⟨d, key, L, r⟩ M (bitlen.getD (8 * M.length)))) :=
  Md6Mode.seq_refines (Md6Mode.dom_of hd hL hr1 hr hkey hkb) (by omega) M hM bitlen hbl hlen

/-- END-TO-END: `MD6(d,key,L)(M,bitlen)` with a round count r assigned to `.rounds` returns the digest the report
    defines, for every mode parameter L ≤ 64 (sequential, hybrid, hierarchical); in particular it returns, it never
    raises and the level loop terminates -/
theorem md6_refines (d L r : Nat) (key M : List Nat) (bitlen : Option Nat)
    (hd : d ≤ 512) (hL : L ≤ 64) (hr1 : 1 ≤ r) (hr : r < 4096) (hkey : key.length ≤ 64)
    (hkb : ∀ x ∈ key, x < 256) (hM : ∀ x ∈ M, x < 256)
    (hbl : bitlen.getD (8 * M.length) ≤ 8 * M.length) (hlen : 8 * M.length < 2 ^ 64) :
    Md6.call (Md6.new d key L (some r)) M bitlen =
      .ok (Spec.Md6.md6 ⟨d, key, L, r⟩ M (bitlen.getD (8 * M.length))) := by
  unfold Md6.call Spec.Md6.md6
  exact Md6Mode.loop_refines (Md6Mode.dom_of hd hL hr1 hr hkey hkb) (by omega) (M.length + 1) 0 M bitlen (Nat.zero_le _)
    hM hbl hlen (by omega)

/-- … and with the constructor's default round count, which is the report's r = 40 + ⌊d/4⌋ (≥ 80 with a key) -/
theorem md6_refines_default_rounds (d L : Nat) (key M : List Nat) (bitlen : Option Nat)
    (hd : d ≤ 512) (hL : L ≤ 64) (hkey : key.length ≤ 64)
    (hkb : ∀ x ∈ key, x < 256) (hM : ∀ x ∈ M, x < 256)
    (hbl : bitlen.getD (8 * M.length) ≤ 8 * M.length) (hlen : 8 * M.length < 2 ^ 64) :
    Md6.call (Md6.new d key L) M bitlen =
      .ok (Spec.Md6.md6 ⟨d, key, L, Spec.Md6.defaultRounds d key.length⟩ M (bitlen.getD (8 * M.length))) := by
  have h : Md6.new d key L = Md6.new d key L (some (Spec.Md6.defaultRounds d key.length)) := by
    rw [← default_rounds_refines d key L]
    rfl
  rw [h]
  apply md6_refines d L _ key M bitlen hd hL _ _ hkey hkb hM hbl hlen
  · unfold Spec.Md6.defaultRounds; split <;> omega
  · unfold Spec.Md6.defaultRounds; split <;> omega

/-- the digest has exactly ⌈d/8⌉ bytes, and when d is not a multiple of 8 the unused low bits of the last byte are
    zero (the d bits are left-aligned) -/
theorem digest_length (d L r : Nat) (key M : List Nat) (bitlen : Option Nat)
    (hd : d ≤ 512) (hL : L ≤ 64) (hr1 : 1 ≤ r) (hr : r < 4096) (hkey : key.length ≤ 64)
    (hkb : ∀ x ∈ key, x < 256) (hM : ∀ x ∈ M, x < 256)
    (hbl : bitlen.getD (8 * M.length) ≤ 8 * M.length) (hlen : 8 * M.length < 2 ^ 64) :
    ∃ out, Md6.call (Md6.new d key L (some r)) M bitlen = .ok out ∧ out.length = (d + 7) / 8 ∧
      (d % 8 ≠ 0 → out.getD (d / 8) 0 % 2 ^ (8 - d % 8) = 0) := by
  refine ⟨_, md6_refines d L r key M bitlen hd hL hr1 hr hkey hkb hM hbl hlen, Md6Mode.chop_length _ _, ?_⟩
  intro h8
  exact Md6Mode.chop_low_bits d h8 _

/-- the specification's own level loop is total: its iteration bound is never exhausted (the documented default `[]`
    is not produced) — the root is exactly one 16-word chaining value, for EVERY message, bit length, L and r ≥ 1 -/
theorem spec_root_is_one_chaining_value (P : Spec.Md6.Params) (hr : 1 ≤ P.r) (M : List Nat) (m : Nat)
    (hm : m ≤ 8 * M.length) : (Spec.Md6.levels P (M.length + 1) 1 M m).length = Spec.Md6.c :=
  Md6Mode.levels_length P hr (M.length + 1) 1 M m (by omega)

theorem bitlen_beyond_message_refused (d L : Nat) (r : Option Nat) (key M : List Nat) (b : Nat)
    (hb : 8 * M.length < b) : ∃ e, Md6.call (Md6.new d key L r) M (some b) = .error e := by
  unfold Md6.call Md6.levelLoop
  simp only [Nat.zero_add]
  split
  · obtain ⟨e, he⟩ := Md6Pad.nullBlocks_too_long 3072 M b hb
    exact ⟨e, by simp [Md6.SEQ, he, bind, Except.bind]⟩
  · obtain ⟨e, he⟩ := Md6Pad.nullBlocks_too_long 4096 M b hb
    exact ⟨e, by simp [Md6.PAR, he, bind, Except.bind]⟩

/-! ### non-vacuity -/

example : Md6.call (Md6.new 250 [1, 2, 3] 1 (some 2)) (List.replicate 600 7) (some 4797) =
    .ok (Spec.Md6.md6 ⟨250, [1, 2, 3], 1, 2⟩ (List.replicate 600 7) 4797) :=
  md6_refines 250 1 2 [1, 2, 3] (List.replicate 600 7) (some 4797) (by omega) (by omega) (by omega) (by omega)
    (by decide) (by decide) (Bytes.AllBytes.replicate (by decide) _)
    (by simp only [Option.getD_some, List.length_replicate]; omega)
    (by simp only [List.length_replicate]; omega)

example : Md6.f 1 (List.replicate 89 0) ≠ List.replicate 16 0 := by decide +kernel

end Proofs.C17
