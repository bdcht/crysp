/-
  C02 (DES part) — sanity of the specification lean/Spec/Des.lean, continued: S-box entries looked up
  while enciphering the test vectors 1..5 of the NBS S-box test (evaluated in Proofs/C02_DesSpec/SboxTest.lean).
-/
import Proofs.C02_DesSpec.SboxTest
namespace Proofs.C02_DesSpec.SboxCover0
open Spec.Des Proofs.Lemmas.DesSboxVectors

theorem sbox_test_mask_0 :
    mask (inputsOf (part 0)) =
      0x2c9b7fdff0efeffdfb555cf397eeacf6ff6a7b7fecbef3bdfbdf6e2ffefef6febafacdbecfff3317ccf637a6f7d677febdf3f537b78f366f7d3bfe7dfd5fba7f :=
  SboxTest.sbox_test.2.1

end Proofs.C02_DesSpec.SboxCover0
