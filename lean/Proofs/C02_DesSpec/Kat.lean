/-
  C02 (DES part) — sanity of the specification lean/Spec/Des.lean, continued (see Proofs/C02_DesSpec.lean): published known
  answers evaluated through Spec.Des in the kernel; those that are instances of `dec_enc` or of "the parity bits do not
  reach the key schedule" follow from the answer they belong to.
-/
import Proofs.Lemmas.DesEval
import Proofs.Lemmas.DesSpecInv
namespace Proofs.C02_DesSpec.Kat
open Spec.Des Proofs.Lemmas.DesEval

/-- the worked example found in every DES tutorial (key 133457799BBCDFF1) -/
theorem kat_classic :
    enc [0x13, 0x34, 0x57, 0x79, 0x9B, 0xBC, 0xDF, 0xF1] [0x01, 0x23, 0x45, 0x67, 0x89, 0xAB, 0xCD, 0xEF]
      = some [0x85, 0xE8, 0x13, 0x54, 0x0F, 0x0A, 0xB4, 0x05] ∧
    dec [0x13, 0x34, 0x57, 0x79, 0x9B, 0xBC, 0xDF, 0xF1] [0x85, 0xE8, 0x13, 0x54, 0x0F, 0x0A, 0xB4, 0x05]
      = some [0x01, 0x23, 0x45, 0x67, 0x89, 0xAB, 0xCD, 0xEF] := by
  have h : enc [0x13, 0x34, 0x57, 0x79, 0x9B, 0xBC, 0xDF, 0xF1] [0x01, 0x23, 0x45, 0x67, 0x89, 0xAB, 0xCD, 0xEF]
      = some [0x85, 0xE8, 0x13, 0x54, 0x0F, 0x0A, 0xB4, 0x05] := by
    rw [enc_eq]
    decide +kernel
  have hd := dec_enc [0x13, 0x34, 0x57, 0x79, 0x9B, 0xBC, 0xDF, 0xF1] [0x01, 0x23, 0x45, 0x67, 0x89, 0xAB, 0xCD, 0xEF] rfl rfl
    (by decide)
  rw [h, Option.bind_some] at hd
  exact ⟨h, hd⟩

/-- its first and last round keys (K1 = 000110 110000 001011 101111 111111 000111 000001 110010,
    K16 = 110010 110011 110110 001011 000011 100001 011111 110101) -/
theorem kat_classic_round_keys :
    let ks := keySchedule (bytesToBits [0x13, 0x34, 0x57, 0x79, 0x9B, 0xBC, 0xDF, 0xF1])
    ks.length = 16 ∧ (∀ K ∈ ks, K.length = 48) ∧
      natOfBits (ks.getD 0 []) = 0x1B02EFFC7072 ∧ natOfBits (ks.getD 15 []) = 0xCB3D8B0E17F5 := by
  rw [keySchedule_bytes _ rfl]
  decide +kernel

/-- NBS Special Publication 500-20 / Rivest's test: key 0123456789ABCDEF, plaintext "Now is t" → 3FA40E8A984D4815;
    key 0101…01 (all key bits 0), plaintext 8000000000000000 → 95F8A5E5DD31D900 (first line of the IP/E variable-plaintext
    known answer test); key 8001010101010101, plaintext 0 → 95A8D72813DAA94D (first line of the variable-key test) -/
theorem kat_nbs :
    enc [0x01, 0x23, 0x45, 0x67, 0x89, 0xAB, 0xCD, 0xEF] [0x4E, 0x6F, 0x77, 0x20, 0x69, 0x73, 0x20, 0x74]
      = some [0x3F, 0xA4, 0x0E, 0x8A, 0x98, 0x4D, 0x48, 0x15] ∧
    enc [1, 1, 1, 1, 1, 1, 1, 1] [0x80, 0, 0, 0, 0, 0, 0, 0] = some [0x95, 0xF8, 0xA5, 0xE5, 0xDD, 0x31, 0xD9, 0x00] ∧
    enc [0x80, 1, 1, 1, 1, 1, 1, 1] [0, 0, 0, 0, 0, 0, 0, 0] = some [0x95, 0xA8, 0xD7, 0x28, 0x13, 0xDA, 0xA9, 0x4D] := by
  simp only [enc_eq]
  decide +kernel

/-- the complementation property on the classic example: E_{¬K}(¬P) = ¬E_K(P) -/
theorem complementation_example :
    enc ([0x13, 0x34, 0x57, 0x79, 0x9B, 0xBC, 0xDF, 0xF1].map (255 - ·))
        ([0x01, 0x23, 0x45, 0x67, 0x89, 0xAB, 0xCD, 0xEF].map (255 - ·))
      = some ([0x85, 0xE8, 0x13, 0x54, 0x0F, 0x0A, 0xB4, 0x05].map (255 - ·)) := by
  rw [enc_eq]
  decide +kernel

/-- parity bits are ignored: the classic key with every parity bit flipped gives the same ciphertext -/
theorem parity_bits_ignored :
    enc ([0x13, 0x34, 0x57, 0x79, 0x9B, 0xBC, 0xDF, 0xF1].map (· ^^^ 1)) [0x01, 0x23, 0x45, 0x67, 0x89, 0xAB, 0xCD, 0xEF]
      = some [0x85, 0xE8, 0x13, 0x54, 0x0F, 0x0A, 0xB4, 0x05] :=
  -- `List.length_map` for the lengths: `rfl` there makes elaborator and kernel evaluate both key lists
  (enc_congr_keySchedule _ _ _ (List.length_map _) (keySchedule_parity _ _ (by decide +kernel))).trans kat_classic.1

/-- TDEA (SP 800-67): with K1 = K2 = K3 it is single DES (keying option 3), on the classic example -/
theorem tdea_option3_is_des :
    tdeaEnc (.opt3 [0x13, 0x34, 0x57, 0x79, 0x9B, 0xBC, 0xDF, 0xF1]) [0x01, 0x23, 0x45, 0x67, 0x89, 0xAB, 0xCD, 0xEF]
      = some [0x85, 0xE8, 0x13, 0x54, 0x0F, 0x0A, 0xB4, 0x05] := by
  simp only [tdeaEnc, Keying.bundle, kat_classic.1, kat_classic.2, Option.bind_some]

end Proofs.C02_DesSpec.Kat
