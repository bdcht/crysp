/-
  C02 (DES part) — sanity of the specification lean/Spec/Des.lean, continued: S-box entries looked up
  while enciphering the test vectors 11..15 of the NBS S-box test (evaluated in Proofs/C02_DesSpec/SboxTest.lean).
-/
import Proofs.C02_DesSpec.SboxTest
namespace Proofs.C02_DesSpec.SboxCover2
open Spec.Des Proofs.Lemmas.DesSboxVectors

theorem sbox_test_mask_2 :
    mask (inputsOf (part 2)) =
      0xc5f7f36bfcbefbf3febdec9ff9fb5f94a1eda77ddf95fcfbddade7dfc6fdedcdffeed75eb9e9dfe5be765e3ff9fe7edd3e0ef7dd7cbefbeff36fd7f77adf77ff :=
  SboxTest.sbox_test.2.2.2.1

end Proofs.C02_DesSpec.SboxCover2
