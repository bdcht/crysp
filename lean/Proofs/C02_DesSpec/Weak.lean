/-
  C02 (DES part) — sanity of the specification lean/Spec/Des.lean: weak and semi-weak keys.  Only the key schedules are
  evaluated in the kernel; that enciphering twice gives the block back is `enc_enc_of_reverse`, a fact about every
  block, instantiated below at the sample blocks listed.
-/
import Proofs.Lemmas.DesEval
import Proofs.Lemmas.DesSpecInv
namespace Proofs.C02_DesSpec.Weak
open Spec.Des Proofs.Lemmas.DesEval

/-- the weak key 0101010101010101: all sixteen round keys are equal, so enciphering is an involution -/
theorem weak_key_involution :
    (∀ K ∈ keySchedule (bytesToBits [1, 1, 1, 1, 1, 1, 1, 1]), K = List.replicate 48 false) ∧
    ∀ blk ∈ [[0x01, 0x23, 0x45, 0x67, 0x89, 0xAB, 0xCD, 0xEF], [0x80, 0, 0, 0, 0, 0, 0, 1]],
      (enc [1, 1, 1, 1, 1, 1, 1, 1] blk).bind (enc [1, 1, 1, 1, 1, 1, 1, 1]) = some blk := by
  have hk : ∀ K ∈ keySchedule (bytesToBits [1, 1, 1, 1, 1, 1, 1, 1]), K = List.replicate 48 false := by
    rw [keySchedule_bytes _ rfl]
    decide +kernel
  have hb : ∀ blk ∈ [[0x01, 0x23, 0x45, 0x67, 0x89, 0xAB, 0xCD, 0xEF], [0x80, 0, 0, 0, 0, 0, 0, 1]],
      blk.length = 8 ∧ ∀ b ∈ blk, b < 256 := by decide
  -- sixteen equal round keys read the same in both directions
  exact ⟨hk, fun blk hblk => enc_enc_of_reverse _ _ blk rfl rfl (hb blk hblk).1 (hb blk hblk).2
    (by rw [List.eq_replicate_of_mem hk, List.reverse_replicate])⟩

/-- the semi-weak pair 01FE01FE01FE01FE / FE01FE01FE01FE01: enciphering with one deciphers the other -/
theorem semi_weak_pair :
    ∀ blk ∈ [[0x01, 0x23, 0x45, 0x67, 0x89, 0xAB, 0xCD, 0xEF]],
      (enc [0x01, 0xFE, 0x01, 0xFE, 0x01, 0xFE, 0x01, 0xFE] blk).bind
        (enc [0xFE, 0x01, 0xFE, 0x01, 0xFE, 0x01, 0xFE, 0x01]) = some blk := by
  intro blk hblk
  have hb : ∀ blk ∈ [[0x01, 0x23, 0x45, 0x67, 0x89, 0xAB, 0xCD, 0xEF]], blk.length = 8 ∧ ∀ b ∈ blk, b < 256 := by decide
  refine enc_enc_of_reverse _ _ blk rfl rfl (hb blk hblk).1 (hb blk hblk).2 ?_
  rw [keySchedule_bytes _ rfl, keySchedule_bytes _ rfl]
  decide +kernel

end Proofs.C02_DesSpec.Weak
