/-
  C02 (DES part) — sanity of the specification lean/Spec/Des.lean: the nineteen encipherings of the NBS S-box test
  use every entry of every S-box table.
-/
import Proofs.C02_DesSpec.SboxCover0
import Proofs.C02_DesSpec.SboxCover1
import Proofs.C02_DesSpec.SboxCover2
import Proofs.C02_DesSpec.SboxCover3
namespace Proofs.C02_DesSpec.SboxCover
open Spec.Des Proofs.Lemmas.DesSboxVectors

/-- each of the 8 × 64 S-box entries (box n+1, 6-bit input v: row v₁v₆, column v₂v₃v₄v₅) is looked up at least once,
    so a single wrong entry in `Spec.Des.Sboxes` changes an intermediate value of one of the nineteen computations
    of `sbox_test_known_answers` -/
theorem sbox_test_covers_every_entry :
    ∀ n, n < 8 → ∀ v, v < 64 → (64 * n + v) ∈ inputsOf vectors := by
  intro n hn v hv
  apply mem_of_mask_testBit
  rw [vectors_parts, inputsOf_append, inputsOf_append, inputsOf_append, mask_append, mask_append, mask_append,
    SboxCover0.sbox_test_mask_0, SboxCover1.sbox_test_mask_1, SboxCover2.sbox_test_mask_2, SboxCover3.sbox_test_mask_3,
    show _ ||| _ ||| _ ||| _ = 2 ^ 512 - 1 by decide +kernel]
  exact (Nat.testBit_two_pow_sub_one 512 _).trans (decide_eq_true (by omega))

end Proofs.C02_DesSpec.SboxCover
