/-
  C02 (DES part) — sanity of lean/Spec/Des.lean: the nineteen known answers of the NBS SP 500-20 S-box test
  (evaluated in Proofs/C02_DesSpec/SboxTest.lean).
-/
import Proofs.C02_DesSpec.SboxTest
namespace Proofs.C02_DesSpec.SboxKat
open Spec.Des Proofs.Lemmas.DesSboxVectors

theorem sbox_test_known_answers :
    vectors.length = 19 ∧ ∀ v ∈ vectors, enc (bytes8 v.1) (bytes8 v.2.1) = some (bytes8 v.2.2) :=
  ⟨by decide, SboxTest.sbox_test.1⟩

end Proofs.C02_DesSpec.SboxKat
