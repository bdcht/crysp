/-
  C02 (DES part) — sanity of the specification lean/Spec/Des.lean, continued: known answers of the
  NBS SP 500-20 S-box test, the first ten vectors (evaluated in Proofs/C02_DesSpec/SboxTest.lean).
-/
import Proofs.C02_DesSpec.SboxTest
namespace Proofs.C02_DesSpec.SboxKat1
open Spec.Des Proofs.Lemmas.DesSboxVectors

theorem sbox_test_known_answers_1 :
    ∀ v ∈ vectors.take 10, enc (bytes8 v.1) (bytes8 v.2.1) = some (bytes8 v.2.2) :=
  fun v hv => SboxTest.sbox_test.1 v (List.mem_of_mem_take hv)

end Proofs.C02_DesSpec.SboxKat1
