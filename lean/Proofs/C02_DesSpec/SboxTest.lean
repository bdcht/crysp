/-
  C02 (DES part) — sanity of the specification lean/Spec/Des.lean, continued: the nineteen encipherings of the NBS SP 500-20
  S-box test, evaluated in the kernel.  After the rewriting, the ciphertext of a vector (`DesEval.cryptN`, which unfolds to
  `roundsN`) and its S-box inputs contain the same closed term `DesEval.roundsN (…) (…)`; the kernel remembers the value of a term
  it has met, so the sixteen rounds of a vector are run once, for its ciphertext and for the mask of its group.
-/
import Proofs.Lemmas.DesSboxVectors
namespace Proofs.C02_DesSpec.SboxTest
open Spec.Des Proofs.Lemmas.DesSboxVectors

/-- the published ciphertexts; and, per group of five vectors, the set of S-box entries looked up: bit 64·n + v of a mask
    is set iff S-box n+1 is looked up at the 6-bit input v in one of the group's encipherings -/
theorem sbox_test :
    (∀ v ∈ vectors, enc (bytes8 v.1) (bytes8 v.2.1) = some (bytes8 v.2.2)) ∧
    mask (inputsOf (part 0)) =
      0x2c9b7fdff0efeffdfb555cf397eeacf6ff6a7b7fecbef3bdfbdf6e2ffefef6febafacdbecfff3317ccf637a6f7d677febdf3f537b78f366f7d3bfe7dfd5fba7f ∧
    mask (inputsOf (part 1)) =
      0x08bdeff5d57bff1aff5b9f3eee7edd8c63e04372ffdfbff77dbcdebdf7676bb9dacd92f2bfffb5eff77df7e29f93ffe77cdefffcae8f6ffaffe3bcf9f7fdbd7d ∧
    mask (inputsOf (part 2)) =
      0xc5f7f36bfcbefbf3febdec9ff9fb5f94a1eda77ddf95fcfbddade7dfc6fdedcdffeed75eb9e9dfe5be765e3ff9fe7edd3e0ef7dd7cbefbeff36fd7f77adf77ff ∧
    mask (inputsOf (part 3)) =
      0x731637eb17feff571599cfd2fe6dac9df5775fbf50f6741d9a17279b7be5737dbfbff5e1d7af638bef3ffb66f13797ddf24be4e72ef717ed074ba7ffabfccb5c := by
  simp only [enc_bytes8, inputsOf, sboxInputs_eq, length_bytes8]
  decide +kernel

end Proofs.C02_DesSpec.SboxTest
