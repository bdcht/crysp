/-
  C02 (DES part) — sanity of the specification lean/Spec/Des.lean, continued: S-box entries looked up
  while enciphering the test vectors 16..19 of the NBS S-box test (evaluated in Proofs/C02_DesSpec/SboxTest.lean).
-/
import Proofs.C02_DesSpec.SboxTest
namespace Proofs.C02_DesSpec.SboxCover3
open Spec.Des Proofs.Lemmas.DesSboxVectors

theorem sbox_test_mask_3 :
    mask (inputsOf (part 3)) =
      0x731637eb17feff571599cfd2fe6dac9df5775fbf50f6741d9a17279b7be5737dbfbff5e1d7af638bef3ffb66f13797ddf24be4e72ef717ed074ba7ffabfccb5c :=
  SboxTest.sbox_test.2.2.2.2

end Proofs.C02_DesSpec.SboxCover3
