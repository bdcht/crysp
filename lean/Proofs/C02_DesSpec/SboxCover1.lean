/-
  C02 (DES part) — sanity of the specification lean/Spec/Des.lean, continued: S-box entries looked up
  while enciphering the test vectors 6..10 of the NBS S-box test (evaluated in Proofs/C02_DesSpec/SboxTest.lean).
-/
import Proofs.C02_DesSpec.SboxTest
namespace Proofs.C02_DesSpec.SboxCover1
open Spec.Des Proofs.Lemmas.DesSboxVectors

theorem sbox_test_mask_1 :
    mask (inputsOf (part 1)) =
      0x08bdeff5d57bff1aff5b9f3eee7edd8c63e04372ffdfbff77dbcdebdf7676bb9dacd92f2bfffb5eff77df7e29f93ffe77cdefffcae8f6ffaffe3bcf9f7fdbd7d :=
  SboxTest.sbox_test.2.2.1

end Proofs.C02_DesSpec.SboxCover1
