/-
  C01 (constants) — each of the 64 + 80 + 4·8 literals of lean/Spec/Sha2Consts.lean is the value given by the rule by which
  FIPS 180-4 DEFINES it (§4.2.2, §4.2.3, §5.3.2–§5.3.5): fractional parts of the cube / square roots of the first primes.
  Also SHA-1's four round constants (Spec.Sha1.K) as ⌊2^30·√c⌋, c = 2, 3, 5, 10.  Integer arithmetic only, decided by the kernel.
  Not done: MD5's T[i] = ⌊2^32·|sin i|⌋ (would need a trusted sine).  MD4's two constants are SHA-1's first two.
-/
import Spec.Sha2Consts
import Spec.Sha1
namespace Proofs.C01_Consts

def IsPrime (p : Nat) : Prop := 2 ≤ p ∧ ∀ d, d ∣ p → d = 1 ∨ d = p

def isPrime (n : Nat) : Bool :=
  decide (2 ≤ n) && (List.range n).all fun d => decide (d < 2) || decide (n % d ≠ 0)

theorem isPrime_iff (n : Nat) : isPrime n = true ↔ IsPrime n := by
  simp only [isPrime, IsPrime, Bool.and_eq_true, decide_eq_true_eq, List.all_eq_true, List.mem_range,
    Bool.or_eq_true]
  constructor
  · rintro ⟨h2, h⟩
    refine ⟨h2, fun d hd => ?_⟩
    have hdle : d ≤ n := Nat.le_of_dvd (by omega) hd
    by_cases hdn : d = n
    · exact Or.inr hdn
    · left
      rcases h d (by omega) with h | h
      · have : d ≠ 0 := by
          rintro rfl
          have := Nat.eq_zero_of_zero_dvd hd
          omega
        omega
      · exact absurd (Nat.mod_eq_zero_of_dvd hd) h
  · rintro ⟨h2, h⟩
    refine ⟨h2, fun d hd => ?_⟩
    by_cases hd2 : d < 2
    · exact Or.inl hd2
    · right
      intro hmod
      have := h d (Nat.dvd_of_mod_eq_zero hmod)
      omega

def primes : List Nat := (List.range 410).filter isPrime

/-- `primes` written out, so that the table checks below do not rerun the trial division -/
def primesLit : List Nat :=
    [2, 3, 5, 7, 11, 13, 17, 19, 23, 29, 31, 37, 41, 43, 47, 53, 59, 61, 67, 71,
     73, 79, 83, 89, 97, 101, 103, 107, 109, 113, 127, 131, 137, 139, 149, 151, 157, 163, 167, 173,
     179, 181, 191, 193, 197, 199, 211, 223, 227, 229, 233, 239, 241, 251, 257, 263, 269, 271, 277, 281,
     283, 293, 307, 311, 313, 317, 331, 337, 347, 349, 353, 359, 367, 373, 379, 383, 389, 397, 401, 409]

/-- below 21² trial division may stop at 20: of two factors of n one is below 21 -/
theorem isPrime_small {n : Nat} (hn : n < 21 * 21) :
    isPrime n = (decide (2 ≤ n) && (List.range 21).all fun d => decide (d < 2 ∨ n ≤ d ∨ n % d ≠ 0)) := by
  rw [Bool.eq_iff_iff]
  simp only [isPrime, Bool.and_eq_true, decide_eq_true_eq, List.all_eq_true, List.mem_range, Bool.or_eq_true]
  refine and_congr_right fun h2 => ⟨fun h d _ => ?_, fun h d hdn => ?_⟩
  · by_cases hdn : d < n
    · exact (h d hdn).elim Or.inl fun h => Or.inr (Or.inr h)
    · exact Or.inr (Or.inl (by omega))
  · by_cases hd2 : d < 2
    · exact Or.inl hd2
    · refine Or.inr fun hmod => ?_
      have hq := Nat.div_add_mod n d
      rw [hmod, Nat.add_zero] at hq
      by_cases hd21 : d < 21
      · have := h d hd21
        omega
      · have hq21 : n / d < 21 := Nat.div_lt_of_lt_mul (Nat.lt_of_lt_of_le hn (Nat.mul_le_mul_right 21 (by omega)))
        have hqn : n % (n / d) = 0 := by
          have := Nat.mul_mod_left d (n / d)
          rwa [hq] at this
        have hlt : n / d < n := Nat.div_lt_self (by omega) (by omega)
        have h1 : ¬ n / d < 2 := fun h1 => by
          have : d * (n / d) ≤ d * 1 := Nat.mul_le_mul_left d (by omega)
          omega
        have := h (n / d) hq21
        omega

theorem primes_literal : primes = primesLit := by
  rw [primes, List.filter_congr fun n hn => isPrime_small (Nat.lt_trans (List.mem_range.mp hn) (by decide))]
  decide +kernel

theorem primes_length : primes.length = 80 := by rw [primes_literal]; decide

theorem mem_primes (p : Nat) : p ∈ primes ↔ IsPrime p ∧ p < 410 := by
  simp only [primes, List.mem_filter, List.mem_range, isPrime_iff]
  exact And.comm

theorem primes_sorted : primes.Pairwise (· < ·) :=
  List.Pairwise.filter _ List.pairwise_lt_range

/-- **`primes` is the list of the first 80 primes**: entry i is the (i+1)-th prime, none skipped, none repeated. -/
theorem primes_are_the_first_80 :
    primes.length = 80 ∧
    ∀ i, i < 80 → IsPrime (primes.getD i 0) ∧
      ∀ q, IsPrime q → (q < primes.getD i 0 ↔ ∃ j, j < i ∧ q = primes.getD j 0) := by
  refine ⟨primes_length, fun i hi => ?_⟩
  have hlen := primes_length
  have hsorted := List.pairwise_iff_getElem.mp primes_sorted
  have hgetD : ∀ k, (hk : k < primes.length) → primes.getD k 0 = primes[k] := fun k hk => by
    simp [List.getD_eq_getElem?_getD, List.getElem?_eq_getElem hk]
  have hi' : i < primes.length := by omega
  have hmem := (mem_primes primes[i]).mp (List.getElem_mem hi')
  rw [hgetD i hi']
  refine ⟨hmem.1, fun q hq => ⟨fun hlt => ?_, ?_⟩⟩
  · have hqm : q ∈ primes := (mem_primes q).mpr ⟨hq, by omega⟩
    obtain ⟨j, hj, hjq⟩ := List.getElem_of_mem hqm
    refine ⟨j, ?_, by rw [hgetD j hj, hjq]⟩
    apply Nat.lt_of_not_le
    intro hij
    rcases Nat.lt_or_eq_of_le hij with h | h
    · have := hsorted i j hi' hj h
      omega
    · subst h
      omega
  · rintro ⟨j, hji, rfl⟩
    have hj : j < primes.length := by omega
    rw [hgetD j hj]
    exact hsorted j i hj hi' hji

/-- K is the first w bits of the fractional part of the cube root of p (n = the integer part of the root) -/
def FracCbrt (w p K : Nat) : Prop :=
  K < 2 ^ w ∧ ∃ n, (n * 2 ^ w + K) ^ 3 ≤ p * 2 ^ (3 * w) ∧ p * 2 ^ (3 * w) < (n * 2 ^ w + K + 1) ^ 3

/-- K is the first w bits of the fractional part of the square root of p -/
def FracSqrt (w p K : Nat) : Prop :=
  K < 2 ^ w ∧ ∃ n, (n * 2 ^ w + K) ^ 2 ≤ p * 2 ^ (2 * w) ∧ p * 2 ^ (2 * w) < (n * 2 ^ w + K + 1) ^ 2

/-- the two rules at once: K is the first w bits of the fractional part of the e-th root of p -/
def FracRoot (e w p K : Nat) : Prop :=
  K < 2 ^ w ∧ ∃ n, (n * 2 ^ w + K) ^ e ≤ p * 2 ^ (e * w) ∧ p * 2 ^ (e * w) < (n * 2 ^ w + K + 1) ^ e

theorem floor_root_unique {e a b X : Nat} (ha : a ^ e ≤ X ∧ X < (a + 1) ^ e) (hb : b ^ e ≤ X ∧ X < (b + 1) ^ e) :
    a = b := by
  have le : ∀ {a b : Nat}, a ^ e ≤ X → X < (b + 1) ^ e → a ≤ b := by
    intro a b h1 h2
    apply Nat.le_of_not_lt
    intro (h : b + 1 ≤ a)
    have := Nat.pow_le_pow_left h e
    omega
  exact Nat.le_antisymm (le ha.1 hb.2) (le hb.1 ha.2)

/-- the rule determines K: the remainder mod 2^w of the one a with a^e ≤ p·2^(e·w) < (a+1)^e -/
theorem FracRoot_unique {e w p K K' : Nat} (h : FracRoot e w p K) (h' : FracRoot e w p K') : K = K' := by
  obtain ⟨hK, n, hn⟩ := h
  obtain ⟨hK', n', hn'⟩ := h'
  have e := congrArg (· % 2 ^ w) (floor_root_unique hn hn')
  simpa [Nat.mul_add_mod_self_right, Nat.mod_eq_of_lt, hK, hK'] using e

theorem FracCbrt_unique {w p K K' : Nat} (h : FracCbrt w p K) (h' : FracCbrt w p K') : K = K' :=
  FracRoot_unique (e := 3) h h'

theorem FracSqrt_unique {w p K K' : Nat} (h : FracSqrt w p K) (h' : FracSqrt w p K') : K = K' :=
  FracRoot_unique (e := 2) h h'

/-- Bool checker: the integer part of a root of a prime below 410 is below 21 -/
def chkRoot (e w p K : Nat) : Bool :=
  decide (K < 2 ^ w) && (List.range 21).any fun n =>
    decide ((n * 2 ^ w + K) ^ e ≤ p * 2 ^ (e * w)) && decide (p * 2 ^ (e * w) < (n * 2 ^ w + K + 1) ^ e)

def chkCbrt (w p K : Nat) : Bool := chkRoot 3 w p K

/-- `f i` is the index of the prime that entry `i` belongs to -/
theorem table_rule {e w N : Nat} (T : List (BitVec w)) (f : Nat → Nat)
    (h : ∀ i, i < N → chkRoot e w (primesLit.getD (f i) 0) (T.getD i 0).toNat = true) :
    ∀ i, i < N → FracRoot e w (primes.getD (f i) 0) (T.getD i 0).toNat := by
  intro i hi
  have hc := h i hi
  simp only [chkRoot, Bool.and_eq_true, decide_eq_true_eq, List.any_eq_true, List.mem_range] at hc
  rw [primes_literal]
  exact ⟨hc.1, let ⟨n, _, hn⟩ := hc.2; ⟨n, hn⟩⟩

open Spec.Sha2

/-- FIPS 180-4 §4.2.2: SHA-224/256 K_i = the first 32 bits of the fractional part of the cube root of the (i+1)-th prime -/
theorem sha256_K_is_cuberoot_rule :
    K256.length = 64 ∧ ∀ i, i < 64 → FracCbrt 32 (primes.getD i 0) (K256.getD i 0).toNat :=
  ⟨by decide, table_rule (e := 3) K256 id (by decide +kernel)⟩

/-- FIPS 180-4 §4.2.3: SHA-384/512 K_i = the first 64 bits of the fractional part of the cube root of the (i+1)-th prime -/
theorem sha512_K_is_cuberoot_rule :
    K512.length = 80 ∧ ∀ i, i < 80 → FracCbrt 64 (primes.getD i 0) (K512.getD i 0).toNat :=
  ⟨by decide, table_rule (e := 3) K512 id (by decide +kernel)⟩

/-- §5.3.3: SHA-256 H_i^(0) = the first 32 bits of the fractional part of the square root of the (i+1)-th prime, i < 8 -/
theorem sha256_iv_rule :
    iv256.length = 8 ∧ ∀ i, i < 8 → FracSqrt 32 (primes.getD i 0) (iv256.getD i 0).toNat :=
  ⟨by decide, table_rule (e := 2) iv256 id (by decide +kernel)⟩

/-- §5.3.5: SHA-512 H_i^(0) = the first 64 bits of the fractional part of the square root of the (i+1)-th prime, i < 8 -/
theorem sha512_iv_rule :
    iv512.length = 8 ∧ ∀ i, i < 8 → FracSqrt 64 (primes.getD i 0) (iv512.getD i 0).toNat :=
  ⟨by decide, table_rule (e := 2) iv512 id (by decide +kernel)⟩

/-- §5.3.4: SHA-384 H_i^(0) = the first 64 bits of the fractional part of the square root of the 9th..16th prime -/
theorem sha384_iv_rule :
    iv384.length = 8 ∧ ∀ i, i < 8 → FracSqrt 64 (primes.getD (8 + i) 0) (iv384.getD i 0).toNat :=
  ⟨by decide, table_rule (e := 2) iv384 (8 + ·) (by decide +kernel)⟩

/-- §5.3.2: SHA-224 H_i^(0) = the SECOND 32 bits of the fractional part of the square root of the 9th..16th prime:
    the low half of the first 64 bits -/
theorem sha224_iv_rule :
    iv224.length = 8 ∧ ∀ i, i < 8 → ∃ F, FracSqrt 64 (primes.getD (8 + i) 0) F ∧ (iv224.getD i 0).toNat = F % 2 ^ 32 := by
  have h : ∀ i, i < 8 → (iv224.getD i 0).toNat = (iv384.getD i 0).toNat % 2 ^ 32 := by decide +kernel
  exact ⟨by decide, fun i hi => ⟨_, sha384_iv_rule.2 i hi, h i hi⟩⟩

/-! ## SHA-1 (and SHA-0, MD4): K_t = ⌊2^30 · √c⌋ for c = 2, 3, 5, 10 by twenties (the origin of the constants of
    FIPS 180-4 §4.2.1; RFC 1320 §3.4 says so for MD4's 5A827999 = √2 and 6ED9EBA1 = √3) -/

/-- K = ⌊2^s · √c⌋ -/
def FloorSqrtScaled (s c K : Nat) : Prop := K ^ 2 ≤ c * 2 ^ (2 * s) ∧ c * 2 ^ (2 * s) < (K + 1) ^ 2

theorem FloorSqrtScaled_unique {s c K K' : Nat} (h : FloorSqrtScaled s c K) (h' : FloorSqrtScaled s c K') : K = K' :=
  floor_root_unique h h'

theorem sha1_K_is_sqrt_rule : ∀ t, t < 80 → FloorSqrtScaled 30 ([2, 3, 5, 10].getD (t / 20) 0) (Spec.Sha1.K t).toNat := by
  unfold FloorSqrtScaled
  decide +kernel

/-! ## non-vacuity: the rules reject a table with one wrong bit, and a wrong prime -/
example : chkCbrt 32 2 0x428a2f98 = true ∧ chkCbrt 32 2 0x428a2f99 = false ∧ chkCbrt 32 3 0x428a2f98 = false := by
  decide +kernel
example : ¬ IsPrime 407 := fun h => by have := h.2 11 ⟨37, rfl⟩; omega

end Proofs.C01_Consts
