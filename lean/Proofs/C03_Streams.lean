/-
  C03 (part) — the Salsa20 / ChaCha index maps and their inverses are mutual inverses on their whole domain:
  as index functions on 0..15 (kernel enumeration of the lists regenerated from the source) and as the gathers
  `y[map][inv]`, `y[inv][map]` the round functions perform on every 16-vector Poly of ring 2^32.
-/
import Proofs.Lemmas.SalsaRounds
namespace Proofs.C03_Streams
open Model Model.Gen.Streams Proofs.Lemmas.StreamPoly Proofs.Lemmas.SalsaRounds

/-- `inv[map[i]] = i` and `map[inv[i]] = i` for all 16 positions, both lists of length 16 with entries < 16 -/
def mutualInv (f g : List Nat) : Bool :=
  f.length == 16 && g.length == 16 && f.all (· < 16) && g.all (· < 16) &&
  (List.range 16).all fun i => g.getD (f.getD i 16) 16 == i && f.getD (g.getD i 16) 16 == i

theorem salsa_rM_rMinv : mutualInv salsaRM salsaRMinv = true := by decide +kernel
theorem salsa_cM_cMinv : mutualInv salsaCM salsaCMinv = true := by decide +kernel
theorem chacha_rM_rMinv : mutualInv chachaRM chachaRMinv = true := by decide +kernel
theorem chacha_cM_cMinv : mutualInv chachaCM chachaCMinv = true := by decide +kernel

/-- gathering a 16-vector by a map and then by its inverse (either order) gives the vector back -/
def GatherInverse (f g : List Nat) : Prop :=
  ∀ ws : List (BitVec 32), ws.length = 16 →
    ((ofBV ws).getList (Salsa.ints f) >>= fun y => y.getList (Salsa.ints g)) = .ok (ofBV ws) ∧
    ((ofBV ws).getList (Salsa.ints g) >>= fun y => y.getList (Salsa.ints f)) = .ok (ofBV ws)

theorem mutualInv_getD {f g : List Nat} (h : mutualInv f g = true) {i : Nat} (hi : i < 16) :
    g.getD (f.getD i 16) 16 = i ∧ f.getD (g.getD i 16) 16 = i := by
  simp only [mutualInv, Bool.and_eq_true, beq_iff_eq, List.all_eq_true, decide_eq_true_eq, List.mem_range] at h
  exact h.2 i hi

theorem gather_of_mutualInv (f g : List Nat) (h : mutualInv f g = true) : GatherInverse f g := by
  simp only [mutualInv, Bool.and_eq_true, beq_iff_eq, List.all_eq_true, decide_eq_true_eq, List.mem_range] at h
  obtain ⟨⟨⟨⟨hf, hg⟩, hf16⟩, hg16⟩, hinv⟩ := h
  intro ws hws
  constructor
  · rw [getList_ofBV ws f (by rw [hws]; exact hf16), Lemmas.Fold.ok_bind, getList_ofBV _ g (by rw [gather_length, hf]; exact hg16),
      gather_gather f g ws (hg.trans hws.symm) (by rw [hf]; exact hg16) (fun i hi => (hinv i (hws ▸ hi)).2)]
  · rw [getList_ofBV ws g (by rw [hws]; exact hg16), Lemmas.Fold.ok_bind, getList_ofBV _ f (by rw [gather_length, hg]; exact hf16),
      gather_gather g f ws (hf.trans hws.symm) (by rw [hg]; exact hf16) (fun i hi => (hinv i (hws ▸ hi)).1)]

theorem salsa_row_gather : GatherInverse salsaRM salsaRMinv := gather_of_mutualInv _ _ salsa_rM_rMinv

theorem salsa_column_gather : GatherInverse salsaCM salsaCMinv := gather_of_mutualInv _ _ salsa_cM_cMinv

theorem chacha_row_gather : GatherInverse chachaRM chachaRMinv := gather_of_mutualInv _ _ chacha_rM_rMinv

theorem chacha_column_gather : GatherInverse chachaCM chachaCMinv := gather_of_mutualInv _ _ chacha_cM_cMinv

/-- non-vacuity: a 16-vector with pairwise different entries -/
example : ∃ ws : List (BitVec 32), ws.length = 16 ∧ ws.Nodup := ⟨(List.range 16).map (BitVec.ofNat 32), by decide⟩

end Proofs.C03_Streams
