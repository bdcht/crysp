/-
  C01 (known answers for the algorithms without an offline oracle) — hashlib in this image has no MD4 and no SHA-0, so for these
  two the executable specification cannot be compared with an independent implementation.  Here the published answers hold
  for the Spec IN THE KERNEL and, through `hash_refines_omitted`, for the model of crysp/md.py, crysp/sha.py:
    MD4("") and MD4("abc")   — RFC 1320, appendix A.5 (test suite);
    SHA-0("abc")             — FIPS 180 (1993), appendix A;       SHA-1("abc") — FIPS 180-4 / RFC 3174, for contrast (the one-rotation difference).
  The digests were typed from the publications.
-/
import Proofs.C01
namespace Proofs.C01_Kat
open Model Proofs.Lemmas Proofs.Lemmas.Parse Proofs.Lemmas.EndToEnd Proofs.C01

def abc : List Spec.Byte := [0x61#8, 0x62#8, 0x63#8]

def md4Empty : List Nat := [0x31, 0xd6, 0xcf, 0xe0, 0xd1, 0x6a, 0xe9, 0x31, 0xb7, 0x3c, 0x59, 0xd7, 0xe0, 0xc0, 0x89, 0xc0]
def md4Abc : List Nat := [0xa4, 0x48, 0x01, 0x7a, 0xaf, 0x21, 0xd8, 0x52, 0x5f, 0xc1, 0x0a, 0xe8, 0x7a, 0xa6, 0x72, 0x9d]
def sha0Abc : List Nat := [0x01, 0x64, 0xb8, 0xa9, 0x14, 0xcd, 0x2a, 0x5e, 0x74, 0xc4, 0xf7, 0xff, 0x08, 0x2c, 0x4d, 0x97, 0xf1, 0xed, 0xf8, 0x80]
def sha1Abc : List Nat := [0xa9, 0x99, 0x3e, 0x36, 0x47, 0x06, 0x81, 0x6a, 0xba, 0x3e, 0x25, 0x71, 0x78, 0x50, 0xc2, 0x6c, 0x9c, 0xd0, 0xd8, 0x9d]

theorem spec_kat :
    toNatBytes (Spec.hash .md4 (Spec.bytesToBits [])) = md4Empty ∧
    toNatBytes (Spec.hash .md4 (Spec.bytesToBits abc)) = md4Abc ∧
    toNatBytes (Spec.hash .sha0 (Spec.bytesToBits abc)) = sha0Abc ∧
    toNatBytes (Spec.hash .sha1 (Spec.bytesToBits abc)) = sha1Abc := by
  simp (disch := decide) only [Spec.hash, Spec.Md4.md4, Spec.Sha1.sha0, Spec.Sha1.sha1, Spec.MDHash.hash,
    Spec.MDHash.hashFrom, SpecList.padFrom_bytes]
  decide +kernel

/-- the model of crysp's MD4() / SHA1(version 0) / SHA1() one-shot call returns the published digests -/
theorem model_kat :
    Model.hash .md4 (toNatBytes []) none = .ok md4Empty ∧
    Model.hash .md4 (toNatBytes abc) none = .ok md4Abc ∧
    Model.hash .sha0 (toNatBytes abc) none = .ok sha0Abc ∧
    Model.hash .sha1 (toNatBytes abc) none = .ok sha1Abc := by
  obtain ⟨k1, k2, k3, k4⟩ := spec_kat
  refine ⟨?_, ?_, ?_, ?_⟩
  · rw [hash_refines_omitted .md4 []]
    exact congrArg _ k1
  · rw [hash_refines_omitted .md4 abc]
    exact congrArg _ k2
  · rw [hash_refines_omitted .sha0 abc]
    exact congrArg _ k3
  · rw [hash_refines_omitted .sha1 abc]
    exact congrArg _ k4

end Proofs.C01_Kat
