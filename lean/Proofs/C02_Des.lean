/-
  C02 (DES / TDEA part) — DES and triple-DES encrypt and decrypt exactly as FIPS 46-3 / SP 800-67 say.

  `Model.Des` mirrors crysp/des.py on `Model.Bits` with all tables regenerated from the current source
  (`Model.Gen.Des`); `Spec.Des` is the standard on bit strings with 1-based tables typed from the standard.
  `res x` is the model's result with every exception read as "not defined" (`none`); `IsBytes` = every element < 256
  (what a Python `bytes` object is).
-/
import Proofs.Lemmas.TdeaRefine
import Proofs.C02_DesSpec.Kat
namespace Proofs.C02_Des
open Model Model.Bits Model.Des

/-! ### the regenerated tables are the standard's tables (complete enumeration in the kernel) -/

theorem ip_eq : Gen.Des.ip = Spec.Des.IP.map (· - 1) := DesTables.ip_eq
theorem ipinv_eq : Gen.Des.ipinv = Spec.Des.IPinv.map (· - 1) := DesTables.ipinv_eq
theorem pc1_eq : Gen.Des.pc1 = Spec.Des.PC1.map (· - 1) := DesTables.pc1_eq
theorem pc2_eq : Gen.Des.pc2 = Spec.Des.PC2.map (· - 1) := DesTables.pc2_eq
theorem e_eq : Gen.Des.e = Spec.Des.E.map (· - 1) := DesTables.e_eq
theorem p_eq : Gen.Des.p = Spec.Des.P.map (· - 1) := DesTables.p_eq

/-- all 8×64 S-box entries: the code's flat row-major box `n` at `16·row+col` is the standard's `S_{n+1}` at (row, col) -/
theorem sbox_eq (n x : Nat) (hn : n < 8) (hx : x < 64) :
    (Gen.Des.sbox.getD n []).getD x 0 = ((Spec.Des.Sboxes.getD n []).getD (x / 16) []).getD (x % 16) 0 :=
  DesTables.sbox_eq n hn x hx

theorem shifts_eq : Gen.Des.shifts = Spec.Des.shifts := DesTables.shifts_eq

/-- what the code makes of the rotation schedule: the bit selection of `subkey(·,r)` probed from the source (all 16 rounds × 48 bits)
    is PC2 after rotating both 28-bit halves by the cumulative shift `sum(shifts[:r+1])` -/
theorem subkey_selection (r : Nat) (hr : r < 16) :
    Gen.Des.subkeySel.getD r [] =
      Gen.Des.pc2.map fun j => if j < 28 then (j + Des.cumShift r) % 28 else 28 + (j - 28 + Des.cumShift r) % 28 := by
  revert r
  decide +kernel

/-- every table-driven permutation/selection of the code is the standard's `permute` with the standard's table -/
theorem permutations_refine (b : Bits) (hb : b.WF) :
    bools (b.pick Gen.Des.ip) = Spec.Des.permute Spec.Des.IP (bools b)
    ∧ bools (b.pick Gen.Des.ipinv) = Spec.Des.permute Spec.Des.IPinv (bools b)
    ∧ bools (b.pick Gen.Des.pc1) = Spec.Des.permute Spec.Des.PC1 (bools b)
    ∧ bools (b.pick Gen.Des.pc2) = Spec.Des.permute Spec.Des.PC2 (bools b)
    ∧ bools (b.pick Gen.Des.e) = Spec.Des.permute Spec.Des.E (bools b)
    ∧ bools (b.pick Gen.Des.p) = Spec.Des.permute Spec.Des.P (bools b) :=
  ⟨bools_pick_spec b hb _ _ ip_eq, bools_pick_spec b hb _ _ ipinv_eq, bools_pick_spec b hb _ _ pc1_eq,
   bools_pick_spec b hb _ _ pc2_eq, bools_pick_spec b hb _ _ e_eq, bools_pick_spec b hb _ _ p_eq⟩

/-- the S-box step of `F` (index arithmetic `x[(5,0)]`, `x[(4,3,2,1)]`, table lookup, `[::-1]`) is `S_{n+1}` of the
    standard on every 6-bit input, for all 8 boxes (only bits 0..5 of `c` are read) -/
theorem sbox_step_refines (n c : Nat) (hn : n < 8) (hc : c < 64) :
    ((List.range 4).map fun i => (sOut n c).testBit i) = Spec.Des.sbox n ((List.range 6).map fun i => c.testBit i) :=
  sOut_spec n hn c

/-- `subkey(PC1-output, r)` is `K_{r+1}` of the standard's iterative key schedule, r = 0..15 -/
theorem subkey_refines (k : Bits) (hk : k.size = 56) (r : Nat) (hr : r < 16) :
    Des.subkey k r = .ok (subkeyP k r) ∧
    (Spec.Des.ksFrom Spec.Des.shifts ((bools k).take 28) ((bools k).drop 28))[r]? = some (bools (subkeyP k r)) := by
  refine ⟨subkey_eq k (by omega) r, ?_⟩
  rw [← subkeys_eq k hk]
  simp [hr]

/-- `F(R,k,r)` is the cipher function `f(R, K_{r+1})` -/
theorem F_refines (R k : Bits) (r : Nat) (hR : R.WF) (hRs : R.size = 32) (hk : k.size = 56) :
    Des.F R k r = .ok (FP R k r) ∧ bools (FP R k r) = Spec.Des.f (bools R) (bools (subkeyP k r)) :=
  ⟨F_eq R k r hRs (by omega), bools_FP R k r hR⟩

/-- one pass of the Feistel loop is the standard's round `(L,R) ↦ (R, L ⊕ f(R,K))` -/
theorem round_refines (k : Bits) (hk : k.size = 56) (r : Nat) (L R : Bits) (hL : Half L) (hR : Half R) :
    ∃ L' R', Des.rounds k [r] L R = .ok (L', R') ∧
      (bools L', bools R') = Spec.Des.round (bools L, bools R) (bools (subkeyP k r)) :=
  ⟨_, _, (rounds_eq k (by omega) [r] L R hL hR).1, bools_roundsP k [r] L R hL hR⟩

/-- for every key string and every block (any lengths; weak keys, any parity bits included):
    `DES(K).enc(M)` is the FIPS 46-3 ciphertext when both are 8 bytes and an exception otherwise -/
theorem enc_refines (K M : List Nat) (hK : IsBytes K) (hM : IsBytes M) : res (Des.enc K M) = Spec.Des.enc K M :=
  Des.enc_refines K M hK hM

/-- `DES(K).dec(C)` is the FIPS 46-3 deciphering (K16 first) when both are 8 bytes and an exception otherwise -/
theorem dec_refines (K C : List Nat) (hK : IsBytes K) (hC : IsBytes C) : res (Des.dec K C) = Spec.Des.dec K C :=
  Des.dec_refines K C hK hC

/-- sizes the algorithm does not define are rejected, never processed -/
theorem size_rejected (K M : List Nat) (h : K.length ≠ 8 ∨ M.length ≠ 8) :
    (∃ e, Des.enc K M = .error e) ∧ (∃ e, Des.dec K M = .error e) := by
  have hn : ¬ (K.length = 8 ∧ M.length = 8) := by omega
  exact ⟨⟨assertErr, (new_crypt_eq K M encOrder).trans (if_neg hn)⟩, ⟨assertErr, (new_crypt_eq K M decOrder).trans (if_neg hn)⟩⟩

/-! ### end to end: TDEA, every keying option and every accepted way of passing the keys -/

/-- `TDEA(K)` with ONE string: 8 bytes = keying option 3 (K1=K2=K3), 16 bytes = option 2 (K1‖K2, K3=K1),
    24 bytes = option 1 (K1‖K2‖K3); every other length is rejected.  enc and dec. -/
theorem tdea_string_refines (K M : List Nat) (hK : IsBytes K) (hM : IsBytes M) :
    res (tdeaEnc K none none M) = (Spec.Des.keyingOfString K).bind (fun ko => Spec.Des.tdeaEnc ko M)
    ∧ res (tdeaDec K none none M) = (Spec.Des.keyingOfString K).bind (fun ko => Spec.Des.tdeaDec ko M) :=
  Des.tdea_string_refines K M hK hM

/-- `TDEA(K1,K2)`: keying option 2 -/
theorem tdea_two_args_refines (K1 K2 M : List Nat) (h1 : IsBytes K1) (h2 : IsBytes K2) (hM : IsBytes M) :
    res (tdeaEnc K1 (some K2) none M) = Spec.Des.tdeaEnc (.opt2 K1 K2) M
    ∧ res (tdeaDec K1 (some K2) none M) = Spec.Des.tdeaDec (.opt2 K1 K2) M :=
  Des.tdea_args_refines K1 K2 M none h1 h2 h1 hM

/-- `TDEA(K1,K2,K3)`: keying option 1 (and option 3 when the three are equal, option 2 when K3 = K1) -/
theorem tdea_three_args_refines (K1 K2 K3 M : List Nat) (h1 : IsBytes K1) (h2 : IsBytes K2) (h3 : IsBytes K3) (hM : IsBytes M) :
    res (tdeaEnc K1 (some K2) (some K3) M) = Spec.Des.tdeaEnc (.opt1 K1 K2 K3) M
    ∧ res (tdeaDec K1 (some K2) (some K3) M) = Spec.Des.tdeaDec (.opt1 K1 K2 K3) M :=
  Des.tdea_args_refines K1 K2 M (some K3) h1 h2 h3 hM

/-- `TDEA(K1,None,K3)` is not a calling form: rejected -/
theorem tdea_K2None_rejected (K1 K3 M : List Nat) :
    res (tdeaEnc K1 none (some K3) M) = none ∧ res (tdeaDec K1 none (some K3) M) = none := by
  simp [tdeaEnc, tdeaDec, new_K2None, bind, Except.bind, res, Except.toOption]

/-- keying option 3 is single DES: in the standard `D_K(E_K(M)) = M` (`Spec.Des.dec_enc`), so `TDEA(K,K,K)` = `DES(K)`
    there, and the two refinements carry it to the code -/
theorem tdea_kkk_is_des (K M : List Nat) (hK : IsBytes K) (hM : IsBytes M) :
    res (tdeaEnc K (some K) (some K) M) = res (Des.enc K M) := by
  rw [(tdea_three_args_refines K K K M hK hK hK hM).1, Des.enc_refines K M hK hM, Spec.Des.tdeaEnc, Spec.Des.Keying.bundle]
  by_cases h : K.length = 8 ∧ M.length = 8
  · show (Spec.Des.enc K M).bind (fun a => (Spec.Des.dec K a).bind (Spec.Des.enc K)) = _
    rw [← Option.bind_assoc, Spec.Des.dec_enc K M h.1 h.2 hM, Option.bind_some]
  · simp only [Spec.Des.enc, h, if_false, Option.bind_none]

/-- non-vacuity: FIPS/SP 800-67 published vectors are instances (key 133457799BBCDFF1, block 0123456789ABCDEF →
    85E813540F0AB405; SP 800-67 B.1 bundle as ONE 24-byte string → A826FD8CE53B855F) -/
example : Spec.Des.enc [0x13,0x34,0x57,0x79,0x9B,0xBC,0xDF,0xF1] [0x01,0x23,0x45,0x67,0x89,0xAB,0xCD,0xEF]
    = some [0x85,0xE8,0x13,0x54,0x0F,0x0A,0xB4,0x05] := C02_DesSpec.Kat.kat_classic.1

example : res (tdeaEnc [0x01,0x23,0x45,0x67,0x89,0xAB,0xCD,0xEF,0x23,0x45,0x67,0x89,0xAB,0xCD,0xEF,0x01,
                        0x45,0x67,0x89,0xAB,0xCD,0xEF,0x01,0x23] none none [0x54,0x68,0x65,0x20,0x71,0x75,0x66,0x63])
    = some [0xA8,0x26,0xFD,0x8C,0xE5,0x3B,0x85,0x5F] := by decide +kernel

end Proofs.C02_Des
