/-
  C18 — the white-box DES tables compute exactly DES under the embedded key.
-/
import Proofs.Lemmas.WbEnc
import Proofs.Lemmas.DesRefine
import Proofs.C02_DesSpec.Kat
namespace Proofs.C18
open Model Model.Wb Model.Bits Proofs.Lemmas.Wb

/-! ### the key-independent tables: Model generator = what the real code returns (closed terms, kernel evaluation)

`table_M1()`, `table_M2()`, `table_M3()`: `tableM1_gen`, `tableM2_gen`, `tableM3_gen` in Proofs/Lemmas/WbLayout.lean. -/

theorem rbits_eq_gen : getrbitsTin = .ok Gen.Wb.rbits := by
  rw [getrbitsTin, rbitsZ_gen]
  exact Lemmas.Fold.toOption_eq_some.mp (by decide +kernel)

/-- `table_M1()` -/
theorem tableM1_eq_gen : tableM1 = .ok Gen.Wb.m1 := tableM1_gen

theorem srlr_eq_gen : srlrFormat = .ok (Gen.Wb.srlrSR, Gen.Wb.srlrL, Gen.Wb.srlrR) := by
  rw [srlrFormat, srlrP_gen]
  exact Lemmas.Fold.toOption_eq_some.mp (by decide +kernel)

theorem erlr_eq_gen : erlrFormat = .ok (Gen.Wb.erlrER, Gen.Wb.erlrL, Gen.Wb.erlrR) := by
  rw [erlrFormat, erlrP_gen]
  exact Lemmas.Fold.toOption_eq_some.mp (by decide +kernel)

/-- `table_M2()`: both the matrix rows and the list `m` they are built from -/
theorem tableM2_eq_gen : tableM2 = .ok (Gen.Wb.m2mat, Gen.Wb.m2m) := tableM2_gen

/-- `table_M3()` -/
theorem tableM3_eq_gen : tableM3 = .ok Gen.Wb.m3 := tableM3_gen

/-! ### the key-dependent tables, for EVERY key (any `Bits` value, in particular every `Bits(K,64)`) and every round

  `hr : r < 16` names the rounds the cipher runs.  It is not what makes the statements true: `table_rKT(r,K)` and
  `subkey(PC1(K),r)` are the same expressions for any `r` (the cumulative shift never exceeds 28) and the statements hold
  for every `r`. -/

/-- every generated T-box is a total map on 0..255 with byte outputs -/
theorem tbox_shape (K : Bits) (r : Nat) (hr : r < 16) :
    ∃ rks rkt, tableRKT r K = .ok (rks, rkt) ∧ rkt.length = 12 ∧ ∀ t ∈ rkt, t.length = 256 ∧ ∀ e ∈ t, e < 256 :=
  ⟨_, _, tableRKT_eq K r, rktTab_shape _⟩

/-- the four bypass tables (n = 8..11) are the identity on 0..255, whatever the key -/
theorem bypass_identity (K : Bits) (r : Nat) (hr : r < 16) (n : Nat) (h8 : 8 ≤ n) (h12 : n < 12) :
    ∃ rks rkt, tableRKT r K = .ok (rks, rkt) ∧ rkt.getD n [] = List.range 256 := by
  refine ⟨_, _, tableRKT_eq K r, ?_⟩
  have h : ¬ n < 8 := by omega
  rw [rktTab, getD_table _ h12]
  exact (List.map_congr_left fun v _ => if_neg h).trans (List.map_id' _)

/-- what a T-box holds: for every key, round r, S-box n < 8 and input byte v, entry v of T-box n is the byte
    `Bits(s,4) // Bits(v,8)[(0,5,6,7)]` where `s` is what the S-box loop of `des.F` writes for the 6-bit chunk
    `Bits(v mod 64, 6) xor (chunk n of the round key subkey(PC1(K),r))` (`sboxOut` is that expression of `des.F`) -/
theorem tbox_sem (K : Bits) (r : Nat) (hr : r < 16) (n : Nat) (hn : n < 8) (v : Nat) (hv : v < 256) :
    ∃ fk rks rkt s, Des.subkey (Des.PC1 K) r = .ok fk ∧ tableRKT r K = .ok (rks, rkt) ∧
      sboxOut n ((ofNatSz (v % 64) 6).xor (fk.sliceFast (6 * n) (6 * n + 6))) = .ok s ∧
      (rkt.getD n []).getD v 0 = ((ofNatSz s 4).concat ((ofNatSz v 8).pick [0, 5, 6, 7])).ival := by
  refine ⟨rk K r, _, _, _, subkey_rk K r, tableRKT_eq K r, sboxOut_ok n hn _, ?_⟩
  rw [rktTab, getD_getD_table _ (by omega) hv, rktVal, if_pos hn]
  rfl

/-- the same for the whole network `KT` of a key: sixteen rounds of twelve byte tables -/
theorem kt_shape (K : Bits) :
    ∃ kt, KT K = .ok kt ∧ kt.length = 16 ∧
      ∀ round ∈ kt, round.length = 12 ∧ ∀ t ∈ round, t.length = 256 ∧ ∀ e ∈ t, e < 256 :=
  ⟨_, KT_eq K, ktTab_shape K⟩

/-- table generation is total: for EVERY key string the network exists -/
theorem network_total (K : List Nat) :
    ∃ w, mkWhiteDES K = .ok w ∧ w.tM1 = Gen.Wb.m1 ∧ w.tM2 = Gen.Wb.m2mat ∧ w.tM3 = Gen.Wb.m3 ∧ w.KT.length = 16 ∧
      ∀ round ∈ w.KT, round.length = 12 ∧ ∀ t ∈ round, t.length = 256 ∧ ∀ e ∈ t, e < 256 :=
  ⟨_, mkWhiteDES_eq K, rfl, rfl, rfl, ktTab_shape _⟩

/-- the key-independent layer, stated on the extracted tables: the input map is the state layout applied after IP, the
    output map is IPinv of the swapped halves read back from the layout, and every row of the mixing matrix M2 gathers
    from the post-T-box state exactly the R bit, or the pair (L_j, S_{P(j)}), that the next state needs there
    (`encIdx`, `postIdx`, `swapIdx`: Proofs/Lemmas/WbLayout.lean) -/
theorem layout_identities :
    Gen.Wb.m1 = encIdx.map (fun x => Gen.Des.ip.getD x 0) ∧
    (Gen.Wb.m3.map fun x => encIdx.getD x 0) = Gen.Des.ipinv.map (fun x => swapIdx.getD x 0) ∧
    ∀ b < 96, Gen.Wb.m2mat.getD b 0 = rowMask (Gen.Wb.m2m.getD b []) ∧
      (encIdx.getD b 0 < 32 → (Gen.Wb.m2m.getD b []).map postIdx = [64 + encIdx.getD b 0]) ∧
      (32 ≤ encIdx.getD b 0 → (Gen.Wb.m2m.getD b []).map postIdx = [Gen.Des.p.getD (encIdx.getD b 0 - 32) 0, encIdx.getD b 0]) := by
  refine ⟨m1_eq, m3_eq, ?_⟩
  intro b hb
  obtain ⟨t1, t2, t3⟩ := round_table b hb
  refine ⟨t1, ?_, ?_⟩
  · intro c
    obtain ⟨u1, _, u3⟩ := t2 c
    rw [u1]
    simp only [List.map_cons, List.map_nil, u3]
  · intro c
    obtain ⟨u1, _, _, _, u5, u6⟩ := t3 c
    rw [u1]
    simp only [List.map_cons, List.map_nil, u5, u6]

/-- ONE ROUND, for every key, every round index and every pair of halves: the twelve T-box substitutions followed by
    `__FX` map the encoding of (L, R) to the encoding of (R, L xor F(R, k_r)), `F` and the key schedule being those of
    Model.Des (`enc L R` = `(L // R)[encIdx]`, the 96-bit state layout) -/
theorem round_refines (K : Bits) (r : Nat) (hr : r < 16) (L R : Bits)
    (hL : L.size = 32) (hLw : L.WF) (hR : R.size = 32) (hRw : R.WF) :
    ∃ rks rkt fout, tableRKT r K = .ok (rks, rkt) ∧ Des.F R (Des.PC1 K) r = .ok fout ∧
      (tboxLoop rkt (List.range 12) (enc L R) >>= (WhiteDES.mk [] [] Gen.Wb.m2mat []).FX) = .ok (enc R (L.xor fout)) :=
  ⟨_, _, _, tableRKT_eq K r, Des.F_eq R _ r hR (by rw [Des.size_PC1]; decide),
    round_ok K r L R ⟨hL, hLw⟩ ⟨hR, hRw⟩ _ rfl⟩

/-- END TO END (model of the white-box = model of the cipher): for EVERY 8-byte key string K and EVERY message M,
    building the table network for K (`Bits(K,64)`, sixteen `table_rKT`, `table_M1/M2/M3`) and running `WhiteDES.enc`
    returns exactly what `DES(K).enc(M)` returns — the same ciphertext for an 8-byte block, the same AssertionError for
    any other length.  (`DES(K)` asserts `len(K)==8`; the white-box generator does not, hence the hypothesis.) -/
theorem wb_enc_eq_des (K M : List Nat) (hK : K.length = 8) : wbEnc K M = Des.enc K M := by
  rw [wbEnc, mkWhiteDES_eq, Des.enc, Des.DES_new_eq K hK]
  exact netOf_enc (keyBits K) M

/-- keys that differ only in parity bits (bit 7 of each byte in the bitstream numbering = the byte's least significant
    bit) generate the same tables, round by round -/
theorem parity_bits_ignored (K K' : Bits) (h : ∀ i, i % 8 ≠ 7 → K.ival.testBit i = K'.ival.testBit i) (r : Nat) :
    tableRKT r K = tableRKT r K' := by
  rw [tableRKT_eq, tableRKT_eq, rk, rk, Des.PC1_parity K K' h]

/-- … and with C02 (Model.Des = FIPS 46-3, Proofs/Lemmas/DesRefine.lean): for EVERY 8-byte key and EVERY block the
    table network evaluates to the FIPS 46-3 ciphertext (`none` = rejected, for a block that is not 8 bytes).
    `IsBytes` = every element < 256, i.e. a Python bytes object. -/
theorem wb_enc_eq_fips (K M : List Nat) (hK : K.length = 8) (hKb : IsBytes K) (hMb : IsBytes M) :
    (wbEnc K M).toOption = Spec.Des.enc K M := by
  rw [wb_enc_eq_des K M hK]; exact Des.enc_refines K M hKb hMb

/-! ### several generations in one process: the tables are a function of the key only -/

/-- GENERATION HAS NO HISTORY: generate the network of K1, let the caller modify it in place in an arbitrary way (`f`),
    then generate the network of K2 — the second network is exactly `mkWhiteDES K2`, and the first one is the modified
    `mkWhiteDES K1`.  In the model a table is a value, so this is immediate from the totality of generation; it is the
    statement the `wb.seq` lines of the correspondence stream echo on the real objects, where sharing of a list between
    two calls or two instances would break it. -/
theorem gen_seq_key_only (K1 K2 : List Nat) (f : WhiteDES → WhiteDES) :
    ∃ w1 w2, mkWhiteDES K1 = .ok w1 ∧ mkWhiteDES K2 = .ok w2 ∧ genSeq K1 f K2 = .ok (f w1, w2) :=
  ⟨_, _, mkWhiteDES_eq K1, mkWhiteDES_eq K2, by simp [genSeq, mkWhiteDES_eq, bind, Except.bind, pure, Except.pure]⟩

/-- … so two histories that end with the same key end with the same network -/
theorem gen_seq_history_irrelevant (K1 K1' K2 : List Nat) (f f' : WhiteDES → WhiteDES) :
    (genSeq K1 f K2).map Prod.snd = (genSeq K1' f' K2).map Prod.snd := by
  simp only [genSeq, mkWhiteDES_eq, bind, Except.bind, pure, Except.pure, Except.map]

/-- … its key-independent tables are the extracted ones, and it computes DES under its own key: for every earlier
    key, every modification of the earlier network, every 8-byte key K2 and every message -/
theorem gen_seq_second_is_des (K1 K2 M : List Nat) (f : WhiteDES → WhiteDES) (hK : K2.length = 8) :
    ∃ w1 w2, genSeq K1 f K2 = .ok (w1, w2) ∧ w2.tM1 = Gen.Wb.m1 ∧ w2.tM2 = Gen.Wb.m2mat ∧ w2.tM3 = Gen.Wb.m3 ∧
      w2.enc M = Des.enc K2 M := by
  refine ⟨f (netOf (keyBits K1)), netOf (keyBits K2), ?_, rfl, rfl, rfl, ?_⟩
  · simp [genSeq, mkWhiteDES_eq, bind, Except.bind, pure, Except.pure]
  · rw [← wb_enc_eq_des K2 M hK, wbEnc, mkWhiteDES_eq]
    rfl

/-! ### used objects: the equality holds between the OBJECTS, at every point of their lives -/

/-- for every 8-byte key the two objects exist — `d = DES(K)` and the generated network `w` — and agree on every
    operand (ciphertext or the same refusal).  In the model both are VALUES: `enc` / `dec` return a result and nothing
    else, so no earlier call can change what a later call returns; this is the statement the `wb.hist` lines of the
    correspondence stream echo on the real objects (ONE `DES(K)` and ONE `WhiteDES` through a history of calls, then
    compared), where state kept in the object would break it. -/
theorem wb_enc_eq_des_objects (K : List Nat) (hK : K.length = 8) :
    ∃ d w, Des.DES.new K = .ok d ∧ mkWhiteDES K = .ok w ∧ ∀ M, w.enc M = d.enc M :=
  ⟨_, _, Des.DES_new_eq K hK, mkWhiteDES_eq K, netOf_enc _⟩

/-! ### non-vacuity: the statements above talk about tables that exist and are not trivial -/

/-- the hypotheses of the ∀-key theorems are just index ranges; instantiated at the key of tests/test_des.py -/
example := tbox_shape ⟨0xf7b3d591e6a2c480, 64⟩ 0 (by decide)
example := bypass_identity ⟨0xf7b3d591e6a2c480, 64⟩ 15 (by decide) 11 (by decide) (by decide)
example := tbox_sem ⟨0xf7b3d591e6a2c480, 64⟩ 0 (by decide) 0 (by decide) 0 (by decide)

/-- the S part of `tbox_sem` is not a constant: first round of that key, S-box 0, chunks 0 and 1 give 2 and 8 -/
example : ((do let fk ← Des.subkey (Des.PC1 ⟨0xf7b3d591e6a2c480, 64⟩) 0
               let a ← sboxOut 0 ((ofNatSz 0 6).xor (fk.sliceFast 0 6))
               let b ← sboxOut 0 ((ofNatSz 1 6).xor (fk.sliceFast 0 6))
               pure (a, b)).toOption) = some (2, 8) := by decide +kernel

/-- the halves hypotheses of `round_refines` are inhabited by non-trivial values -/
example : ∃ L R : Bits, L.size = 32 ∧ L.WF ∧ R.size = 32 ∧ R.WF ∧ L.ival ≠ 0 ∧ R.ival ≠ L.ival :=
  ⟨⟨0x89abcdef, 32⟩, ⟨0x01234567, 32⟩, rfl, by decide, rfl, by decide, by decide, by decide⟩

/-- flipping the parity bit of the first key byte satisfies the hypothesis of `parity_bits_ignored`, for any key -/
example (K : Bits) (r : Nat) : tableRKT r K = tableRKT r ⟨K.ival ^^^ 2 ^ 7, K.size⟩ := by
  apply parity_bits_ignored
  intro i hi
  have h7 : ¬ (7 = i) := by omega
  show K.ival.testBit i = (K.ival ^^^ 2 ^ 7).testBit i
  rw [Nat.testBit_xor, Nat.testBit_two_pow]
  simp [h7]

/-- `wb_enc_eq_des` at the key of tests/test_des.py -/
example (M : List Nat) : wbEnc [0x01, 0x23, 0x45, 0x67, 0x89, 0xab, 0xcd, 0xef] M = Des.enc [0x01, 0x23, 0x45, 0x67, 0x89, 0xab, 0xcd, 0xef] M :=
  wb_enc_eq_des _ M rfl

/-- and the common value is a ciphertext, not an error, on an 8-byte block ("Now is t" under that key: 3fa40e8a984d4815) -/
example : Des.enc [0x01, 0x23, 0x45, 0x67, 0x89, 0xab, 0xcd, 0xef] [78, 111, 119, 32, 105, 115, 32, 116]
    = .ok [0x3f, 0xa4, 0x0e, 0x8a, 0x98, 0x4d, 0x48, 0x15] :=
  Lemmas.Fold.toOption_eq_some.mp ((Des.enc_refines _ _ (by simp [IsBytes]) (by simp [IsBytes])).trans C02_DesSpec.Kat.kat_nbs.1)

/-- `gen_seq_key_only` with a modification that is not the identity (the first network loses all its tables) and two
    different keys: the second network is still the one of its key -/
example : ∃ w1 w2, mkWhiteDES [1, 2, 3, 4, 5, 6, 7, 8] = .ok w1 ∧ mkWhiteDES [0x81, 2, 3, 4, 5, 6, 7, 8] = .ok w2 ∧
    genSeq [1, 2, 3, 4, 5, 6, 7, 8] (fun _ => ⟨[], [], [], []⟩) [0x81, 2, 3, 4, 5, 6, 7, 8] = .ok (⟨[], [], [], []⟩, w2) :=
  gen_seq_key_only _ _ _

end Proofs.C18
