/-
  C02 (Serpent part, standard formulation) — the submission's own equivalence claim, proved, and composed with the
  refinement of the code's model.  Spec.SerpentStd is the STANDARD (non-bitslice) description of the AES submission
  (128-bit vector, IP, 32 rounds of key mixing with K̂_i, 32 copies of S_{i mod 8} on consecutive nibbles, bit-level
  linear transformation table; last round: K̂_32 instead of L; FP); Spec.Serpent is the BITSLICE description, the form
  the code has and that Proofs.C02_Serpent ties the model to.

  The relation, as the submission states it (section 3: in bitslice mode IP and FP are simply omitted): a standard
  intermediate vector B̂ and the bitslice state B are related by B̂ = IP(B), B = FP(B̂), where B is read as the 128-bit
  number X0 + 2^32·X1 + 2^64·X2 + 2^96·X3 (bit 32·m+k of B = bit k of word X_m = bit 4·k+m of B̂); subkeys:
  K̂_i = IP(K_i); plaintext and ciphertext are THE SAME 128-bit numbers in both formulations (B̂_0 = IP(P) ⇔ B_0 = P,
  C = FP(B̂_32) = B_32).  Hence SerpentStd.encNat = Spec.Serpent.encNat as functions of (key length, key, block);
  likewise decryption.
-/
import Proofs.C02_Serpent
import Proofs.Lemmas.SerpentStdEnc
namespace Proofs.C02_SerpentStd
open Model Model.Bits Spec.Serpent Proofs.Lemmas
open Proofs.Lemmas.SerpentBits Proofs.Lemmas.SerpentComp Proofs.Lemmas.SerpentSpec Proofs.Lemmas.SerpentEnc
open Proofs.Lemmas.SerpentBytes Proofs.Lemmas.SerpentKS
open Proofs.Lemmas.SerpentStdPerm Proofs.Lemmas.SerpentStdSbox Proofs.Lemmas.SerpentStdLin Proofs.Lemmas.SerpentStdEnc

/-- the literal IP table of the appendix is the table probed from the current source, is the generating rule
    32·j mod 127 of Spec.Serpent, and is the 4×32 bit transpose (standard bit 4k+m = bit k of word m) -/
theorem ip_table : Model.Gen.Serpent.ipTable = Spec.SerpentStd.ipTable ∧
    ∀ j < 128, Spec.SerpentStd.ipTable.getD j 0 = Spec.Serpent.ipSrc j ∧
      Spec.SerpentStd.ipTable.getD j 0 = 32 * (j % 4) + j / 4 := by
  refine ⟨gen_ipTable, fun j hj => ?_⟩
  rw [ipTable_getD j hj]
  exact ⟨(ipSrc_eq j hj).symm, rfl⟩

/-- the literal FP table: the probed table, the rule 4·j mod 127, the 32×4 transpose -/
theorem fp_table : Model.Gen.Serpent.fpTable = Spec.SerpentStd.fpTable ∧
    ∀ j < 128, Spec.SerpentStd.fpTable.getD j 0 = Spec.Serpent.fpSrc j ∧
      Spec.SerpentStd.fpTable.getD j 0 = 4 * (j % 32) + j / 32 := by
  refine ⟨gen_fpTable, fun j hj => ?_⟩
  rw [fpTable_getD j hj]
  exact ⟨(fpSrc_eq j hj).symm, rfl⟩

theorem IP_FP_eq_rule (x : Nat) :
    Spec.SerpentStd.IP x = Spec.Serpent.IP x ∧ Spec.SerpentStd.FP x = Spec.Serpent.FP x :=
  ⟨IP_eq_spec x, FP_eq_spec x⟩

theorem IP_FP_inverse (x : Nat) (hx : x < 2 ^ 128) :
    Spec.SerpentStd.FP (Spec.SerpentStd.IP x) = x ∧ Spec.SerpentStd.IP (Spec.SerpentStd.FP x) = x :=
  ⟨FP_IP x hx, IP_FP x hx⟩

/-- the code's `_IP` / `_FP` are the appendix tables -/
theorem IP_FP_refine_std (X : Bits) (hs : X.size = 128) :
    Model.Serpent.IP X = .ok ⟨Spec.SerpentStd.IP X.ival, 128⟩ ∧
    Model.Serpent.FP X = .ok ⟨Spec.SerpentStd.FP X.ival, 128⟩ := ⟨IP_eq X hs, FP_eq X hs⟩

/-! ### each component of a standard round is the IP-conjugate of the bitslice component
    (x = the bitslice block as a number; no size hypothesis: both sides look at the low 128 bits only) -/

/-- key mixing: IP is xor-linear -/
theorem keymix_conj (x k : Nat) :
    Spec.SerpentStd.IP x ^^^ Spec.SerpentStd.IP k = Spec.SerpentStd.IP (x ^^^ k) := (IP_xor x k).symm

/-- nibble k (bits 4k..4k+3) of IP(x) is column k of the four words of x -/
theorem nibble_is_column (x k : Nat) (hk : k < 32) :
    Spec.SerpentStd.nibble (Spec.SerpentStd.IP x) k = column (stateOfNat x) k := by
  rw [← T_stateOfNat]; exact nibble_T _ (stateOfNat_ws x) k hk

/-- S-box layer: 32 copies of a 4-bit function on consecutive nibbles of IP(x) = IP of the bitslice application of the
    function to the 32 columns — for EVERY 4-bit function, in particular S_0..S_7 and their inverses -/
theorem sbox_layer_conj (f : Nat → Nat) (x : Nat) :
    Spec.SerpentStd.sHat f (Spec.SerpentStd.IP x) =
      Spec.SerpentStd.IP (natOfState (applyBox f (stateOfNat x))) := (conj_box f).nat x

/-- the bit-level parity table of the linear transformation is exactly IP ∘ (X0 <<<= 13; X2 <<<= 3; …) ∘ FP,
    on all 2^128 vectors (xor-linearity of both sides + kernel evaluation on the 128 unit vectors) -/
theorem L_table_is_conjugate (x : Nat) (hx : x < 2 ^ 128) :
    Spec.SerpentStd.L x = Spec.SerpentStd.IP (natOfState (lt (stateOfNat (Spec.SerpentStd.FP x)))) := by
  rw [← conj_lt.nat, IP_FP x hx]

theorem LInv_table_is_conjugate (x : Nat) (hx : x < 2 ^ 128) :
    Spec.SerpentStd.LInv x = Spec.SerpentStd.IP (natOfState (ltInv (stateOfNat (Spec.SerpentStd.FP x)))) := by
  rw [← conj_ltInv.nat, IP_FP x hx]

/-- linear transformation: L ∘ IP = IP ∘ (bitslice linear transformation) -/
theorem L_conj (x : Nat) :
    Spec.SerpentStd.L (Spec.SerpentStd.IP x) = Spec.SerpentStd.IP (natOfState (lt (stateOfNat x))) := conj_lt.nat x

theorem LInv_conj (x : Nat) :
    Spec.SerpentStd.LInv (Spec.SerpentStd.IP x) = Spec.SerpentStd.IP (natOfState (ltInv (stateOfNat x))) := conj_ltInv.nat x

theorem LInv_L (x : Nat) (hx : x < 2 ^ 128) :
    Spec.SerpentStd.LInv (Spec.SerpentStd.L x) = x ∧ Spec.SerpentStd.L (Spec.SerpentStd.LInv x) = x :=
  ⟨conj_lt.inv conj_ltInv inv_lt x hx, conj_ltInv.inv conj_lt inv_lt.symm x hx⟩

/-- subkeys: K̂_i = IP(K_i) (definition of the submission), for every key and every i (outside 0..32 both sides are 0) -/
theorem subkeys_conj (klen K i : Nat) :
    Spec.SerpentStd.kHat (Spec.SerpentStd.roundKeysHat klen K) i =
      Spec.SerpentStd.IP (natOfState (rk (roundKeys klen K) i)) := kHat_hat _ i

/-- round R_i (i = 0..30) of the standard formulation on IP(x) = IP(bitslice round on x), for every key and block -/
theorem round_conj (klen K x i : Nat) :
    Spec.SerpentStd.round (Spec.SerpentStd.roundKeysHat klen K) (Spec.SerpentStd.IP x) i =
      Spec.SerpentStd.IP (natOfState (round (roundKeys klen K) (stateOfNat x) i)) :=
  (conj_round _ (roundKeys_ws klen K) i).nat x

theorem roundInv_conj (klen K x i : Nat) :
    Spec.SerpentStd.roundInv (Spec.SerpentStd.roundKeysHat klen K) (Spec.SerpentStd.IP x) i =
      Spec.SerpentStd.IP (natOfState (roundInv (roundKeys klen K) (stateOfNat x) i)) :=
  (conj_roundInv _ (roundKeys_ws klen K) i).nat x

/-- IP, 32 standard rounds, FP on the block P = the bitslice rounds on the four words of P, reassembled -/
theorem enc_std_words (klen K P : Nat) :
    Spec.SerpentStd.encBlock (Spec.SerpentStd.roundKeysHat klen K) P =
      natOfState (encState (roundKeys klen K) (stateOfNat P)) := encBlock_hat _ (roundKeys_ws klen K) P

/-- standard ciphertext = bitslice ciphertext, on the same 128-bit numbering of plaintext and ciphertext, for every key
    length, key and block (numbers ≥ 2^128 are truncated alike by both) -/
theorem enc_std_eq_bitslice (klen K P : Nat) :
    Spec.SerpentStd.encNat klen K P = Spec.Serpent.encNat klen K P := encNat_eq klen K P

theorem dec_std_eq_bitslice (klen K C : Nat) :
    Spec.SerpentStd.decNat klen K C = Spec.Serpent.decNat klen K C := decNat_eq klen K C

/-- the same on byte strings: the two Specs are the same partial function -/
theorem std_eq_bitslice_bytes (key block : List Nat) :
    Spec.SerpentStd.enc key block = Spec.Serpent.enc key block ∧
    Spec.SerpentStd.dec key block = Spec.Serpent.dec key block := by
  unfold Spec.SerpentStd.enc Spec.SerpentStd.dec Spec.Serpent.enc Spec.Serpent.dec
  rw [encNat_eq, decNat_eq]
  exact ⟨rfl, rfl⟩

/-- `Serpent(K).enc(M)` is the ciphertext of the STANDARD description of the submission, for every key of at most 256
    bits and every 128-bit block -/
theorem enc_refines_std (K M : Bits) (hK : K.WF) (hKs : K.size ≤ 256) (hM : M.WF) (hMs : M.size = 128) :
    Model.Serpent.enc K M = .ok (leBytes 16 (Spec.SerpentStd.encNat K.size K.ival M.ival)) := by
  rw [encNat_eq]; exact enc_eq K M hK hKs hM hMs

theorem dec_refines_std (K C : Bits) (hK : K.WF) (hKs : K.size ≤ 256) (hC : C.WF) (hCs : C.size = 128) :
    Model.Serpent.dec K C = .ok (leBytes 16 (Spec.SerpentStd.decNat K.size K.ival C.ival)) := by
  rw [decNat_eq]; exact dec_eq K C hK hKs hC hCs

/-- byte-string interface: every key of 0..32 bytes, every 16-byte block -/
theorem enc_refines_std_bytes (key block : List Nat) (hk : IsBytes key) (hb : IsBytes block)
    (hkl : key.length ≤ 32) (hbl : block.length = 16) :
    (Model.Serpent.encBytes key block).toOption = Spec.SerpentStd.enc key block ∧
    (Spec.SerpentStd.enc key block).isSome := by
  rw [(std_eq_bitslice_bytes key block).1]
  exact Proofs.C02_Serpent.enc_refines_bytes key block hk hb hkl hbl

theorem dec_refines_std_bytes (key block : List Nat) (hk : IsBytes key) (hb : IsBytes block)
    (hkl : key.length ≤ 32) (hbl : block.length = 16) :
    (Model.Serpent.decBytes key block).toOption = Spec.SerpentStd.dec key block ∧
    (Spec.SerpentStd.dec key block).isSome := by
  rw [(std_eq_bitslice_bytes key block).2]
  exact Proofs.C02_Serpent.dec_refines_bytes key block hk hb hkl hbl

/-- the code's key schedule yields the standard subkeys after IP: `_IP(keys[i])` = K̂_i -/
theorem keyschedule_refines_std (K : Bits) (hwf : K.WF) (hs : K.size ≤ 256) :
    ∃ c, Model.Serpent.init K = .ok c ∧ c.keys.length = 33 ∧
      ∀ i < 33, ∃ k, c.keys[i]? = some k ∧ k.size = 128 ∧
        Model.Serpent.IP k = .ok ⟨Spec.SerpentStd.kHat (Spec.SerpentStd.roundKeysHat K.size K.ival) i, 128⟩ := by
  refine ⟨_, Proofs.C02_Serpent.keyschedule_refines K hwf hs, ?_, ?_⟩
  · simp [roundKeys_length]
  · intro i hi
    have hl : i < (roundKeys K.size K.ival).length := by rw [roundKeys_length]; exact hi
    refine ⟨⟨natOfState ((roundKeys K.size K.ival)[i]), 128⟩, ?_, rfl, ?_⟩
    · simp [List.getElem?_map, List.getElem?_eq_getElem hl]
    · rw [(IP_FP_refine_std _ rfl).1, subkeys_conj]
      simp [rk, List.getD_eq_getElem?_getD, List.getElem?_eq_getElem hl]

/-! ### known answers of the standard formulation, carried over from the bitslice one: NESSIE Serpent-256 and -128
    set 1 vector 0, and decryption of the third vector of tests/test_serpent.py -/
example : Spec.SerpentStd.enc [0x80, 0, 0, 0, 0, 0, 0, 0, 0, 0, 0, 0, 0, 0, 0, 0, 0, 0, 0, 0, 0, 0, 0, 0, 0, 0, 0, 0, 0, 0, 0, 0]
      [0, 0, 0, 0, 0, 0, 0, 0, 0, 0, 0, 0, 0, 0, 0, 0]
    = some [0xA2, 0x23, 0xAA, 0x12, 0x88, 0x46, 0x3C, 0x0E, 0x2B, 0xE3, 0x8E, 0xBD, 0x82, 0x56, 0x16, 0xC0] := by
  rw [(std_eq_bitslice_bytes _ _).1]
  exact Proofs.C02_Serpent.nessie256
example : Spec.SerpentStd.enc [0x80, 0, 0, 0, 0, 0, 0, 0, 0, 0, 0, 0, 0, 0, 0, 0] [0, 0, 0, 0, 0, 0, 0, 0, 0, 0, 0, 0, 0, 0, 0, 0]
    = some [0x26, 0x4E, 0x54, 0x81, 0xEF, 0xF4, 0x2A, 0x46, 0x06, 0xAB, 0xDA, 0x06, 0xC0, 0xBF, 0xDA, 0x3D] := by
  rw [(std_eq_bitslice_bytes _ _).1]
  exact Proofs.C02_Serpent.nessie128
example : Spec.SerpentStd.dec (List.replicate 32 0x11)
      [0xA4, 0x82, 0xEA, 0xA5, 0xD5, 0x77, 0x1F, 0x2F, 0xDB, 0x2E, 0xA1, 0xA5, 0xF1, 0x41, 0xB9, 0xE2]
    = some (List.replicate 16 0x11) := by
  rw [(std_eq_bitslice_bytes _ _).2]
  unfold Spec.Serpent.dec decNat roundKeys
  rw [prekeys_eq]
  decide +kernel
/-- the first rows of the parity tables.  They are not typed from appendix A.3 / A.4: the tables are generated from the
    bitslice word operations and `L_table_is_conjugate` ties them to it, so this records the rows for comparison by eye
    with the document (see PROVENANCE in Spec/SerpentStd.lean) -/
example : Spec.SerpentStd.ltTable.take 8 =
    [[16, 52, 56, 70, 83, 94, 105], [72, 114, 125], [2, 9, 15, 30, 76, 84, 126], [36, 90, 103],
     [20, 56, 60, 74, 87, 98, 109], [1, 76, 118], [2, 6, 13, 19, 34, 80, 88], [40, 94, 107]] ∧
    Spec.SerpentStd.ltInvTable.take 4 = [[53, 55, 72], [1, 5, 20, 90], [15, 102], [3, 31, 90]] := by decide
example : IsBytes [1, 2, 3, 4, 5] ∧ [1, 2, 3, 4, 5].length ≤ 32 ∧ (⟨0x0504030201, 40⟩ : Bits).WF ∧
    (⟨2 ^ 127 + 1, 128⟩ : Bits).WF := by decide

end Proofs.C02_SerpentStd
