/-
  C19 — TLSH/Nilsimsa: well-formed reproducible digests, distances behave as distances.

  `lcap : Nat → Nat` is libm-based `l_capturing` (an uninterpreted parameter: every theorem holds for
  all of them); `.ok none` is the Python `None`; `.error _` an exception.  "Distances are non-negative" needs no
  theorem: `distance` returns a `Nat` by typing.  `ObjWF c o` (Proofs/Lemmas/Tlsh.lean) says that `o` is a valid
  digest object of configuration `c` (field lengths and ranges) — what `final` and `from_hash` hand out.
-/
import Model.Tlsh
import Model.Nilsimsa
import Spec.Tlsh
import Spec.Nilsimsa
import Proofs.Lemmas.Tlsh
import Proofs.Lemmas.TlshRef
import Proofs.Lemmas.Nilsimsa
import Model.Objects
import Proofs.Lemmas.ObjectsSound
import Proofs.Lemmas.TlshCall
namespace Proofs.C19
open Model Model.Tlsh Proofs.Lemmas.Tlsh

/-- the Pearson table read from the current source is the reference table -/
theorem pearson_gen_eq_spec : Model.Gen.Lsh.pearsonT = Spec.Tlsh.vTable := pearsonT_eq

theorem pearson_perm : List.Perm Model.Gen.Lsh.pearsonT (List.range 256) := pearsonT_perm

/-- the complete behaviour of the code's `triplet` generator (probed) is the reference list of 21 triplets
    (lags 1-based from the end of the window, the current byte first) -/
theorem triplets_gen_eq_spec :
    Model.Gen.Lsh.triplets = Spec.Tlsh.refTriplets.map (fun t => [t.1, 1, t.2.1 + 1, t.2.2 + 1]) := triplets_eq

/-- number of triplets the generator yields for window sizes 4..8 = the reference's `#if SLIDING_WND_SIZE>=k` selection -/
theorem triplet_counts_gen_eq_spec :
    Model.Gen.Lsh.tripletCounts = [4, 5, 6, 7, 8].map (fun w => (Spec.Tlsh.triplets w).length) := by decide +kernel

/-- the body scoring probed from `distance` is the bit-pair difference rule (|a-b|, 3 counts 6) -/
theorem pairDiff_gen_eq_spec : ∀ a < 4, ∀ b < 4, pairDiff a b = Spec.Tlsh.pairDiff a b := pairDiff_eq4

/-- the minimum lengths read from the live object -/
theorem minlen_gen : Model.Gen.Lsh.minLen = 50 ∧ Model.Gen.Lsh.minLenNoForce = 256 := by decide

theorem digest_length (lcap : Nat → Nat) (c : Cfg) (data : List Nat) (force : Bool) (d : List Nat)
    (h : tlsh lcap c data force = .ok (some d)) : d.length = c.chklen + 2 + c.buckets / 4 ∧ ∀ x ∈ d, x < 256 := by
  obtain ⟨_, _, rfl⟩ := tlsh_some h
  have wf := mkObjOf_wf lcap c (update_wf c data) data.length
  exact ⟨by rw [Lemmas.Tlsh.digest_length, wf.cklen, wf.codelen]; rfl, digest_lt wf⟩

/-- for a valid configuration `TLSH(cfg)(data,force)` never raises -/
theorem tlsh_never_errors (lcap : Nat → Nat) (c : Cfg) (hc : c.valid = true) (data : List Nat) (force : Bool) :
    ∃ r, tlsh lcap c data force = .ok r :=
  ⟨_, tlsh_eq lcap c hc data force⟩

/-- the result is None exactly when the input is shorter than 50 bytes, or shorter than 256 without the force flag,
    or populates too few of the first `buckets` buckets (48 buckets: fewer than 18; otherwise: at most half) -/
theorem tlsh_none_iff (lcap : Nat → Nat) (c : Cfg) (hc : c.valid = true) (data : List Nat) (force : Bool) :
    tlsh lcap c data force = .ok none ↔
      (data.length < 50 ∨ (force = false ∧ data.length < 256)
        ∨ tooFew c.buckets (nonzero c (update c data).bucket) = true) := by
  rw [tlsh_eq lcap c hc]
  split
  · rename_i h
    exact ⟨fun _ => h, fun _ => rfl⟩
  · rename_i h
    exact ⟨fun e => (nomatch Except.ok.inj e), fun e => absurd e h⟩

/-- an invalid configuration is refused by the constructor -/
theorem tlsh_invalid_cfg (lcap : Nat → Nat) (c : Cfg) (hc : c.valid = false) (data : List Nat) (force : Bool) :
    ∃ e, tlsh lcap c data force = .error e := by
  unfold tlsh; simp [hc]

/-- `TLSH(cfg)(data,force)` equals the reference algorithm (TLSH paper / Trend Micro reference as rendered in
    Spec.Tlsh: positional triplet histogram, order-statistic quartiles, header, body): same digest bytes, and None exactly
    when the reference has no hash -/
theorem tlsh_refines (lcap : Nat → Nat) (c : Cfg) (hc : c.valid = true) (data : List Nat) (force : Bool) :
    tlsh lcap c data force = .ok (Spec.Tlsh.tlsh lcap c.buckets c.window c.chklen data force) := by
  have hv := valid_cases hc
  have wf := update_wf c data
  rw [tlsh_eq lcap c hc, ← encode_eq lcap c hc _ wf.bklen wf.cklt, update_bucket c (by omega),
    update_checksum c (by omega)]
  rfl

/-- component: the bucket array after `update` is the histogram of all reference triplet hashes -/
theorem tlsh_buckets_refine (c : Cfg) (hc : c.valid = true) (data : List Nat) :
    (update c data).bucket = Spec.Tlsh.buckets c.window data.toArray :=
  update_bucket c (by have := (valid_cases hc).2.1.1; omega) data

theorem tlsh_checksum_refines (c : Cfg) (hc : c.valid = true) (data : List Nat) :
    (update c data).checksum = Spec.Tlsh.checksum c.window c.chklen data.toArray :=
  update_checksum c (by have := (valid_cases hc).2.1.1; omega) data

/-- component: `sorted(buckets)[k]` is the k-th order statistic -/
theorem tlsh_quartile_is_order_statistic (l : List Nat) (k : Nat) (hk : k < l.length) :
    (isort l).getD k 0 = Spec.Tlsh.kth l k := isort_getD_eq_kth l k hk

/-! `finalOf` is `final(b'',force)` on an object whose `a_bucket`, `checksum`, `data_len` were set directly (op `tlsh.final`):
the quartiles, the two Q ratios, Lvalue and the body code as a function of the bucket array alone, for EVERY array — not
only those some hashed input produces. -/

/-- hashing is bucket filling followed by `finalOf` of the state that `update` leaves behind -/
theorem final_is_finalOf (lcap : Nat → Nat) (c : Cfg) (hc : c.valid = true) (data : List Nat) (force : Bool) :
    final lcap c data force = finalOf lcap c (update c data) data.length force :=
  final_eq_finalOf lcap c hc data force

/-- the same split on the reference side: the reference digest is the reference encoding of the input's histogram -/
theorem spec_tlsh_is_encode (lcap : Nat → Nat) (eff w chklen : Nat) (data : List Nat) (force : Bool) :
    Spec.Tlsh.tlsh lcap eff w chklen data force
      = Spec.Tlsh.encode lcap eff (Spec.Tlsh.buckets w data.toArray) (Spec.Tlsh.checksum w chklen data.toArray)
          data.length force := rfl

/-- on EVERY 256-entry bucket array, all checksum bytes, every data length and force flag the finalisation yields the
    reference encoding (order-statistic quartiles, Q ratios by exact integer floor division, body), and None exactly
    when the reference has no hash; never an exception -/
theorem finalOf_refines (lcap : Nat → Nat) (c : Cfg) (hc : c.valid = true) (bucket ck : List Nat)
    (hb : bucket.length = 256) (hck : ∀ x ∈ ck, x < 256) (n : Nat) (force : Bool) :
    (finalOf lcap c ⟨ck, bucket⟩ n force).map (·.map digest) = .ok (Spec.Tlsh.encode lcap c.buckets bucket ck n force) := by
  rw [finalOf_eq lcap c hc ⟨ck, bucket⟩ hb, encode_eq lcap c hc ⟨ck, bucket⟩ hb hck]
  rfl

/-- the two Q nibbles are ⌊100·q1/q3⌋ mod 16 and ⌊100·q2/q3⌋ mod 16 of the RATIONAL quotients of the quartiles
    (k = ⌊x/y⌋ stated without division: k·y ≤ x < (k+1)·y), and q3 > 0 whenever a digest is produced -/
theorem finalOf_q_ratios (lcap : Nat → Nat) (c : Cfg) (hc : c.valid = true) (st : St) (hb : st.bucket.length = 256)
    (n : Nat) (force : Bool) (o : TObj) (h : finalOf lcap c st n force = .ok (some o)) :
    0 < (quartiles c st.bucket).2.2 ∧ ∃ k1 k2, o.q1 = k1 % 16 ∧ o.q2 = k2 % 16
      ∧ k1 * (quartiles c st.bucket).2.2 ≤ 100 * (quartiles c st.bucket).1
      ∧ 100 * (quartiles c st.bucket).1 < (k1 + 1) * (quartiles c st.bucket).2.2
      ∧ k2 * (quartiles c st.bucket).2.2 ≤ 100 * (quartiles c st.bucket).2.1
      ∧ 100 * (quartiles c st.bucket).2.1 < (k2 + 1) * (quartiles c st.bucket).2.2 := by
  obtain ⟨rfl, h0⟩ := finalOf_some lcap c hc st hb n force o h
  have hpos : 0 < (quartiles c st.bucket).2.2 := Nat.pos_of_ne_zero h0
  refine ⟨hpos, (quartiles c st.bucket).1 * 100 / (quartiles c st.bucket).2.2,
    (quartiles c st.bucket).2.1 * 100 / (quartiles c st.bucket).2.2, rfl, rfl, ?_, ?_, ?_, ?_⟩
  · rw [Nat.mul_comm 100]; exact Nat.div_mul_le_self _ _
  · rw [Nat.mul_comm 100, Nat.mul_comm _ (quartiles c st.bucket).2.2]; exact Nat.lt_mul_div_succ _ hpos
  · rw [Nat.mul_comm 100]; exact Nat.div_mul_le_self _ _
  · rw [Nat.mul_comm 100, Nat.mul_comm _ (quartiles c st.bucket).2.2]; exact Nat.lt_mul_div_succ _ hpos

/-- what `TLSH(cfg)(data,force)` returns re-loads (`from_hash`) into the object that `final` built — same checksum,
    Lvalue, q ratios and code — and serialises back to the identical bytes -/
theorem tlsh_reload (lcap : Nat → Nat) (c : Cfg) (data : List Nat) (force : Bool) (d : List Nat)
    (h : tlsh lcap c data force = .ok (some d)) :
    ∃ o, final lcap c data force = .ok (some o) ∧ ObjWF c o ∧ fromHash c d = .ok o ∧ digest o = d := by
  obtain ⟨_, hf, rfl⟩ := tlsh_some h
  have wf := mkObjOf_wf lcap c (update_wf c data) data.length
  exact ⟨_, hf, wf, fromHash_digest wf, rfl⟩

/-- `from_hash` accepts EVERY byte string of the configuration's digest length (its closing assertion never fires),
    yields a valid object, and `digest()` gives the identical bytes back -/
theorem fromHash_serialises_back (c : Cfg) (d : List Nat) (hlen : d.length = c.chklen + 2 + c.buckets / 4)
    (hd : ∀ x ∈ d, x < 256) : ∃ o, fromHash c d = .ok o ∧ digest o = d ∧ ObjWF c o := by
  replace hlen : d.length = c.chklen + 2 + c.codesize := hlen
  have hdl : (d.drop c.chklen).length = 2 + c.codesize := by simp [hlen]; omega
  match hdr : d.drop c.chklen, hdl with
  | [], hdl => simp at hdl; omega
  | [_], hdl => simp at hdl; omega
  | lv :: qb :: body, hdl =>
    have hb : body.length = c.codesize := by simp at hdl; omega
    have hmem : ∀ x ∈ d.drop c.chklen, x < 256 := Lemmas.Bytes.AllBytes.drop hd _
    have hlv : lv < 256 := hmem lv (by rw [hdr]; simp)
    have hqb : qb < 256 := hmem qb (by rw [hdr]; simp)
    have htk : ∀ x ∈ d.take c.chklen, x < 256 := Lemmas.Bytes.AllBytes.take hd _
    have hdig : digest ⟨c.chklen, (d.take c.chklen).map swp8, swp8 lv, qb >>> 4, qb &&& 0xf, body.reverse⟩ = d := by
      simp only [digest, List.reverse_reverse]
      rw [map_swp8_swp8 _ htk, swp8_swp8 _ hlv, (qb_split qb hqb).1]
      calc d.take c.chklen ++ [lv, qb] ++ body = d.take c.chklen ++ (lv :: qb :: body) := by simp
        _ = d := by rw [← hdr, List.take_append_drop]
    refine ⟨_, ?_, hdig, ?_⟩
    · unfold fromHash
      rw [hdr]
      simp only [hb, ne_eq, not_true_eq_false, ↓reduceIte, hdig]
    · refine ⟨rfl, by simp [hlen]; omega, ?_, swp8_lt _ hlv, (qb_split qb hqb).2.1, (qb_split qb hqb).2.2, by simp [hb], ?_⟩
      · intro x hx
        obtain ⟨y, hy, rfl⟩ := List.mem_map.mp hx
        exact swp8_lt y (htk y hy)
      · intro x hx
        exact hmem x (by rw [hdr]; simp [List.mem_reverse.mp hx])

theorem fromHash_of_digest (c : Cfg) (o : TObj) (h : ObjWF c o) : fromHash c (digest o) = .ok o := fromHash_digest h

theorem fromHash_bad_length (c : Cfg) (d : List Nat) (hlen : d.length ≠ c.chklen + 2 + c.buckets / 4) :
    ∃ e, fromHash c d = .error e := by
  unfold fromHash
  split
  · rename_i lv qb body hdr
    have : (d.drop c.chklen).length = body.length + 2 := by rw [hdr]; rfl
    have hb : body.length ≠ c.codesize := by
      unfold Cfg.codesize; simp at this; omega
    simp [hb]
  · exact ⟨_, rfl⟩

/-- `d(x,y) == d(y,x)` for all operands (objects, raw bytes, mixed, malformed): the observable results agree
    (`toOption` forgets only which exception was raised; `some none` is the Python `None`) -/
theorem dist_symm (x y : Operand) (lv : Bool) : (distance x y lv).toOption = (distance y x lv).toOption := by
  unfold distance
  cases hx : resolve x with
  | error e => cases hy : resolve y <;> simp [bind, Except.bind, Except.toOption]
  | ok tx =>
    cases hy : resolve y with
    | error e => simp [bind, Except.bind, Except.toOption]
    | ok ty =>
      cases tx <;> cases ty <;> simp [bind, Except.bind, Except.toOption, pure, Except.pure]
      rename_i a b
      by_cases h : a.chklen = b.chklen
      · simp [h, headerDiff_comm a b, bodyDiff_comm b.code a.code]
      · have h' : ¬ b.chklen = a.chklen := fun e => h e.symm
        simp [h, h']

/-- `d(x,x) == 0` for every operand that denotes a digest (a valid object, or bytes that `from_hash` accepts) -/
theorem dist_self (x : Operand) (t : TObj) (hx : resolve x = .ok (some t)) (lv : Bool) :
    distance x x lv = .ok (some 0) := by
  rw [distance_resolved hx hx rfl, headerDiff_self, bodyDiff_self]

/-- objects and their raw digest bytes are interchangeable in both argument positions (object/object =
    object/bytes = bytes/object = bytes/bytes) -/
theorem dist_obj_eq_bytes (c : Cfg) (hc : c.valid = true) (o : TObj) (ho : ObjWF c o) (y : Operand) (lv : Bool) :
    distance (.raw (digest o)) y lv = distance (.obj o) y lv
    ∧ distance y (.raw (digest o)) lv = distance y (.obj o) lv := by
  have h := resolve_raw_digest hc ho
  constructor <;> (unfold distance; rw [h]; rfl)

/-- in particular for the digests produced by hashing: all four forms agree, and two valid digests of one
    configuration always have a distance (no exception, not None) -/
theorem dist_forms_agree (c : Cfg) (hc : c.valid = true) (o1 o2 : TObj) (h1 : ObjWF c o1) (h2 : ObjWF c o2) (lv : Bool) :
    ∃ n, distance (.obj o1) (.obj o2) lv = .ok (some n) ∧ distance (.obj o1) (.raw (digest o2)) lv = .ok (some n)
      ∧ distance (.raw (digest o1)) (.obj o2) lv = .ok (some n)
      ∧ distance (.raw (digest o1)) (.raw (digest o2)) lv = .ok (some n) :=
  have e1 := resolve_raw_digest hc h1
  have e2 := resolve_raw_digest hc h2
  have h := h1.chk.trans h2.chk.symm
  ⟨_, distance_resolved rfl rfl h lv, distance_resolved rfl e2 h lv, distance_resolved e1 rfl h lv,
    distance_resolved e1 e2 h lv⟩

/-- the distance of two valid digests of one configuration is the reference scoring (`totalDiff`: mod-differences of
    Lvalue and the q ratios, checksum mismatch, bit-pair table over the body) of their bytes -/
theorem dist_refines (c : Cfg) (hc : c.valid = true) (o1 o2 : TObj) (h1 : ObjWF c o1) (h2 : ObjWF c o2) (lv : Bool) :
    distance (.raw (digest o1)) (.raw (digest o2)) lv
      = .ok (some (Spec.Tlsh.distance c.chklen (digest o1) (digest o2) lv)) := by
  rw [spec_distance_eq h1 h2,
    distance_resolved (resolve_raw_digest hc h1) (resolve_raw_digest hc h2) (h1.chk.trans h2.chk.symm)]

/-- the table the live object uses for the default target 53 is what the generating rule gives -/
theorem tran53_rule : Nilsimsa.maketran 53 = Model.Gen.Lsh.tran53 := by decide +kernel

theorem tran53_perm : List.Perm Model.Gen.Lsh.tran53 (List.range 256) :=
  Lemmas.Lsh.perm_range_of_mask _ 256 (by decide +kernel) (by decide +kernel)

/-- the model's table rule is nilsimsa 0.2.4's `filltran` for every multiplier -/
theorem maketran_eq_filltran (t : Nat) : Nilsimsa.maketran t = Spec.Nilsimsa.filltran t := Lemmas.Nilsimsa.maketran_eq t

/-- a Nilsimsa digest always has 32 bytes (each < 256), for every target, input and history of updates -/
theorem nilsimsa_length (s : Nilsimsa.St) : (Nilsimsa.digest s).length = 32 ∧ ∀ x ∈ Nilsimsa.digest s, x < 256 :=
  ⟨Lemmas.Nilsimsa.digest_length s, Lemmas.Nilsimsa.digest_lt s⟩

theorem nilsimsa_call_length (t : Nat) (d : List Nat) : (Nilsimsa.nilsimsa t d).length = 32 :=
  Lemmas.Nilsimsa.digest_length _

open Lemmas.Nilsimsa Lemmas.Lsh in
/-- `Nilsimsa(t)(data)` is the nilsimsa 0.2.4 digest, for every target and every input -/
theorem nilsimsa_refines (t : Nat) (d : List Nat) : Nilsimsa.nilsimsa t d = Spec.Nilsimsa.nilsimsa t d := by
  unfold Nilsimsa.nilsimsa Spec.Nilsimsa.nilsimsa Spec.Nilsimsa.events
  rw [update_init, ← maketran_eq]
  simp only [Nilsimsa.digest, stateAt, Lemmas.Fold.reverse_map_range, total_eq, List.size_toArray]
  apply List.map_congr_left
  intro m hm
  have hm' : m < 32 := List.mem_range.mp hm
  rw [codeByte_hist _ _ _ (by omega)]

open Lemmas.Nilsimsa in
/-- `distance(h1,h2) = Bits(h1).hd(h2)` is the Hamming distance (number of differing bits) of two equally long byte
    strings — in particular of two 32-byte digests -/
theorem nilsimsa_distance_hamming (a b : List Nat) (hl : a.length = b.length) (ha : ∀ x ∈ a, x < 256)
    (hb : ∀ x ∈ b, x < 256) : Nilsimsa.distance a b = .ok (Spec.Nilsimsa.hamming a b) := by
  simp only [Nilsimsa.distance, Lemmas.Bits.ofBytes_rev_eq a ha, Lemmas.Bits.ofBytes_rev_eq b hb, bind, Except.bind,
    Bits.hd, hl, ne_eq, not_true_eq_false, ↓reduceIte]
  congr 1
  rw [Lemmas.Bits.xor_mk _ _ _ _ (Nat.le_refl _), ← hl]
  exact hw_xor a b hl ha hb

theorem nilsimsa_distance_length_mismatch (a b : List Nat) (hl : a.length ≠ b.length) :
    ∃ e, Nilsimsa.distance a b = .error e := by
  obtain ⟨va, ea⟩ := Lemmas.Bits.ofBytes_size a
  obtain ⟨vb, eb⟩ := Lemmas.Bits.ofBytes_size b
  simp only [Nilsimsa.distance, ea, eb, bind, Except.bind, Bits.hd]
  have : 8 * a.length ≠ 8 * b.length := by omega
  simp [this]

theorem nilsimsa_distance_symm (a b : List Nat) (hl : a.length = b.length) (ha : ∀ x ∈ a, x < 256)
    (hb : ∀ x ∈ b, x < 256) : Nilsimsa.distance a b = Nilsimsa.distance b a := by
  rw [nilsimsa_distance_hamming a b hl ha hb, nilsimsa_distance_hamming b a hl.symm hb ha, Lemmas.Nilsimsa.hamming_comm]

theorem nilsimsa_distance_zero_iff (a b : List Nat) (hl : a.length = b.length) (ha : ∀ x ∈ a, x < 256)
    (hb : ∀ x ∈ b, x < 256) : Nilsimsa.distance a b = .ok 0 ↔ a = b := by
  rw [nilsimsa_distance_hamming a b hl ha hb, ← Lemmas.Nilsimsa.hamming_eq_zero a b hl ha hb]
  constructor
  · intro h; exact Except.ok.inj h
  · intro h; rw [h]

/-! ONE object, many calls: a call's digest is a function of its own arguments.  `__call__` starts with `self.reset()`, and
  `reset()` assigns EVERY attribute the methods read, so whatever the object went through — a call that returned None and
  left `data_len` / `checksum` behind, an `update` without digest, a reloaded digest, a call that stopped half way — cannot
  show.  The `tlsh.calls` / `nilsimsa.calls` lines of the correspondence stream drive ONE real object (and the module
  singleton `tlsh`) through such histories and compare every call with the one-shot function of that call's arguments. -/

open Model.Objects in
/-- the digest (or None, or the exception) returned by `obj(data,force)` and the state the object is left in do not depend on
    the object's prior state: for ANY state `s` they are those of the first call on a new object of the same configuration -/
theorem tlsh_call_ignores_state (lcap : Nat → Nat) (s : TlshO.State) (data : List Nat) (force : Bool) :
    TlshO.step lcap s (.call data force) = TlshO.step lcap (TlshO.init s.cfg) (.call data force) :=
  Lemmas.ObjectsSound.tlsh_reinit lcap s _ rfl

open Model.Objects in
/-- … in particular after ANY history of public calls (`update`, `final`, `digest`, `from_hash`, `reset`, other calls) from
    ANY starting state -/
theorem tlsh_call_ignores_history (lcap : Nat → Nat) (s : TlshO.State) (hist : List TlshO.Op) (data : List Nat) (force : Bool) :
    (TlshO.step lcap (hist.foldl (fun st op => (TlshO.step lcap st op).1) s) (.call data force)).2
      = (TlshO.step lcap (TlshO.init s.cfg) (.call data force)).2 :=
  Lemmas.History.out_run' (Lemmas.ObjectsSound.tlsh_sound lcap) (fun _ _ => rfl) s trivial trivial hist (fun _ _ => trivial)
    (.call data force) rfl trivial

open Model.Objects in
/-- … and that result is the one-shot function `Model.Tlsh.tlsh` of the configuration and the call's own arguments (the function
    the `tlsh` / `tlsh.calls` lines compare with the real code, which `tlsh_refines` equates with Spec.Tlsh).
    (`Proofs.Lemmas.TlshCall.resOf` maps `.ok (some d)` / `.ok none` / `.error e` to bytes / None / the exception.) -/
theorem tlsh_call_is_oneshot (lcap : Nat → Nat) (s : TlshO.State) (hc : s.cfg.valid = true) (data : List Nat) (force : Bool) :
    (TlshO.step lcap s (.call data force)).2 = Lemmas.TlshCall.resOf (tlsh lcap s.cfg data force) :=
  Lemmas.TlshCall.call_eq_tlsh lcap s hc data force

/-- Nilsimsa: `obj(data)` on an object in ANY state (a dangling `update`, an `update` that stopped half way) returns the
    one-shot digest of `data` and leaves a new object -/
theorem nilsimsa_call_ignores_history (target : Nat) (s : Nilsimsa.St) (data : List Nat) :
    Nilsimsa.stepOp (Nilsimsa.maketran target) s (.c data) = (Nilsimsa.St.init, some (Nilsimsa.nilsimsa target data)) := rfl

/-- (non-vacuity, computed in the kernel: Proofs/C19/Calls.lean) -/
example (lcap : Nat → Nat) (c : Cfg) (d : List Nat) (f : Bool) := tlsh_call_ignores_state lcap (Model.Objects.TlshO.init c) d f

/-! ## Non-vacuity: the hypothesis sets are inhabited by non-trivial instances -/

example : (⟨128, 5, 1⟩ : Cfg).valid = true := by decide
example : (⟨48, 8, 3⟩ : Cfg).valid = true := by decide
example : ObjWF ⟨48, 5, 1⟩ ⟨1, [0xa7], 0x0e, 8, 12, [0, 56, 255, 56, 232, 64, 60, 34, 160, 34, 136, 1]⟩ :=
  ⟨rfl, rfl, by decide, by decide, by decide, by decide, rfl, by decide⟩
example : ([0xa7, 0xe0, 0x08, 0xcf, 0, 0x38, 0xff, 0x38, 0xe8, 0x40, 0x3c, 0x22, 0xa0, 0x22, 0x88] : List Nat).length
    = (⟨48, 5, 1⟩ : Cfg).chklen + 2 + (⟨48, 5, 1⟩ : Cfg).buckets / 4 := rfl
example : ∃ t, resolve (.raw [0xa7, 0xe0, 0x08, 0xcf, 0, 0x38, 0xff, 0x38, 0xe8, 0x40, 0x3c, 0x22, 0xa0, 0x22, 0x88]) = .ok (some t) :=
  ⟨_, rfl⟩
example : Nilsimsa.distance [0x80, 0x01] [0x01, 0x01] = .ok 2 := by
  rw [nilsimsa_distance_hamming [0x80, 0x01] [0x01, 0x01] rfl (by decide) (by decide)]; rfl

/-- an explicit bucket array with quartiles (29,39,50) — the pair 29/50 where `q/q3*100` evaluated in floating point is
    57.99999999999999 — passes both gates, and the model's Q nibbles are ⌊58⌋ mod 16 = 10 and ⌊78⌋ mod 16 = 14 -/
example : (finalOf (fun _ => 0) ⟨128, 5, 1⟩
    ⟨[0], List.replicate 32 29 ++ List.replicate 32 39 ++ List.replicate 32 50 ++ List.replicate 32 51 ++ List.replicate 128 0⟩
    300 false).toOption.map (·.map fun o => (o.q1, o.q2)) = some (some (10, 14)) := by decide +kernel

end Proofs.C19
