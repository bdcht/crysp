/-
  C13 (BLAKE part) — HMAC over the BLAKE-224/256/384/512 objects equals RFC 2104 over the BLAKE submission's hash.
  Code side: the model of the real `Blake(n)` object; specification side: the submission's BLAKE-n (`Spec.Blake.hash`,
  zero salt, whole bytes).  `Pair c V` is (Blake(n), BLAKE-n) for n = 224, 256, 384, 512;
  `c.blocksize` is the object's `blocksize` attribute (bits) that `HMAC.setkey/__call__` read.
-/
import Proofs.Lemmas.BlakeHmac
import Proofs.C13
namespace Proofs.C13_Blake
open Model Model.Hmac Proofs.Lemmas

/-- `HMAC(Blake(n),key)(msg)` of the model (crysp/hmac.py over the model of the real BLAKE
    object, called as HMAC calls it: default salt, no bit length) is RFC 2104's
    `H((K0 ⊕ opad) ‖ H((K0 ⊕ ipad) ‖ msg))` with H = BLAKE-n of the submission and B = 64 / 128 bytes, for every key
    (empty, shorter than, equal to, longer than the block) and every message. -/
theorem hmac_refines_blake {c : Blake.Cfg} {V : Spec.Blake.Variant} (h : BlakeEnd.Pair c V) (key msg : List Nat)
    (hkey : ∀ x ∈ key, x < 256) (hmsg : ∀ x ∈ msg, x < 256) :
    Hmac.hmac (fun m => Blake.call c m 0 none) c.blocksize key msg
      = .ok (Spec.rfc2104 (fun m => Spec.Blake.hash V m (8 * m.length) 0) (c.blocksize / 8) key msg) :=
  BlakeHmac.hmac_blake h key msg hkey hmsg

/-- the hash HMAC sees: on byte strings the call of the model of `Blake(n)` is the submission's BLAKE-n -/
theorem blake_hash_on_bytes {c : Blake.Cfg} {V : Spec.Blake.Variant} (h : BlakeEnd.Pair c V) (m : List Nat)
    (hm : ∀ x ∈ m, x < 256) :
    Blake.call c m 0 none = .ok (Spec.Blake.hash V m (8 * m.length) 0) :=
  BlakeHmac.blake_on_bytes h m hm

/-- RFC 2104's standing assumptions hold for the four BLAKE objects: the block is a whole, positive number of bytes
    (64 / 128) and the digest fits into a block, so a hashed long key can be zero-padded -/
theorem blake_hmac_geometry {c : Blake.Cfg} {V : Spec.Blake.Variant} (h : BlakeEnd.Pair c V) :
    c.blocksize = 8 * (c.blocksize / 8) ∧ 0 < c.blocksize / 8 ∧ V.out ≤ c.blocksize / 8 ∧
    ∀ m, (Spec.Blake.hash V m (8 * m.length) 0).length ≤ V.out :=
  ⟨(BlakeEnd.pair_geo h).whole, (BlakeEnd.pair_geo h).pos, (BlakeEnd.pair_geo h).outBlock, BlakeHmac.specFn_length_le V⟩

/-- |K| > B over BLAKE: the key material is BLAKE-n(K) zero-padded to the block (the long-key branch of `setkey`) -/
theorem key_long_blake {c : Blake.Cfg} {V : Spec.Blake.Variant} (h : BlakeEnd.Pair c V) (key : List Nat)
    (hkey : ∀ x ∈ key, x < 256) (hl : c.blocksize / 8 < key.length) :
    Hmac.setkey { blocksize := c.blocksize } (fun m => Blake.call c m 0 none) key
      = .ok { blocksize := c.blocksize,
              K := some (Spec.Blake.hash V key (8 * key.length) 0
                          ++ List.replicate (c.blocksize / 8 - (Spec.Blake.hash V key (8 * key.length) 0).length) 0) } := by
  have hk := Lemmas.Hmac.setkey_eq (fun m => Blake.call c m 0 none) (BlakeHmac.specFn V) (c.blocksize / 8) key
    (fun _ => BlakeHmac.blake_on_bytes h key hkey)
  rw [← (BlakeEnd.pair_geo h).whole] at hk
  simp only [hk, Spec.hmacKey, gt_iff_lt, hl, if_true, BlakeHmac.specFn]

/-- The Blake object handed to HMAC may have ANY history — a salted one-shot call, a salted
    stream finished or abandoned, a refused call: `s` is any object state, its salt words included — and the MAC is still
    RFC 2104 over the UNSALTED BLAKE-n: `self.h(x)` is `initstate(salt=0)` + `update(x,padding=True)`, and `initstate`
    builds the salt words from its argument every time.  (`σ`, `wrap`: whatever the caller keeps of the object.) -/
theorem hmac_after_history_blake {c : Blake.Cfg} {V : Spec.Blake.Variant} (h : BlakeEnd.Pair c V) {σ : Type}
    (wrap : Blake.State → σ) (s : σ) (key msg : List Nat) (hkey : ∀ x ∈ key, x < 256) (hmsg : ∀ x ∈ msg, x < 256) :
    (HmacObj.hmac (fun (_ : σ) x => (wrap (Blake.update c (Blake.initstate c 0) x none true).1,
                                      (Blake.update c (Blake.initstate c 0) x none true).2)) c.blocksize s key msg).2.2
      = .ok (Spec.rfc2104 (fun m => Spec.Blake.hash V m (8 * m.length) 0) (c.blocksize / 8) key msg) := by
  exact (Proofs.C13.hmac_history_free
      (fun (_ : σ) x => (wrap (Blake.update c (Blake.initstate c 0) x none true).1,
                         (Blake.update c (Blake.initstate c 0) x none true).2))
      (fun m => Blake.call c m 0 none) (fun _ _ => rfl) c.blocksize s key msg).trans
    (hmac_refines_blake h key msg hkey hmsg)

/-- the salt of an earlier use is not an input of the next `initstate`: the state a call starts from is a function of the
    configuration and of THIS call's salt alone -/
theorem blake_call_ignores_history (c : Blake.Cfg) (salt : Nat) (M : List Nat) (bitlen : Option Nat) :
    Blake.call c M salt bitlen = (Blake.update c (Blake.initstate c salt) M bitlen true).2 ∧
    (Blake.initstate c 0).salt = Blake.saltWords c.wsize 0 := ⟨rfl, rfl⟩

/-! non-vacuity -/
example : BlakeEnd.Pair Blake.blake256 Spec.Blake.blake256 := Or.inr (Or.inl ⟨rfl, rfl⟩)
example : BlakeEnd.Pair Blake.blake384 Spec.Blake.blake384 := Or.inr (Or.inr (Or.inl ⟨rfl, rfl⟩))
example : ∃ key : List Nat, (∀ x ∈ key, x < 256) ∧ Blake.blake224.blocksize / 8 < key.length :=
  ⟨List.replicate 65 0xaa, by intro x hx; rw [List.mem_replicate] at hx; omega, by decide⟩

end Proofs.C13_Blake
