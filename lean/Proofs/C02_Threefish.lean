/-
  C02 (Threefish part) — Threefish-256/512/1024 encrypt/decrypt exactly as Skein 1.3 (section 3.3) defines;
  keys, tweaks and blocks of sizes the algorithm does not define are rejected.

  Model.Threefish mirrors crysp/threefish.py on Model.Bits; Spec.Threefish is the standard on BitVec 64.
  `IsBytes s` (every element < 256) is the only hypothesis on inputs: it is what a Python `bytes` object is.
  `ofBV x` is the 64-bit Bits object with value x.
-/
import Proofs.Lemmas.TfEnd
namespace Proofs.C02_Threefish
open Model Proofs.Lemmas.TfBridge Proofs.Lemmas.TfBytes Proofs.Lemmas.TfRefine Proofs.Lemmas
open Spec.Threefish (W bytesToWords wordsToBytes)

/-! ### the tables and constants the live code reads (Model.Gen.Threefish) = the specification's -/

/-- word permutations π for Nw = 4, 8, 16 = Table 3 -/
theorem pi_eq_spec :
    Gen.Threefish.pi4 = Spec.Threefish.pi 4 ∧ Gen.Threefish.pi8 = Spec.Threefish.pi 8 ∧ Gen.Threefish.pi16 = Spec.Threefish.pi 16 :=
  TfRefine.pi_eq

/-- the inverse permutations computed by the constructor = the inverses of Table 3 -/
theorem piinv_eq_spec :
    Gen.Threefish.piinv4 = Spec.Threefish.piInv 4 ∧ Gen.Threefish.piinv8 = Spec.Threefish.piInv 8 ∧
    Gen.Threefish.piinv16 = Spec.Threefish.piInv 16 := TfRefine.piinv_eq

/-- rotation constants R_{d,j}: 8×2, 8×4, 8×8 = Table 4 -/
theorem rot_eq_spec :
    Gen.Threefish.rot4 = Spec.Threefish.R 4 ∧ Gen.Threefish.rot8 = Spec.Threefish.R 8 ∧ Gen.Threefish.rot16 = Spec.Threefish.R 16 :=
  TfRefine.rot_eq

/-- the key-schedule parity constant read back from the live object (all three sizes) = C240 -/
theorem c240_eq_spec :
    Gen.Threefish.c240_4 = Spec.Threefish.C240.toNat ∧ Gen.Threefish.c240_8 = Spec.Threefish.C240.toNat ∧
    Gen.Threefish.c240_16 = Spec.Threefish.C240.toNat := TfRefine.c240_eq

/-- numbers of rounds 72, 72, 80 -/
theorem nr_eq_spec :
    Gen.Threefish.nr4 = Spec.Threefish.Nr 4 ∧ Gen.Threefish.nr8 = Spec.Threefish.Nr 8 ∧ Gen.Threefish.nr16 = Spec.Threefish.Nr 16 :=
  TfRefine.nr_eq

/-- the context the gen item probes `__ks` with: one-hot tag words instead of key/tweak words.  Key word j is tagged at
    bit 25 + 2j (≤ 57), tweak word i at bit 60 + i, all above the subkey numbers s ≤ 20 that are added: a subkey word is
    one key word, plus a tweak word or s, so nothing carries and the sum shows which indices went into it -/
def probeCtx (nw : Nat) : Threefish.Ctx :=
  { K := ⟨0, 64 * nw⟩, T := ⟨0, 128⟩, Nw := nw, Nr := Threefish.nrOf nw, pi := [], piinv := [], R := [],
    k := (List.range (nw + 1)).map fun j => ⟨2 ^ (25 + 2 * j), 64⟩,
    t := [⟨2 ^ 60, 64⟩, ⟨2 ^ 61, 64⟩, ⟨2 ^ 62, 64⟩] }

/-- value a probed entry [key index, tweak index (3 = none), added integer] stands for -/
def probeVal (e : List Nat) : Nat :=
  2 ^ (25 + 2 * e.getD 0 0) + (if e.getD 1 3 < 3 then 2 ^ (60 + e.getD 1 3) else 0) + e.getD 2 0

def ksProbeOf (nw : Nat) : List (List (List Nat)) :=
  if nw = 4 then Gen.Threefish.ksProbe4 else if nw = 8 then Gen.Threefish.ksProbe8 else Gen.Threefish.ksProbe16

/-- the index expressions of `Model.Threefish.ks` reproduce the index structure probed from the live `__ks`
    for every round number the ciphers use (s = 0 .. Nr/4) and the three sizes -/
theorem ks_index_eq_probed :
    ∀ nw ∈ [4, 8, 16], ∀ s < Threefish.nrOf nw / 4 + 1,
      (Threefish.ks (probeCtx nw) s).map (·.ival) = ((ksProbeOf nw).getD s []).map probeVal := by
  decide +kernel

/-! ### component refinements, for every context the constructor can build -/

/-- MIX: `__MIX(x0,x1,d,j)` = MIX_{d,j} of the specification, all words, all rounds d, all j -/
theorem mix_refines (key tweak : List Nat) (hk : IsBytes key) (ht : IsBytes tweak) (c : Threefish.Ctx)
    (hc : Threefish.init key tweak = .ok c) (x0 x1 : W) (d j : Nat) (hj : j < c.Nw / 2) :
    Threefish.mix c (ofBV x0) (ofBV x1) d j = (Spec.Threefish.mix (Spec.Threefish.rot c.Nw d j) x0 x1).map ofBV := by
  obtain ⟨_, _, hrel⟩ := TfEnd.rel_of_init key tweak hk ht c hc
  rw [hrel.hNw]
  exact TfRefine.mix_refines hrel x0 x1 d j

/-- the word permutation step `v[i] = f[pi[i]]` = v_{d+1,i} = f_{d,π(i)} -/
theorem permute_refines (key tweak : List Nat) (hk : IsBytes key) (ht : IsBytes tweak) (c : Threefish.Ctx)
    (hc : Threefish.init key tweak = .ok c) (f : List W) :
    ((List.range c.Nw).map fun i => (f.map ofBV).getD (c.pi.getD i 0) Threefish.z64) =
      (Spec.Threefish.permute (Spec.Threefish.pi (key.length / 8)) (key.length / 8) f).map ofBV := by
  obtain ⟨_, _, hrel⟩ := TfEnd.rel_of_init key tweak hk ht c hc
  rw [hrel.hpi]; exact TfRefine.permute_refines hrel _ f

/-- key schedule: `__ks(s)` = the subkey k_s built from C240, the key words and the tweak words, every round number s < 2^64 -/
theorem ks_refines (key tweak : List Nat) (hk : IsBytes key) (ht : IsBytes tweak) (c : Threefish.Ctx)
    (hc : Threefish.init key tweak = .ok c) (s : Nat) (hs : s < 2 ^ 64) :
    Threefish.ks c s = (Spec.Threefish.subkeys (key.length / 8) (Spec.Threefish.keyExt (bytesToWords key))
        (Spec.Threefish.tweakExt (bytesToWords tweak)) s).map ofBV := by
  obtain ⟨_, _, hrel⟩ := TfEnd.rel_of_init key tweak hk ht c hc
  exact TfRefine.ks_refines hrel s hs

/-- one round of the encryption loop = v_d ↦ v_{d+1} -/
theorem round_refines (key tweak : List Nat) (hk : IsBytes key) (ht : IsBytes tweak) (c : Threefish.Ctx)
    (hc : Threefish.init key tweak = .ok c) (v : List W) (d : Nat) (hd : d < 2 ^ 64) :
    Threefish.encRound c (v.map ofBV) d = (Spec.Threefish.round (key.length / 8) (Spec.Threefish.keyExt (bytesToWords key))
        (Spec.Threefish.tweakExt (bytesToWords tweak)) v d).map ofBV := by
  obtain ⟨_, _, hrel⟩ := TfEnd.rel_of_init key tweak hk ht c hc
  exact TfRefine.encRound_refines hrel v d hd

/-- Threefish(key,tweak).enc(block) is the standard's ciphertext, for EVERY key, tweak and block: on the sizes the
    standard defines (32/64/128-byte key, 16-byte tweak, block as long as the key) the result is `Spec.Threefish.enc`,
    on every other size the call is rejected (`Spec.Threefish.enc` is `none` exactly there). -/
theorem enc_refines (key tweak block : List Nat) (hk : IsBytes key) (ht : IsBytes tweak) (hb : IsBytes block) :
    (Threefish.encrypt key tweak block).toOption = Spec.Threefish.enc key tweak block := by
  cases hs : Spec.Threefish.sizesOk key tweak block with
  | true => rw [TfEnd.encrypt_ok key tweak block hk ht hb hs]; simp [Spec.Threefish.enc, hs, Except.toOption]
  | false =>
    obtain ⟨e, he, _⟩ := TfEnd.encrypt_decrypt_reject key tweak block hk ht hb hs
    rw [he]; simp [Spec.Threefish.enc, hs, Except.toOption]

/-- Threefish(key,tweak).dec(block) likewise -/
theorem dec_refines (key tweak block : List Nat) (hk : IsBytes key) (ht : IsBytes tweak) (hb : IsBytes block) :
    (Threefish.decrypt key tweak block).toOption = Spec.Threefish.dec key tweak block := by
  cases hs : Spec.Threefish.sizesOk key tweak block with
  | true => rw [TfEnd.decrypt_ok key tweak block hk ht hb hs]; simp [Spec.Threefish.dec, hs, Except.toOption]
  | false =>
    obtain ⟨_, _, e, he⟩ := TfEnd.encrypt_decrypt_reject key tweak block hk ht hb hs
    rw [he]; simp [Spec.Threefish.dec, hs, Except.toOption]

/-- `Spec.Threefish.dec` is the standard's decryption: the inverse map of the standard's encryption, both ways
    (so `dec_refines` says: dec returns the plaintext the standard assigns to the ciphertext block) -/
theorem spec_dec_is_inverse (key tweak block : List Nat) (hb : IsBytes block)
    (hs : Spec.Threefish.sizesOk key tweak block = true) :
    (Spec.Threefish.enc key tweak block >>= Spec.Threefish.dec key tweak) = some block ∧
    (Spec.Threefish.dec key tweak block >>= Spec.Threefish.enc key tweak) = some block := by
  obtain ⟨hkl, htl, hbl⟩ := (TfEnd.sizesOk_iff _ _ _).1 hs
  have a := TfEnd.bytes_inv (TfInverse.enc_inv (TfEnd.valid_of_len hkl) (bytesToWords key) (bytesToWords tweak))
  have hb' : NBytes (8 * (key.length / 8)) block := ⟨hb, by omega⟩
  have s1 := TfEnd.sizes_block hkl htl (a.st hb').1
  have s2 := TfEnd.sizes_block hkl htl (a.st hb').2
  constructor
  · simp only [Spec.Threefish.enc, hs, ite_true, Option.bind_eq_bind, Option.bind_some, Spec.Threefish.dec, s1]
    rw [(a.undo hb').1]
  · simp only [Spec.Threefish.enc, hs, ite_true, Option.bind_eq_bind, Option.bind_some, Spec.Threefish.dec, s2]
    rw [(a.undo hb').2]

/-- size rejection spelled out: anything but a 32/64/128-byte key, a 16-byte tweak and a block as long as the key raises -/
theorem size_rejected (key tweak block : List Nat) (hk : IsBytes key) (ht : IsBytes tweak) (hb : IsBytes block)
    (hbad : ¬ ((key.length = 32 ∨ key.length = 64 ∨ key.length = 128) ∧ tweak.length = 16 ∧ block.length = key.length)) :
    (∃ e, Threefish.encrypt key tweak block = .error e) ∧ (∃ e, Threefish.decrypt key tweak block = .error e) := by
  have hs : Spec.Threefish.sizesOk key tweak block = false := by
    cases h : Spec.Threefish.sizesOk key tweak block with
    | false => rfl
    | true => exact absurd ((TfEnd.sizesOk_iff _ _ _).1 h) hbad
  obtain ⟨e, he, e', he'⟩ := TfEnd.encrypt_decrypt_reject key tweak block hk ht hb hs
  exact ⟨⟨e, he⟩, ⟨e', he'⟩⟩

/-! ### non-vacuity: the hypotheses are inhabited by non-trivial instances -/

example : IsBytes (List.replicate 32 0xA5) ∧ IsBytes (List.range 16) ∧
    Spec.Threefish.sizesOk (List.replicate 32 0xA5) (List.range 16) (List.range 32) = true := by
  refine ⟨?_, ?_, by decide⟩
  · exact Bytes.AllBytes.replicate (by decide) _
  · intro b hb; have := List.mem_range.1 hb; omega

example : ∃ c, Threefish.init (List.replicate 64 1) (List.replicate 16 2) = .ok c ∧ c.Nw = 8 := by
  have hb1 : IsBytes (List.replicate 64 1) := Bytes.AllBytes.replicate (by decide) _
  have hb2 : IsBytes (List.replicate 16 2) := Bytes.AllBytes.replicate (by decide) _
  obtain ⟨c, hc, _, hrel⟩ := TfEnd.init_rel _ _ hb1 hb2 (by simp) (by simp)
  exact ⟨c, hc, by rw [hrel.hNw]; simp⟩

end Proofs.C02_Threefish
