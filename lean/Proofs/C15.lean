/-
  C15 — CRC-32 equals the standard; the generic table-driven CRC equals bit-serial polynomial division; the CRC
  forging helpers hit any requested target; the backward computation inverts the forward one.

  Byte strings are `List Nat` with every element < 256 (hypothesis `Bytes`).  A reflected polynomial of width w is a
  `Bits` value P with `P.WF` (ival < 2^size); the forward theorems need 8 ≤ P.size and nothing else about P, the
  backward ones also that the top bit of P (the x^0 coefficient) is set.
-/
import Model.Crc
import Spec.Crc
import Proofs.Lemmas.CrcLin
import Proofs.Lemmas.CrcModel
import Proofs.Lemmas.Crc32
import Proofs.Lemmas.CrcBack
namespace Proofs.C15
open Model Model.Crc Proofs.Lemmas.CrcLin Proofs.Lemmas.CrcModel Proofs.Lemmas.CrcBack Proofs.Lemmas.Crc32
open Spec.Crc (register)
open Proofs.Lemmas.Bits (xor_cancel_left xor_cancel_right)
open Proofs.Lemmas.Bytes (leBytes_allBytes leBytes_length)

def Bytes (data : List Nat) : Prop := ∀ b ∈ data, b < 256

/-- POLY32_1 / POLY32_1i of the current source are the CRC-32 polynomial 0xEDB88320 and x^-32 mod it, 32 bits wide -/
theorem POLY32_standard : POLY32_1 = ⟨0xEDB88320, 32⟩ ∧ POLY32_1i = ⟨0x5B358FD3, 32⟩ := ⟨poly_eq, polyi_eq⟩

/-- the forward table read from the live module is `crc_table` of the polynomial read from the live module
    (all 256 entries, sizes included; kernel enumeration) -/
theorem TABLE32_1_generated : TABLE32_1 = crcTable POLY32_1 := table_gen

/-- likewise the backward table (a dict 0..255) is `crc_back_table(POLY32_1)` -/
theorem TABLE32_1b_generated : crcBackTable POLY32_1 = .ok TABLE32_1b := by
  rw [crcBackTable_eq POLY32_1 (by decide), backTable_gen]

/-- every entry of `crc_table(P)` is eight bit-steps of the bit-serial definition applied to its index (eight zero
    message bits), for every polynomial of every width ≥ 8 — symbolic in P -/
theorem table_entry (P : Bits) (hP : P.WF) (hw : 8 ≤ P.size) (n : Nat) (hn : n < 256) :
    (crcTable P)[n]? = some ⟨(List.replicate 8 false).foldl (Spec.Crc.bitIn P.ival) n, P.size⟩ := by
  rw [foldl_zero_bits, ← tableEntry_eq P hP hw n hn, crcTable, List.getElem?_map, List.getElem?_range hn]
  rfl

theorem table_length (P : Bits) : (crcTable P).length = 256 := by simp [crcTable]

/-- for every reflected polynomial P of width ≥ 8, every initial value and final xor value (absent, zero
    or not), the table-driven `crc(data, crc_table(P), init, final)` is the bit-serial division of Spec.Crc -/
theorem crc_refines (P : Bits) (hP : P.WF) (hw : 8 ≤ P.size) (init : Nat) (final : Option Nat)
    (data : List Nat) (hd : Bytes data) :
    Model.Crc.crc data (crcTable P) (init : Int) (final.map Int.ofNat)
      = .ok (Spec.Crc.crc P.ival P.size init (final.getD 0) data) :=
  crc_eq P hP hw init final data hd

/-- `crc32` is the ISO-HDLC/zlib CRC-32 on every byte string -/
theorem crc32_spec (data : List Nat) (hd : Bytes data) : Model.Crc.crc32 data = .ok (Spec.Crc.crc32 data) := by
  rw [crc32_eq data hd]; rfl

/-- every entry of `crc_back_table(P)` is the 8-step preimage of its index placed in the top byte: eight bit-steps of
    the bit-serial definition (zero message bits) applied to entry n give `n << (w-8)` — for every reflected polynomial
    whose top bit (the x^0 coefficient) is set, every width ≥ 8 -/
theorem back_table_entry (P : Bits) (hP : P.WF) (hw : 8 ≤ P.size) (htop : P.ival.testBit (P.size - 1) = true)
    (n : Nat) (hn : n < 256) :
    ∃ tb e, crcBackTable P = .ok tb ∧ tb.length = 256 ∧ tb[n]? = some ⟨e, P.size⟩ ∧ e < 2 ^ P.size
      ∧ (List.replicate 8 false).foldl (Spec.Crc.bitIn P.ival) e = n <<< (P.size - 8) := by
  refine ⟨_, bsteps P.ival P.size 8 (n <<< (P.size - 8)), crcBackTable_eq P hw, by simp, ?_, ?_, ?_⟩
  · rw [List.getElem?_map, List.getElem?_range hn]
    simp only [Option.map_some]
    rw [backEntry_eq P hw n hn]
  · exact bsteps_lt _ _ 8 _ (by omega) (shl_top_lt n P.size hn hw)
  · rw [foldl_zero_bits]
    exact steps_bsteps P.ival P.size (by omega) hP htop 8 _ (shl_top_lt n P.size hn hw)

/-- for every reflected polynomial whose top bit is set, every final xor value, every start register r0 and
    every position, `crc_back_pos(data,pos,crc_back_table(P),Xfinal,c)` run from the value c the forward computation
    reaches over `data[pos:]` returns exactly r0 -/
theorem back_inverts_forward_generic (P : Bits) (hP : P.WF) (hw : 8 ≤ P.size)
    (htop : P.ival.testBit (P.size - 1) = true) (data : List Nat) (hd : Bytes data) (pos : Nat)
    (hpos : pos < data.length) (xfinal : Nat) (hx : xfinal < 2 ^ P.size) (r0 : Nat) (hr : r0 < 2 ^ P.size) :
    ∃ tb, crcBackTable P = .ok tb ∧
      crcBackPos data (pos : Int) tb (xfinal : Int)
        ((Spec.Crc.register P.ival r0 (data.drop pos) ^^^ xfinal : Nat) : Int) = .ok (some r0) :=
  ⟨_, crcBackTable_eq P hw, crcBackPos_register P hP hw htop data hd pos hpos xfinal hx r0 hr⟩

/-- for every w-bit value c, `crc_back_pos` returns a w-bit register from which the
    forward computation over `data[pos:]` (final xor applied) gives c -/
theorem forward_inverts_back_generic (P : Bits) (hP : P.WF) (hw : 8 ≤ P.size)
    (htop : P.ival.testBit (P.size - 1) = true) (data : List Nat) (hd : Bytes data) (pos : Nat)
    (hpos : pos < data.length) (xfinal : Nat) (hx : xfinal < 2 ^ P.size) (c : Nat) (hc : c < 2 ^ P.size) :
    ∃ tb R, crcBackTable P = .ok tb ∧ crcBackPos data (pos : Int) tb (xfinal : Int) (c : Int) = .ok (some R)
      ∧ R < 2 ^ P.size ∧ Spec.Crc.register P.ival R (data.drop pos) ^^^ xfinal = c := by
  obtain ⟨R, h⟩ := crcBackPos_preimage P hP hw htop data hd pos hpos xfinal hx c hc
  exact ⟨_, R, crcBackTable_eq P hw, h⟩

/-- CRC-32: for every start register r0, running `crc_back_pos` from the value the forward
    computation reaches over `data[pos:]` (final xor applied) returns exactly r0 -/
theorem back_inverts_forward (data : List Nat) (hd : Bytes data) (pos : Nat) (hpos : pos < data.length)
    (r0 : Nat) (hr : r0 < 2 ^ 32) :
    crc32BackPos data (pos : Int) ((Spec.Crc.register 0xEDB88320 r0 (data.drop pos) ^^^ 0xffffffff : Nat) : Int)
      = .ok (some r0) := by
  have h := crcBackPos_register ⟨P32, 32⟩ poly_wf (by decide) (by decide) data hd pos hpos M32 (by decide) r0 hr
  rw [← poly_eq, backTable_gen] at h
  exact h

/-- in the code's own terms: backward from `crc32(data)` to `pos` gives the forward CRC register of `data[:pos]` -/
theorem back_of_crc32 (data : List Nat) (hd : Bytes data) (pos : Nat) (hpos : pos < data.length) :
    ∃ c f, crc32 data = .ok c ∧ Model.Crc.crc (data.take pos) TABLE32_1 0xffffffff = .ok f
      ∧ crc32BackPos data (pos : Int) (c : Int) = .ok (some f) := by
  have hdt : ∀ b ∈ data.take pos, b < 256 := Lemmas.Bytes.AllBytes.take hd pos
  refine ⟨_, _, crc32_eq data hd, crc_T32 _ hdt, ?_⟩
  have hsplit : register P32 M32 data = register P32 (register P32 M32 (data.take pos)) (data.drop pos) := by
    rw [← register_append, List.take_append_drop]
  rw [hsplit]
  exact back_inverts_forward data hd pos hpos _ (reg32_lt _ _ hdt (by decide))

/-- CRC-32: for every 32-bit value c, `crc_back_pos` returns a 32-bit register from which the
    forward computation over `data[pos:]` (final xor applied) gives c -/
theorem forward_inverts_back (data : List Nat) (hd : Bytes data) (pos : Nat) (hpos : pos < data.length)
    (c : Nat) (hc : c < 2 ^ 32) :
    ∃ R, crc32BackPos data (pos : Int) (c : Int) = .ok (some R) ∧ R < 2 ^ 32
      ∧ Spec.Crc.register 0xEDB88320 R (data.drop pos) ^^^ 0xffffffff = c := by
  have h := crcBackPos_preimage ⟨P32, 32⟩ poly_wf (by decide) (by decide) data hd pos hpos M32 (by decide) c hc
  rw [← poly_eq, backTable_gen] at h
  exact h

/-! The forging helpers both write a 32-bit word `w` over four bytes of the input (`patch`); the CRC-32 of the result is
  the register over the prefix, xored with `w`, stepped 32 times and run over the suffix (`crc32_patch`).  `crc32_fix`
  finds `w` by multiplying the wanted register by `x^-32`, `crc32_fix_pos` by running the CRC backwards over the suffix. -/

/-- `crc32_fix` succeeds on every data of at least 4 bytes, changes only the last four bytes,
    and the CRC-32 of the result is the target -/
theorem crc32_fix_hits_target (data : List Nat) (hd : Bytes data) (hlen : 4 ≤ data.length)
    (t : Nat) (ht : t < 2 ^ 32) :
    ∃ out, crc32Fix data t = .ok out ∧ out.length = data.length ∧ Bytes out
      ∧ out.take (data.length - 4) = data.take (data.length - 4)
      ∧ crc32 out = .ok t := by
  have hpre : ∀ b ∈ data.take (data.length - 4), b < 256 := Lemmas.Bytes.AllBytes.take hd _
  have ha : fixLoop P32 Pi32 32 0 (t ^^^ M32) < 2 ^ 32 :=
    fixLoop_lt P32 Pi32 32 (by decide) (by decide) 32 0 _ (by decide)
  have hw := Nat.xor_lt_two_pow ha (reg32_lt M32 _ hpre (by decide))
  have hnil : data.drop (data.length - 4 + 4) = [] := List.drop_eq_nil_of_le (by omega)
  refine ⟨patch data (data.length - 4) (fixLoop P32 Pi32 32 0 (t ^^^ M32) ^^^ register P32 M32 (data.take (data.length - 4))),
    ?_, patch_length _ _ _ (by omega), patch_bytes _ hd _ _, take_patch _ _ _ (by omega), ?_⟩
  · unfold crc32Fix dropLast4
    rw [crc_T32 _ hpre, poly_eq, polyi_eq]
    simp only [bind, Except.bind, packI]
    rw [if_pos hw, patch, hnil, List.append_nil]
    rfl
  · -- the prefix register cancels; 32 steps undo the multiplication by `x^-32`
    rw [crc32_patch _ hd _ _ hw, hnil, register_nil, Nat.xor_comm (fixLoop _ _ _ _ _), xor_cancel_left,
      fixLoop_inv P32 Pi32 32 pi32_steps _ (Nat.xor_lt_two_pow ht (by decide)), xor_cancel_right]

/-- `crc32_fix_pos` succeeds for every position 0 ≤ pos ≤ |data|−4, changes only the bytes
    `[pos, pos+4)`, and the CRC-32 of the result is the target -/
theorem crc32_fix_pos_hits_target (data : List Nat) (hd : Bytes data) (hlen : 4 ≤ data.length)
    (pos : Nat) (hpos : pos ≤ data.length - 4) (t : Nat) (ht : t < 2 ^ 32) :
    ∃ out, crc32FixPos data pos t = .ok out ∧ out.length = data.length ∧ Bytes out
      ∧ out.take pos = data.take pos ∧ out.drop (pos + 4) = data.drop (pos + 4)
      ∧ crc32 out = .ok t := by
  have hpre : ∀ b ∈ data.take pos, b < 256 := Lemmas.Bytes.AllBytes.take hd pos
  have hA := reg32_lt M32 (data.take pos) hpre (by decide)
  -- the backward pass over  pack(c_fw) ++ data[pos+4:]
  have hmid : ∀ b ∈ Py.leBytes 4 (register P32 M32 (data.take pos)) ++ data.drop (pos + 4), b < 256 :=
    (leBytes_allBytes 4 _).append (Lemmas.Bytes.AllBytes.drop hd _)
  have hmidlen : 0 < (Py.leBytes 4 (register P32 M32 (data.take pos)) ++ data.drop (pos + 4)).length := by
    rw [List.length_append, leBytes_length]
    omega
  obtain ⟨R, hR, hRlt, hRreg⟩ := forward_inverts_back _ hmid 0 hmidlen t ht
  refine ⟨patch data pos R, ?_, patch_length _ _ _ (by omega), patch_bytes _ hd _ _, take_patch _ _ _ (by omega),
    drop_patch _ _ _ (by omega), ?_⟩
  · unfold crc32FixPos
    rw [crc_T32 _ hpre]
    simp only [bind, Except.bind, packI]
    rw [if_pos hA]
    simp only []
    have h0 : ((0 : Nat) : Int) = 0 := rfl
    rw [← h0, hR]
    simp only [if_pos hRlt]
    rfl
  · rw [List.drop_zero, register_append, register_leBytes P32 4 _ _ hA] at hRreg
    rw [crc32_patch _ hd _ _ hRlt, Nat.xor_comm _ R]
    exact congrArg Except.ok hRreg

/-! ## non-vacuity -/

example : Bytes [0x31, 0x32, 0x33, 0x34, 0x35, 0x36, 0x37, 0x38, 0x39] := by unfold Bytes; decide
example : (crc32 [0x31, 0x32, 0x33, 0x34, 0x35, 0x36, 0x37, 0x38, 0x39]).toOption = some 0xCBF43926 := by decide +kernel
example : (⟨0xA001, 16⟩ : Bits).WF ∧ 8 ≤ (⟨0xA001, 16⟩ : Bits).size ∧ (0xA001 : Nat).testBit (16 - 1) = true := by decide
example : (crc32Fix [1, 2, 3, 4, 5, 6] 0xdeadbeef).toOption = some [1, 2, 81, 154, 232, 176] := by decide +kernel
example : (crc32FixPos [1, 2, 3, 4, 5, 6] 1 0xdeadbeef).toOption = some [1, 61, 108, 183, 142, 6] := by decide +kernel
example : (crc32 [1, 61, 108, 183, 142, 6]).toOption = some 0xdeadbeef := by decide +kernel

end Proofs.C15
