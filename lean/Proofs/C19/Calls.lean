/-
  C19 — non-vacuity of `Proofs.C19.tlsh_call_ignores_state` / `tlsh_call_ignores_history`, computed in the kernel: the state
  that the first call leaves behind on the object model `Model.Objects.TlshO`, the digest on the one-shot function.
-/
import Proofs.Lemmas.TlshCall
namespace Proofs.C19.Calls
open Model Model.Tlsh

open Model.Objects in
/-- a 60-byte input without `force` gives no digest but leaves `data_len = 60` and the checksum [199] behind, so the
    state the theorems quantify over is NOT the initial one -/
example :
    let cfg : Cfg := ⟨48, 8, 1⟩
    let short : List Nat := (List.range 60).map fun i => (i * 37 + 11) % 256
    let data : List Nat := (List.range 64).map fun i => (i * i * 7 + i * 13 + 5) % 256
    let r0 := TlshO.step (fun _ => 0) (TlshO.init cfg) (.call short false)
    r0.2.toOption = some .none ∧ r0.1.data_len = 60 ∧ r0.1.checksum = [199] ∧
    (TlshO.step (fun _ => 0) r0.1 (.call data true)).2.toOption
      = some (.bytes [69, 0, 35, 128, 247, 33, 153, 71, 65, 5, 51, 112, 218, 129, 48]) ∧
    (tlsh (fun _ => 0) cfg data true).toOption = some (some [69, 0, 35, 128, 247, 33, 153, 71, 65, 5, 51, 112, 218, 129, 48]) := by
  intro cfg short data r0
  have hc : r0.1.cfg = cfg := rfl
  have h : (tlsh (fun _ => 0) cfg data true).toOption
      = some (some [69, 0, 35, 128, 247, 33, 153, 71, 65, 5, 51, 112, 218, 129, 48]) := by
    decide +kernel
  refine ⟨by decide +kernel, by decide +kernel, by decide +kernel, ?_, h⟩
  -- the digest is computed once: the call on the used object is the one-shot function
  rw [Proofs.Lemmas.TlshCall.call_eq_tlsh _ _ (by rw [hc]; decide), hc]
  cases ht : tlsh (fun _ => 0) cfg data true with
  | error e =>
    rw [ht] at h
    cases h
  | ok v =>
    rw [ht] at h
    cases h
    rfl

end Proofs.C19.Calls
