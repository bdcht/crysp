/-
  C02 (Serpent part) — Serpent encrypts/decrypts exactly as the AES submission defines, for every key of up to
  256 bits and every block; over-long keys and blocks that are not 128 bits are rejected.

  Model.Serpent mirrors crysp/serpent.py over Model.Bits (tables/constants regenerated from the source into
  Model.Gen.Serpent); Spec.Serpent is the bitslice definition of the submission.  A 128-bit `Bits` X corresponds
  to the state `stateOfNat X.ival` (words X0..X3); `natOfState` is the inverse.
-/
import Proofs.Lemmas.SerpentBytes
namespace Proofs.C02_Serpent
open Model Model.Bits Spec.Serpent Proofs.Lemmas
open Proofs.Lemmas.SerpentBits Proofs.Lemmas.SerpentComp Proofs.Lemmas.SerpentSpec Proofs.Lemmas.SerpentKS
open Proofs.Lemmas.SerpentEnc Proofs.Lemmas.SerpentBytes Proofs.Lemmas.SerpentStdPerm

/-- the 8 S-boxes probed from the current source (complete behaviour on all 16 values) are the submission's -/
theorem sbox_eq_spec : Model.Gen.Serpent.sbox = Spec.Serpent.sboxTable := gen_sbox_eq

/-- the 8 probed inverse boxes are the inverses (by position search) of the submission's S-boxes, all 16 values -/
theorem sboxInv_eq_spec : ∀ i < 8, ∀ y < 16,
    (Model.Gen.Serpent.sboxInv.getD i []).getD y 0 = Spec.Serpent.sboxInv i y := gen_sboxInv_eq

/-- `_IP` (128 probed entries) is the submission's rule 32·j mod 127, i.e. the 4×32 bit transpose -/
theorem ip_eq_spec : ∀ j < 128, Model.Gen.Serpent.ipTable.getD j 0 = Spec.Serpent.ipSrc j ∧
    Spec.Serpent.ipSrc j = 32 * (j % 4) + j / 4 := by
  intro j hj
  rw [gen_ipTable, ipTable_getD j hj]
  exact ⟨(ipSrc_eq j hj).symm, ipSrc_eq j hj⟩

/-- `_FP` (128 probed entries) is the rule 4·j mod 127, the 32×4 transpose -/
theorem fp_eq_spec : ∀ j < 128, Model.Gen.Serpent.fpTable.getD j 0 = Spec.Serpent.fpSrc j ∧
    Spec.Serpent.fpSrc j = 4 * (j % 32) + j / 32 := by
  intro j hj
  rw [gen_fpTable, fpTable_getD j hj]
  exact ⟨(fpSrc_eq j hj).symm, fpSrc_eq j hj⟩

theorem ip_fp_lengths : Model.Gen.Serpent.ipTable.length = 128 ∧ Model.Gen.Serpent.fpTable.length = 128 := by
  rw [gen_ipTable, gen_fpTable]
  exact ⟨ipTable_length, fpTable_length⟩

/-- the literal rotation/shift amounts of `_L`/`_Linv` and the words they act on, in order of appearance -/
theorem lt_constants :
    Model.Gen.Serpent.lRot = [13, 3, 1, 7, 5, 22] ∧ Model.Gen.Serpent.lRotIdx = [0, 2, 1, 3, 0, 2] ∧
    Model.Gen.Serpent.lShift = [3, 7] ∧ Model.Gen.Serpent.lShiftIdx = [0, 1] ∧
    Model.Gen.Serpent.linvRot = [22, 5, 7, 1, 3, 13] ∧ Model.Gen.Serpent.linvRotIdx = [2, 0, 3, 1, 2, 0] ∧
    Model.Gen.Serpent.linvShift = [7, 3] ∧ Model.Gen.Serpent.linvShiftIdx = [1, 0] := by decide

theorem keyschedule_constants :
    Model.Gen.Serpent.phi = Spec.Serpent.phi ∧ Model.Gen.Serpent.phiSize = 32 ∧
    Model.Gen.Serpent.prekeyOffsets = [-8, -5, -3, -1] ∧ Model.Gen.Serpent.prekeyRot = 11 ∧
    Model.Gen.Serpent.keyWordsRange = [0, 256, 32] ∧ Model.Gen.Serpent.prekeyRange = [132] ∧
    Model.Gen.Serpent.keyschedRange = [35, 2, -1] ∧ Model.Gen.Serpent.blocksize = 128 := by decide

/-- `_IP` is the submission's initial permutation (the rule 32·j mod 127) on every block -/
theorem IP_refines (X : Bits) (hs : X.size = 128) :
    Model.Serpent.IP X = .ok ⟨Spec.Serpent.IP X.ival, 128⟩ := by
  rw [IP_eq X hs, IP_eq_spec]

/-- `_FP` is the submission's final permutation (the rule 4·j mod 127) on every block -/
theorem FP_refines (X : Bits) (hs : X.size = 128) :
    Model.Serpent.FP X = .ok ⟨Spec.Serpent.FP X.ival, 128⟩ := by
  rw [FP_eq X hs, FP_eq_spec]

/-- `_S(i,·)` (IP, 32 table lookups, FP) is the bitslice application of S_i to all 32 columns -/
theorem S_refines (i : Nat) (X : Bits) (hi : i < 8) (hs : X.size = 128) :
    Model.Serpent.S i X = .ok ⟨natOfState (applyBox (sbox i) (stateOfNat X.ival)), 128⟩ := S_eq i hi X hs

theorem Sinv_refines (i : Nat) (X : Bits) (hi : i < 8) (hs : X.size = 128) :
    Model.Serpent.Sinv i X = .ok ⟨natOfState (applyBox (sboxInv i) (stateOfNat X.ival)), 128⟩ := Sinv_eq i hi X hs

theorem L_refines (X : Bits) (hs : X.size = 128) :
    Model.Serpent.L X = .ok ⟨natOfState (lt (stateOfNat X.ival)), 128⟩ := L_eq X hs

theorem Linv_refines (X : Bits) (hs : X.size = 128) :
    Model.Serpent.Linv X = .ok ⟨natOfState (ltInv (stateOfNat X.ival)), 128⟩ := Linv_eq X hs

/-- the constructor: short-key padding (1 then zeros), the prekey recurrence with phi and `rol 11`, and the 33 round
    keys through the S-boxes, for every key of at most 256 bits -/
theorem keyschedule_refines (K : Bits) (hwf : K.WF) (hs : K.size ≤ 256) :
    Model.Serpent.init K = .ok ⟨(roundKeys K.size K.ival).map fun s => ⟨natOfState s, 128⟩⟩ := init_eq K hs hwf

theorem padKey_refines (K : Bits) (hwf : K.WF) (hs : K.size ≤ 256) :
    Model.Serpent.padKey K = .ok ⟨Spec.Serpent.padKey K.size K.ival, 256⟩ := padKey_eq K hs hwf

/-- `Serpent(K).enc(M)` is the submission's ciphertext for every key of at most 256 bits and every block
    (operands as `Bits(·,bitorder=1)` hands them over) -/
theorem enc_refines (K M : Bits) (hK : K.WF) (hKs : K.size ≤ 256) (hM : M.WF) (hMs : M.size = 128) :
    Model.Serpent.enc K M = .ok (leBytes 16 (encNat K.size K.ival M.ival)) := enc_eq K M hK hKs hM hMs

theorem dec_refines (K C : Bits) (hK : K.WF) (hKs : K.size ≤ 256) (hC : C.WF) (hCs : C.size = 128) :
    Model.Serpent.dec K C = .ok (leBytes 16 (decNat K.size K.ival C.ival)) := dec_eq K C hK hKs hC hCs

/-- byte-string interface: every key of 0..32 bytes, every 16-byte block -/
theorem enc_refines_bytes (key block : List Nat) (hk : IsBytes key) (hb : IsBytes block)
    (hkl : key.length ≤ 32) (hbl : block.length = 16) :
    (Model.Serpent.encBytes key block).toOption = Spec.Serpent.enc key block ∧
    (Spec.Serpent.enc key block).isSome := by
  rw [encBytes_eq key block hk hb hkl hbl]
  simp [Spec.Serpent.enc, hkl, hbl, Except.toOption]

theorem dec_refines_bytes (key block : List Nat) (hk : IsBytes key) (hb : IsBytes block)
    (hkl : key.length ≤ 32) (hbl : block.length = 16) :
    (Model.Serpent.decBytes key block).toOption = Spec.Serpent.dec key block ∧
    (Spec.Serpent.dec key block).isSome := by
  rw [decBytes_eq key block hk hb hkl hbl]
  simp [Spec.Serpent.dec, hkl, hbl, Except.toOption]

/-- a key longer than 256 bits is refused by the constructor: `padKey` raises instead of truncating -/
theorem size_rejected_key (K : Bits) (h : 256 < K.size) : ∃ e, Model.Serpent.init K = .error e := by
  unfold Model.Serpent.init Model.Serpent.padKey
  simp [h, bind, Except.bind]

theorem size_rejected_key_enc (K M : Bits) (h : 256 < K.size) :
    (∃ e, Model.Serpent.enc K M = .error e) ∧ (∃ e, Model.Serpent.dec K M = .error e) := by
  obtain ⟨e, he⟩ := size_rejected_key K h
  unfold Model.Serpent.enc Model.Serpent.dec
  rw [he]
  exact ⟨⟨e, rfl⟩, ⟨e, rfl⟩⟩

/-- a block that is not 128 bits is refused by enc and dec, whatever the key -/
theorem size_rejected_block (K M : Bits) (h : M.size ≠ 128) :
    (∃ e, Model.Serpent.enc K M = .error e) ∧ (∃ e, Model.Serpent.dec K M = .error e) := by
  unfold Model.Serpent.enc Model.Serpent.dec
  cases hi : Model.Serpent.init K with
  | error e => exact ⟨⟨e, rfl⟩, ⟨e, rfl⟩⟩
  | ok c =>
    simp only [bind, Except.bind, Model.Serpent.encBits, Model.Serpent.decBits, chk_err M h]
    exact ⟨⟨_, rfl⟩, ⟨_, rfl⟩⟩

/-- byte strings: more than 32 key bytes or not exactly 16 block bytes ⇒ error, and the Spec is undefined there -/
theorem size_rejected_bytes (key block : List Nat) (hk : IsBytes key) (hb : IsBytes block)
    (h : 32 < key.length ∨ block.length ≠ 16) :
    (∃ e, Model.Serpent.encBytes key block = .error e) ∧ (∃ e, Model.Serpent.decBytes key block = .error e) ∧
    Spec.Serpent.enc key block = none ∧ Spec.Serpent.dec key block = none := by
  unfold Model.Serpent.encBytes Model.Serpent.decBytes
  rw [ofBytes_le key hk, ofBytes_le block hb]
  simp only [bind, Except.bind]
  refine ⟨?_, ?_, ?_, ?_⟩
  · rcases h with h | h
    · exact (size_rejected_key_enc _ _ (by simp only []; omega)).1
    · exact (size_rejected_block _ _ (by simp only []; omega)).1
  · rcases h with h | h
    · exact (size_rejected_key_enc _ _ (by simp only []; omega)).2
    · exact (size_rejected_block _ _ (by simp only []; omega)).2
  · unfold Spec.Serpent.enc
    have : ¬ (key.length ≤ 32 ∧ block.length = 16) := by omega
    simp [this]
  · unfold Spec.Serpent.dec
    have : ¬ (key.length ≤ 32 ∧ block.length = 16) := by omega
    simp [this]

/-- the component functions refuse states that are not 128 bits and box numbers outside 0..7 -/
theorem size_rejected_components (X : Bits) (h : X.size ≠ 128) (i : Nat) :
    (∃ e, Model.Serpent.IP X = .error e) ∧ (∃ e, Model.Serpent.FP X = .error e) ∧
    (∃ e, Model.Serpent.L X = .error e) ∧ (∃ e, Model.Serpent.Linv X = .error e) ∧
    (∃ e, Model.Serpent.S i X = .error e) ∧ (∃ e, Model.Serpent.Sinv i X = .error e) := by
  unfold Model.Serpent.IP Model.Serpent.FP Model.Serpent.L Model.Serpent.Linv Model.Serpent.S Model.Serpent.Sinv
    Model.Serpent.subst
  simp only [chk_err X h, bind, Except.bind]
  refine ⟨⟨_, rfl⟩, ⟨_, rfl⟩, ⟨_, rfl⟩, ⟨_, rfl⟩, ?_, ?_⟩ <;>
  · by_cases hi : i < 8
    · simp [hi]
    · simp [hi, throw, throwThe, MonadExceptOf.throw]

/-! ### known answers (the NESSIE-256 vector is the one of tests/test_serpent.py) and non-vacuity -/

/-- NESSIE Serpent-256 set 1 vector 0 -/
theorem nessie256 :
    Spec.Serpent.enc [0x80, 0, 0, 0, 0, 0, 0, 0, 0, 0, 0, 0, 0, 0, 0, 0, 0, 0, 0, 0, 0, 0, 0, 0, 0, 0, 0, 0, 0, 0, 0, 0]
      [0, 0, 0, 0, 0, 0, 0, 0, 0, 0, 0, 0, 0, 0, 0, 0]
    = some [0xA2, 0x23, 0xAA, 0x12, 0x88, 0x46, 0x3C, 0x0E, 0x2B, 0xE3, 0x8E, 0xBD, 0x82, 0x56, 0x16, 0xC0] := by
  unfold Spec.Serpent.enc encNat roundKeys
  rw [prekeys_eq]
  decide +kernel

/-- NESSIE Serpent-128 set 1 vector 0: a 16-byte key goes through the 1-then-zeros padding -/
theorem nessie128 :
    Spec.Serpent.enc [0x80, 0, 0, 0, 0, 0, 0, 0, 0, 0, 0, 0, 0, 0, 0, 0] [0, 0, 0, 0, 0, 0, 0, 0, 0, 0, 0, 0, 0, 0, 0, 0]
    = some [0x26, 0x4E, 0x54, 0x81, 0xEF, 0xF4, 0x2A, 0x46, 0x06, 0xAB, 0xDA, 0x06, 0xC0, 0xBF, 0xDA, 0x3D] := by
  unfold Spec.Serpent.enc encNat roundKeys
  rw [prekeys_eq]
  decide +kernel

example : Spec.Serpent.enc [0x80, 0, 0, 0, 0, 0, 0, 0, 0, 0, 0, 0, 0, 0, 0, 0, 0, 0, 0, 0, 0, 0, 0, 0, 0, 0, 0, 0, 0, 0, 0, 0]
      [0, 0, 0, 0, 0, 0, 0, 0, 0, 0, 0, 0, 0, 0, 0, 0]
    = some [0xA2, 0x23, 0xAA, 0x12, 0x88, 0x46, 0x3C, 0x0E, 0x2B, 0xE3, 0x8E, 0xBD, 0x82, 0x56, 0x16, 0xC0] :=
  nessie256
example : Spec.Serpent.enc [0x80, 0, 0, 0, 0, 0, 0, 0, 0, 0, 0, 0, 0, 0, 0, 0] [0, 0, 0, 0, 0, 0, 0, 0, 0, 0, 0, 0, 0, 0, 0, 0]
    = some [0x26, 0x4E, 0x54, 0x81, 0xEF, 0xF4, 0x2A, 0x46, 0x06, 0xAB, 0xDA, 0x06, 0xC0, 0xBF, 0xDA, 0x3D] :=
  nessie128
example : IsBytes [1, 2, 3, 4, 5] ∧ [1, 2, 3, 4, 5].length ≤ 32 ∧ (⟨0x0504030201, 40⟩ : Bits).WF := by decide
example : ∃ e, Model.Serpent.init ⟨1, 257⟩ = .error e := size_rejected_key _ (by decide)

end Proofs.C02_Serpent
