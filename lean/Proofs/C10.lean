/-
  C10 — one-shot results depend only on the arguments, never on earlier calls.

  For every object kind X of Model.Objects (a `Machine`: configuration `cfg`, scratch fields, `next`/`out` of every public
  operation, erroring ones included): no operation changes the configuration beyond an explicit setkey/setrate
  (`X_cfg_preserved`, `reconf`), a one-shot call returns the same on ALL states sharing the configuration
  (`X_result_depends_on_cfg`), and so, by the one generic induction `history_independent`, after any history what it
  returns on a fresh, equally configured object (`X_history_independent`).  For every kind but AES / the modes over AES /
  Salsa20-ChaCha the states are arbitrary (havoc), so a call that raised half-way and left scratch state half-written is
  covered; those three keep a cache by design and assume its invariant, which `X_inv_preserved` shows every operation
  (also an erroring one) maintains.  The inventory theorems at the end tie the scratch fields of the state structures to
  the attributes the AST of the live source assigns (Model.Gen.ObjectsG).

  Exceptions: the AES key-schedule memo and the Salsa20/ChaCha input block (configuration and scratch in one attribute)
  are harmless under their invariants; `Nullpadding` as the padding class of ECB/CBC is not: `dec` strips `pad.padcnt`
  bits, a number only the last `enc` knows (`mode_nullpadding_dec_depends_on_history`, known finding).
-/
import Model.Objects
import Model.Gen.ObjectsG
import Proofs.Lemmas.History
import Proofs.Lemmas.ObjectsSound
import Proofs.Lemmas.StreamSound
import Proofs.Lemmas.SalsaEnd
import Proofs.Lemmas.Fields
import Proofs.Lemmas.AesEval
namespace Proofs.C10
open Model Model.Objects Proofs.Lemmas.History Proofs.Lemmas.ObjectsSound Proofs.Lemmas.StreamSound Proofs.Lemmas.Fields
open Model.Gen

/-- for ANY machine with the per-kind facts: the result of a probe after any history of well-formed operations — with
    other options, erroring, re-configuring — equals its result on a fresh object with the (re-)configured configuration -/
theorem history_independent_generic (M : Machine) (Adm : M.Cfg → Prop) (Valid : M.Op → Prop) (Inv : M.State → Prop)
    (h : Sound M Adm Valid Inv) (c : M.Cfg) (hc : Adm c) (ops : List M.Op) (hv : ∀ op ∈ ops, Valid op) (p : M.Op)
    (hp : M.probe p = true) (hvp : Valid p) : M.after c ops p = M.fresh c ops p :=
  history_independent h c hc ops hv p hp hvp

/-- interleaved calls on a sibling instance / a module-level singleton (any second sound machine `N`): the probe on the
    first object still returns what it returns on a fresh object -/
theorem interleaved_history_independent (M N : Machine) {A : M.Cfg → Prop} {B : N.Cfg → Prop} {V : M.Op → Prop} {W : N.Op → Prop}
    {I : M.State → Prop} {J : N.State → Prop} (hM : Sound M A V I) (hN : Sound N B W J)
    (c : M.Cfg) (d : N.Cfg) (hc : A c) (hd : B d) (ops : List (M.Op ⊕ N.Op)) (hv : ∀ op ∈ ops, pairValid V W op)
    (p : M.Op) (hp : M.probe p = true) (hvp : V p) :
    (Machine.pair M N).after (c, d) ops (.inl p) = M.out (M.init ((Machine.pair M N).reconfAll (c, d) ops).1) p :=
  history_independent (pair_sound hM hN) (c, d) ⟨hc, hd⟩ ops hv (.inl p) hp hvp

theorem all_kinds_sound (lcap : Nat → Nat) :
    Sound HashO.machine Any Any Havoc ∧ Sound KeccakO.machine Any Any Havoc ∧ Sound Md6O.machine Any Any Havoc ∧
    Sound BlakeO.machine Any Any Havoc ∧ Sound Blake2O.machine Any Any Havoc ∧ Sound HmacO.machine Any Any Havoc ∧
    Sound (TlshO.machine lcap) Any Any Havoc ∧ Sound NilsimsaO.machine Any Any Havoc ∧
    Sound AesO.machine Any Any AesO.Coherent ∧ Sound PureCipher.machine Any Any Havoc ∧
    Sound ModeO.machine ModeAdm Any ModeO.Coherent ∧ Sound StreamO.machine StreamAdm StreamValid StreamInv ∧
    Sound SkeinO.machine Any Any Havoc ∧ Sound ThreefishO.machine Any Any Havoc :=
  ⟨hash_sound, keccak_sound, md6_sound, blake_sound, blake2_sound, hmac_sound, tlsh_sound lcap, nilsimsa_sound, aes_sound,
   pure_sound, mode_sound, stream_sound, skein_sound, threefish_sound⟩

/-! ### MD4 / MD5 / SHA-0 / SHA-1 / SHA-2 objects (any `HashCore`) -/

theorem hash_cfg_preserved (s : HashO.State) (op : HashO.Op) :
    HashO.machine.cfg (HashO.machine.next s op) = HashO.machine.reconf (HashO.machine.cfg s) op := hash_cfg s op

theorem hash_result_depends_on_cfg (s s' : HashO.State) (a : HashO.Op) (ha : HashO.machine.probe a = true) (h : HashO.machine.cfg s = HashO.machine.cfg s') :
    HashO.machine.out s a = HashO.machine.out s' a := hash_sound.result_depends_on_cfg s s' a ha trivial trivial trivial trivial h

theorem hash_history_independent (c : HashCore) (ops : List HashO.Op) (p : HashO.Op) (hp : HashO.machine.probe p = true) :
    HashO.machine.after c ops p = HashO.machine.out (HashO.machine.init c) p :=
  history_independent' hash_sound (fun _ _ => rfl) c trivial ops (fun _ _ => trivial) p hp trivial

/-! ### Keccak / SHA3 objects and the module singletons keccak_224 … keccak_512 -/

theorem keccak_cfg_preserved (s : KeccakO.State) (op : KeccakO.Op) :
    KeccakO.machine.cfg (KeccakO.machine.next s op) = KeccakO.machine.reconf (KeccakO.machine.cfg s) op := keccak_cfg s op

theorem keccak_result_depends_on_cfg (s s' : KeccakO.State) (a : KeccakO.Op) (ha : KeccakO.machine.probe a = true) (h : KeccakO.machine.cfg s = KeccakO.machine.cfg s') :
    KeccakO.machine.out s a = KeccakO.machine.out s' a := keccak_sound.result_depends_on_cfg s s' a ha trivial trivial trivial trivial h

theorem keccak_history_independent (c : Keccak.Cfg) (ops : List KeccakO.Op) (p : KeccakO.Op) (hp : KeccakO.machine.probe p = true) :
    KeccakO.machine.after c ops p = KeccakO.machine.fresh c ops p :=
  history_independent keccak_sound c trivial ops (fun _ _ => trivial) p hp trivial

theorem md6_cfg_preserved (s : Md6O.State) (op : Md6O.Op) :
    Md6O.machine.cfg (Md6O.machine.next s op) = Md6O.machine.reconf (Md6O.machine.cfg s) op := rfl

theorem md6_result_depends_on_cfg (s s' : Md6O.State) (a : Md6O.Op) (ha : Md6O.machine.probe a = true) (h : Md6O.machine.cfg s = Md6O.machine.cfg s') :
    Md6O.machine.out s a = Md6O.machine.out s' a := md6_sound.result_depends_on_cfg s s' a ha trivial trivial trivial trivial h

theorem md6_history_independent (c : Md6.MD6) (ops : List Md6O.Op) (p : Md6O.Op) (hp : Md6O.machine.probe p = true) :
    Md6O.machine.after c ops p = Md6O.machine.out (Md6O.machine.init c) p :=
  history_independent' md6_sound (fun _ _ => rfl) c trivial ops (fun _ _ => trivial) p hp trivial

/-! ### Blake objects and the module singletons blake224 … blake512 -/

theorem blake_cfg_preserved (s : BlakeO.State) (op : BlakeO.Op) :
    BlakeO.machine.cfg (BlakeO.machine.next s op) = BlakeO.machine.reconf (BlakeO.machine.cfg s) op := blake_cfg s op

theorem blake_result_depends_on_cfg (s s' : BlakeO.State) (a : BlakeO.Op) (ha : BlakeO.machine.probe a = true) (h : BlakeO.machine.cfg s = BlakeO.machine.cfg s') :
    BlakeO.machine.out s a = BlakeO.machine.out s' a := blake_sound.result_depends_on_cfg s s' a ha trivial trivial trivial trivial h

theorem blake_history_independent (c : Blake.Cfg) (ops : List BlakeO.Op) (p : BlakeO.Op) (hp : BlakeO.machine.probe p = true) :
    BlakeO.machine.after c ops p = BlakeO.machine.out (BlakeO.machine.init c) p :=
  history_independent' blake_sound (fun _ _ => rfl) c trivial ops (fun _ _ => trivial) p hp trivial

/-! ### Blake2 objects and the module singletons blake2b, blake2s -/

theorem blake2_cfg_preserved (s : Blake2O.State) (op : Blake2O.Op) :
    Blake2O.machine.cfg (Blake2O.machine.next s op) = Blake2O.machine.reconf (Blake2O.machine.cfg s) op := blake2_cfg s op

theorem blake2_result_depends_on_cfg (s s' : Blake2O.State) (a : Blake2O.Op) (ha : Blake2O.machine.probe a = true) (h : Blake2O.machine.cfg s = Blake2O.machine.cfg s') :
    Blake2O.machine.out s a = Blake2O.machine.out s' a := blake2_result s s' a ha h

theorem blake2_history_independent (c : Blake.Cfg) (ops : List Blake2O.Op) (p : Blake2O.Op) (hp : Blake2O.machine.probe p = true) :
    Blake2O.machine.after c ops p = Blake2O.machine.out (Blake2O.machine.init c) p :=
  history_independent' blake2_sound (fun _ _ => rfl) c trivial ops (fun _ _ => trivial) p hp trivial

/-! ### Skein objects (every block size, output length, key / personalisation / public key / KDF id / nonce stage, tree parameters) -/

theorem skein_cfg_preserved (s : SkeinO.State) (op : SkeinO.Op) :
    SkeinO.machine.cfg (SkeinO.machine.next s op) = SkeinO.machine.reconf (SkeinO.machine.cfg s) op := skein_cfg s op

/-- a one-shot call returns the same on ALL states with the same configuration: whatever chaining value `G` an earlier
    `update`, an earlier call or a call that raised half-way through `_initstate` left behind — or none at all -/
theorem skein_result_depends_on_cfg (s s' : SkeinO.State) (a : SkeinO.Op) (ha : SkeinO.machine.probe a = true) (h : SkeinO.machine.cfg s = SkeinO.machine.cfg s') :
    SkeinO.machine.out s a = SkeinO.machine.out s' a := skein_sound.result_depends_on_cfg s s' a ha trivial trivial trivial trivial h

theorem skein_history_independent (c : Skein.Cfg) (ops : List SkeinO.Op) (p : SkeinO.Op) (hp : SkeinO.machine.probe p = true) :
    SkeinO.machine.after c ops p = SkeinO.machine.out (SkeinO.machine.init c) p :=
  history_independent' skein_sound (fun _ _ => rfl) c trivial ops (fun _ _ => trivial) p hp trivial

/-- … and that is the functional model `Skein.call` of the hash properties (C12, C13), in every state -/
theorem skein_call_is_model (s : SkeinO.State) (M : List Nat) (bitlen : Option Nat) :
    SkeinO.machine.out s (.call M bitlen) = bytesRes (Skein.call s.cfg M bitlen) := skein_call_eq s M bitlen

/-- `update` is NOT a one-shot operation: it chains from `G` (so it is outside `probe`) — on a new object it raises, after
    `_initstate()` it succeeds -/
theorem skein_update_reads_G (c : Skein.Cfg) (M : List Nat) :
    SkeinO.machine.out (SkeinO.init c) (.update M) = .error "AttributeError:G" := rfl

/-! ### Threefish objects (no scratch state at all: the word lists `__k`, `__t` are written by the constructor only) -/

theorem threefish_cfg_preserved (s : ThreefishO.State) (op : ThreefishO.Op) :
    ThreefishO.machine.cfg (ThreefishO.machine.next s op) = ThreefishO.machine.reconf (ThreefishO.machine.cfg s) op := rfl

theorem threefish_result_depends_on_cfg (s s' : ThreefishO.State) (a : ThreefishO.Op) (ha : ThreefishO.machine.probe a = true) (h : ThreefishO.machine.cfg s = ThreefishO.machine.cfg s') :
    ThreefishO.machine.out s a = ThreefishO.machine.out s' a := threefish_sound.result_depends_on_cfg s s' a ha trivial trivial trivial trivial h

theorem threefish_history_independent (c : Threefish.Ctx) (ops : List ThreefishO.Op) (p : ThreefishO.Op) (hp : ThreefishO.machine.probe p = true) :
    ThreefishO.machine.after c ops p = ThreefishO.machine.out (ThreefishO.machine.init c) p :=
  history_independent' threefish_sound (fun _ _ => rfl) c trivial ops (fun _ _ => trivial) p hp trivial

/-- the object machine's `enc`/`dec` are `Threefish(key,tweak).enc/dec` of the cipher properties (C02, C03) -/
theorem threefish_ops_are_model (key tweak : List Nat) (c : Threefish.Ctx) (hc : Threefish.init key tweak = .ok c) (b : List Nat) :
    ThreefishO.machine.out (ThreefishO.machine.init c) (.enc b) = bytesRes (Threefish.encrypt key tweak b) ∧
    ThreefishO.machine.out (ThreefishO.machine.init c) (.dec b) = bytesRes (Threefish.decrypt key tweak b) := by
  unfold Threefish.encrypt Threefish.decrypt
  rw [hc]; exact ⟨rfl, rfl⟩

/-! ### HMAC objects (the hash object is shared state) -/

theorem hmac_cfg_preserved (s : HmacO.State) (op : HmacO.Op) :
    HmacO.machine.cfg (HmacO.machine.next s op) = HmacO.machine.reconf (HmacO.machine.cfg s) op := hmac_cfg s op

theorem hmac_result_depends_on_cfg (s s' : HmacO.State) (a : HmacO.Op) (ha : HmacO.machine.probe a = true) (h : HmacO.machine.cfg s = HmacO.machine.cfg s') :
    HmacO.machine.out s a = HmacO.machine.out s' a := hmac_sound.result_depends_on_cfg s s' a ha trivial trivial trivial trivial h

theorem hmac_history_independent (c : HmacO.Cfg) (ops : List HmacO.Op) (p : HmacO.Op) (hp : HmacO.machine.probe p = true) :
    HmacO.machine.after c ops p = HmacO.machine.fresh c ops p :=
  history_independent hmac_sound c trivial ops (fun _ _ => trivial) p hp trivial

theorem nilsimsa_cfg_preserved (s : NilsimsaO.State) (op : NilsimsaO.Op) :
    NilsimsaO.machine.cfg (NilsimsaO.machine.next s op) = NilsimsaO.machine.reconf (NilsimsaO.machine.cfg s) op := nilsimsa_cfg s op

theorem nilsimsa_result_depends_on_cfg (s s' : NilsimsaO.State) (a : NilsimsaO.Op) (ha : NilsimsaO.machine.probe a = true) (h : NilsimsaO.machine.cfg s = NilsimsaO.machine.cfg s') :
    NilsimsaO.machine.out s a = NilsimsaO.machine.out s' a := nilsimsa_sound.result_depends_on_cfg s s' a ha trivial trivial trivial trivial h

theorem nilsimsa_history_independent (c : List Nat) (ops : List NilsimsaO.Op) (p : NilsimsaO.Op) (hp : NilsimsaO.machine.probe p = true) :
    NilsimsaO.machine.after c ops p = NilsimsaO.machine.out (NilsimsaO.machine.init c) p :=
  history_independent' nilsimsa_sound (fun _ _ => rfl) c trivial ops (fun _ _ => trivial) p hp trivial

/-! ### DES / TDEA / Serpent objects (no scratch state at all) -/

theorem cipher_cfg_preserved (s : PureCipher.State) (op : PureCipher.Op) :
    PureCipher.machine.cfg (PureCipher.machine.next s op) = PureCipher.machine.reconf (PureCipher.machine.cfg s) op := rfl

theorem cipher_result_depends_on_cfg (s s' : PureCipher.State) (a : PureCipher.Op) (ha : PureCipher.machine.probe a = true) (h : PureCipher.machine.cfg s = PureCipher.machine.cfg s') :
    PureCipher.machine.out s a = PureCipher.machine.out s' a := pure_sound.result_depends_on_cfg s s' a ha trivial trivial trivial trivial h

theorem cipher_history_independent (c : BlockCipher) (ops : List PureCipher.Op) (p : PureCipher.Op) (hp : PureCipher.machine.probe p = true) :
    PureCipher.machine.after c ops p = PureCipher.machine.out (PureCipher.machine.init c) p :=
  history_independent' pure_sound (fun _ _ => rfl) c trivial ops (fun _ _ => trivial) p hp trivial

/-! ### TLSH objects and the module singleton `tlsh` (`lcap` = libm `log`, an uninterpreted parameter) -/

theorem tlsh_cfg_preserved (lcap : Nat → Nat) (s : TlshO.State) (op : TlshO.Op) : (TlshO.step lcap s op).1.cfg = s.cfg :=
  tlsh_cfg lcap s op

theorem tlsh_result_depends_on_cfg (lcap : Nat → Nat) (s s' : TlshO.State) (a : TlshO.Op) (ha : TlshO.isProbe a = true)
    (h : s.cfg = s'.cfg) : (TlshO.step lcap s a).2 = (TlshO.step lcap s' a).2 :=
  (tlsh_sound lcap).result_depends_on_cfg s s' a ha trivial trivial trivial trivial h

theorem tlsh_history_independent (lcap : Nat → Nat) (c : Tlsh.Cfg) (ops : List TlshO.Op) (p : TlshO.Op) (hp : TlshO.isProbe p = true) :
    (TlshO.machine lcap).after c ops p = (TlshO.machine lcap).out (TlshO.init c) p :=
  history_independent' (tlsh_sound lcap) (fun _ _ => rfl) c trivial ops (fun _ _ => trivial) p hp trivial

/-! ### AES objects: the cached key schedule `_AES__w` is call-to-call state by design (a memo) -/

theorem aes_cfg_preserved (s : AesO.State) (op : AesO.Op) : (AesO.next s op).cfg = s.cfg := aes_cfg s op

/-- the cheap successor function the driver uses is the first component of `step` -/
theorem aes_next_is_step (s : AesO.State) (op : AesO.Op) : AesO.next s op = (AesO.step s op).1 := aes_next_eq_step s op

/-- every operation, also an erroring one, keeps the cache coherent (absent, or THE key schedule of `K`) -/
theorem aes_inv_preserved (s : AesO.State) (op : AesO.Op) (h : AesO.Coherent s) : AesO.Coherent (AesO.next s op) := aes_inv s op h

theorem aes_result_depends_on_cfg (s s' : AesO.State) (a : AesO.Op) (h : AesO.Coherent s) (h' : AesO.Coherent s')
    (hc : s.cfg = s'.cfg) : (AesO.step s a).2 = (AesO.step s' a).2 := aes_result s s' a h h' hc

/-- … and an incoherent cache WOULD change the result: the invariant is needed (K = 16 zero bytes, a foreign schedule) -/
theorem aes_cache_matters :
    (AesO.step ⟨List.replicate 16 0, some (Aes.keySchedule (List.replicate 16 1))⟩ (.enc (List.replicate 16 0))).2.toOption ≠
    (AesO.step ⟨List.replicate 16 0, none⟩ (.enc (List.replicate 16 0))).2.toOption := by
  have hb : ∀ x < 256, Proofs.Aes.IsBytes (List.replicate 16 x) := fun _ hx => Lemmas.Bytes.AllBytes.replicate hx 16
  have h0 := hb 0 (by decide)
  -- the object encrypts under the key whose schedule it holds: FIPS 197 Cipher under 16 ones against 16 zeros
  rw [enc_sched (List.replicate 16 0) (List.replicate 16 1) _ (some (Aes.keySchedule (List.replicate 16 1)))
      ⟨by decide, hb 1 (by decide)⟩ rfl ⟨rfl, h0⟩ Option.getD_some,
    enc_sched (List.replicate 16 0) (List.replicate 16 0) _ none ⟨by decide, h0⟩ rfl ⟨rfl, h0⟩ Option.getD_none,
    Lemmas.AesEval.cipher_eq]
  decide +kernel

theorem aes_history_independent (K : List Nat) (ops : List AesO.Op) (p : AesO.Op) (hp : AesO.isProbe p = true) :
    AesO.machine.after K ops p = AesO.machine.out (AesO.init K) p :=
  history_independent' aes_sound (fun _ _ => rfl) K trivial ops (fun _ _ => trivial) p hp trivial

/-! ### ECB / CBC / CTR / CTS_ECB / CTS_CBC over any cipher object (AES with its cache, or a cipher without scratch state) -/

theorem mode_cfg_preserved (s : ModeO.State) (op : ModeO.Op) : (ModeO.next s op).cfg = s.cfg := mode_cfg s op

theorem mode_next_is_step (s : ModeO.State) (op : ModeO.Op) : ModeO.next s op = (ModeO.step s op).1 := mode_next_eq_step s op

theorem mode_inv_preserved (s : ModeO.State) (op : ModeO.Op) (h : ModeO.Coherent s) : ModeO.Coherent (ModeO.next s op) :=
  mode_inv s op h

/-- `enc` and `dec` return the same for ANY padding-iterator state, counter value and (coherent) cipher cache — for every
    padding class except `Nullpadding` -/
theorem mode_result_depends_on_cfg (s s' : ModeO.State) (a : ModeO.Op) (ha : ModeO.isProbe a = true) (hn : s.cfg.scheme ≠ .null)
    (h : ModeO.Coherent s) (h' : ModeO.Coherent s') (hc : s.cfg = s'.cfg) : (ModeO.step s a).2 = (ModeO.step s' a).2 :=
  mode_result s s' a ha hn h h' hc

theorem mode_history_independent (c : ModeO.Cfg) (hn : c.scheme ≠ .null) (ops : List ModeO.Op) (p : ModeO.Op)
    (hp : ModeO.isProbe p = true) : ModeO.machine.after c ops p = ModeO.machine.out (ModeO.init c) p :=
  history_independent' mode_sound (fun _ _ => rfl) c hn ops (fun _ _ => trivial) p hp trivial

/-- `enc` alone is history-independent for EVERY padding class, `Nullpadding` included -/
theorem mode_enc_result_depends_on_cfg (s s' : ModeO.State) (M : List Nat) (h : ModeO.Coherent s) (h' : ModeO.Coherent s')
    (hc : s.cfg = s'.cfg) : (ModeO.step s (.enc M)).2 = (ModeO.step s' (.enc M)).2 := mode_enc_result s s' M h h' hc

-- the witness below: a toy cipher and one block of ciphertext.  The 16 bytes are not special: sixteen zeros, or 0, …, 15,
-- separate the two `dec` results as well.
def nullCfg : ModeO.Cfg := { kind := .ecb, cipher := .pure (Toy.rot 8 [1, 2, 3, 4, 5, 6, 7, 8]), iv := none, scheme := .null }
def nullCt : List Nat := [0xea, 0xf5, 0x00, 0x0c, 0x18, 0x24, 0x31, 0x3e, 0x6d, 0x7a, 0x88, 0x96, 0xa4, 0xb3, 0xc2, 0xd1]

/-- KNOWN FINDING C10-nullpad-remove (kernel-checked witness): `ECB(c,pad=Nullpadding)`: after `enc(b'\x01\x02\x03')` the same
    `dec` returns 11 bytes, on a fresh object 16 — `Nullpadding.remove` strips `padcnt` bits, which only the last `enc` set -/
theorem mode_nullpadding_dec_depends_on_history :
    (ModeO.machine.after nullCfg [.enc [1, 2, 3]] (.dec nullCt)).toOption ≠ (ModeO.machine.fresh nullCfg [.enc [1, 2, 3]] (.dec nullCt)).toOption := by
  decide +kernel

/-! ### Salsa20 / Chacha objects: `p` holds configuration (constants, key) and scratch (nonce, counter) words -/

theorem stream_cfg_preserved (s : StreamO.State) (op : StreamO.Op) : (StreamO.step s op).1.cfg = s.cfg := stream_cfg s op

/-- every well-formed operation keeps the key and constant words of `p` (only nonce and counter words move) -/
theorem stream_inv_preserved (s : StreamO.State) (op : StreamO.Op) (hv : StreamValid op) (h : StreamInv s) :
    StreamInv ((StreamO.step s op).1) := stream_inv s op hv h

/-- `enc`/`dec`/`hash` return the same whatever the nonce and counter words of `p` hold -/
theorem stream_result_depends_on_cfg (s s' : StreamO.State) (a : StreamO.Op) (ha : StreamO.isProbe a = true) (hv : StreamValid a)
    (h : StreamInv s) (h' : StreamInv s') (hc : s.cfg = s'.cfg) : (StreamO.step s a).2 = (StreamO.step s' a).2 :=
  stream_sound.result_depends_on_cfg s s' a ha hv h.adm h h' hc

/-- for every configuration whose constructor left 16 words in `p`, every history of well-formed operations (messages are
    byte strings of at most 2^70 bytes; abandoned `keystream` generators of any length allowed) -/
theorem stream_history_independent (c : StreamO.Cfg) (hc : StreamAdm c) (ops : List StreamO.Op) (hv : ∀ op ∈ ops, StreamValid op)
    (p : StreamO.Op) (hp : StreamO.isProbe p = true) (hvp : StreamValid p) :
    StreamO.machine.after c ops p = StreamO.machine.out (StreamO.init c) p :=
  history_independent' stream_sound (fun _ _ => rfl) c hc ops hv p hp hvp

/-- the hypothesis `StreamAdm` holds for every object the library can build: `Salsa20(Bits(key,bitorder=1),rounds)` and
    `Chacha(…)` with a 16- or 32-byte key leave 16 words of 32 bits in `p` (C06 key-expansion lemmas) -/
theorem stream_adm_of_constructor (chacha : Bool) (key : List (BitVec 8)) (hk : key.length = 16 ∨ key.length = 32) (rounds : Int)
    (hr : rounds > 0 ∧ rounds % 2 = 0) :
    ∃ st : Salsa.State, (do let K ← Bits.ofBytes (key.map BitVec.toNat) none 1
                            if chacha then Chacha.init (some K) rounds else Salsa.init (some K) rounds) = .ok st ∧
      StreamAdm { chacha := chacha, K := st.K, dround := st.dround, p0 := st.p } := by
  rw [Proofs.Lemmas.SalsaKey.ofBytes_le, Lemmas.Fold.ok_bind]
  cases chacha with
  | false => exact ⟨_, Proofs.Lemmas.SalsaEnd.salsa_init_key key hk rounds hr, _, Proofs.Lemmas.SalsaEnd.salsaP_length key, rfl⟩
  | true => exact ⟨_, Proofs.Lemmas.SalsaEnd.chacha_init_key key hk rounds hr, _, Proofs.Lemmas.SalsaEnd.chachaP_length key, rfl⟩

/-! ### Keccak: the cheap successor function of the driver -/
theorem keccak_next_is_step (s : KeccakO.State) (op : KeccakO.Op) : KeccakO.next s op = (KeccakO.step s op).1 := keccak_next_eq_step s op

/-- a per-call rate and a duplex call leave the configuration alone (the original crysp did not: two of the defects found) -/
theorem keccak_call_rate_does_not_persist (s : KeccakO.State) (M : List Nat) (bl : Option Nat) (r : Nat) :
    (KeccakO.next s (.call M bl (some r))).cfg = s.cfg := rfl
theorem keccak_duplex_restores_duplexing (s : KeccakO.State) (m : List Nat) (bl ol : Option Nat) :
    (KeccakO.next s (.duplex m bl ol)).cfg.duplexing = s.cfg.duplexing := rfl

/-! ## State-field inventory: the scratch fields of the state structures ARE the attributes the live source assigns -/

/-- MD4, MD5, SHA1, SHA2: `initstate` assigns `H`, `padmethod` -/
theorem inventory_hashes :
    (["MD4", "MD5", "SHA1", "SHA2"].all fun cls => sameSet (ObjectsG.assigned cls) (scratchOf (fields% HashO.State) [] [])) = true := by decide +kernel

/-- Keccak, SHA3: `_S` (duplex) is scratch; `r`, `c` (setrate) and `duplexing` (duplex, restored) are configuration -/
theorem inventory_keccak :
    (["Keccak", "SHA3"].all fun cls => sameSet (ObjectsG.assigned cls) (scratchOf (fields% KeccakO.State) [] ["c", "duplexing", "r"])) = true := by decide +kernel

theorem inventory_md6 : sameSet (ObjectsG.assigned "MD6") (scratchOf (fields% Md6O.State) [] []) = true := by decide +kernel
theorem inventory_blake : sameSet (ObjectsG.assigned "Blake") (scratchOf (fields% BlakeO.State) [] []) = true := by decide +kernel
theorem inventory_blake2 : sameSet (ObjectsG.assigned "Blake2") (scratchOf (fields% Blake2O.State) [] []) = true := by decide +kernel

/-- HMAC: `K` is (re-)configuration (`setkey`); `h` is the shared hash object, whose scratch is `inventory_hashes` -/
theorem inventory_hmac :
    sameSet (ObjectsG.assigned "HMAC") (scratchOf (fields% HmacO.State) ["h"] ["K"]) = true ∧ (ObjectsG.ctorOnly "HMAC").contains "h" = true ∧
    sameSet (fields% HashObj) ["H", "pad"] = true := by decide +kernel

theorem inventory_tlsh : sameSet (ObjectsG.assigned "TLSH") (scratchOf (fields% TlshO.State) [] []) = true := by decide +kernel
theorem inventory_nilsimsa : sameSet (ObjectsG.assigned "Nilsimsa") (scratchOf (fields% NilsimsaO.State) [] []) = true := by decide +kernel
theorem inventory_aes : sameSet (ObjectsG.assigned "AES") (scratchOf (fields% AesO.State) [] []) = true := by decide +kernel

/-- DES, TDEA, Serpent assign nothing outside `__init__` -/
theorem inventory_pure_ciphers :
    (["DES", "TDEA", "Serpent"].all fun cls => sameSet (ObjectsG.assigned cls) (scratchOf (fields% PureCipher.State) [] [])) = true := by decide +kernel

/-- the mode classes assign nothing themselves; their scratch is the owned padding iterator (`pad`: padflag, bitcnt, padcnt —
    the same three attributes for every padding class), the owned counter (`count`; `nonce`, `count0` are configuration set
    by `setup`) and the shared cipher object (`_cipher`: the AES inventory) -/
theorem inventory_modes :
    (["Mode", "ECB", "CBC", "CTR", "CTS_ECB", "CTS_CBC"].all fun cls =>
      sameSet (ObjectsG.assigned cls) (scratchOf (fields% ModeO.State) ["pad", "count", "_cipher"] [])) = true ∧
    (["blockiterator", "nopadding", "Nullpadding", "bitpadding", "pkcs7", "X923", "MDpadding", "SHApadding", "Blakepadding"].all fun cls =>
      sameSet (ObjectsG.assigned cls) (fields% PadState)) = true ∧
    sameSet (ObjectsG.assigned "DefaultCounter") (["count"] ++ ["count0", "nonce"]) = true ∧
    (["_cipher", "pad"].all fun a => (ObjectsG.ctorOnly "ECB").contains a && (ObjectsG.ctorOnly "CTR").contains a) = true ∧
    (ObjectsG.ctorOnly "CTR").contains "counter" = true := by decide +kernel

theorem inventory_streams :
    (["Salsa20", "Chacha"].all fun cls => sameSet (ObjectsG.assigned cls) (scratchOf (fields% StreamO.State) [] [])) = true := by decide +kernel

/-- Skein: `G` is the only attribute assigned outside `__init__` (`_initstate`, `update`, `_treehash`); the configuration
    structure `Skein.Cfg` has exactly the constructor-only attributes (`C`: the configuration string computed once; `Yl`,
    `Yf`, `Ym`: the tree parameters; `key`, `prs`, `PK`, `kdf`, `non`: the optional stages) -/
theorem inventory_skein :
    sameSet (ObjectsG.assigned "Skein") (scratchOf (fields% SkeinO.State) [] []) = true ∧
    sameSet (ObjectsG.ctorOnly "Skein") (fields% Skein.Cfg) = true := by decide +kernel

/-- Python's name mangling of the private attributes of class `Threefish` -/
def mangleThreefish (f : String) : String := if ["pi", "piinv", "R", "k", "t"].contains f then "_Threefish__" ++ f else f

/-- Threefish assigns nothing outside `__init__`; the context structure `Threefish.Ctx` has exactly the constructor-only
    attributes: `K`, `T`, `Nw`, `Nr` and the private `__pi`, `__piinv`, `__R` (tables), `__k`, `__t` (extended key / tweak words) -/
theorem inventory_threefish :
    sameSet (ObjectsG.assigned "Threefish") (scratchOf (fields% ThreefishO.State) [] []) = true ∧
    sameSet (ObjectsG.ctorOnly "Threefish") ((fields% Threefish.Ctx).map mangleThreefish) = true := by decide +kernel

/-- helper classes that live inside one call and have no machine of their own: a `UBI` assigns nothing outside `__init__`
    (its `G`, `Ts` are constructor arguments; every Skein operation builds its own); a `Tweak` is a `Bits` mutated in place
    through its property setters (it is owned by the UBI that copied it); the Keccak `State` object held in `_S` has `lanes` -/
theorem inventory_unmodelled :
    ObjectsG.assigned "UBI" = [] ∧ ObjectsG.ctorOnly "UBI" = ["G", "Ts", "_cipherclass", "pad"] ∧
    ObjectsG.assigned "Tweak" = ["<self>"] ∧ ObjectsG.assigned "State" = ["lanes"] := by decide +kernel

/-- what the configurations stand for: the attributes only constructors assign -/
theorem inventory_ctor_only :
    ObjectsG.ctorOnly "SHA1" = ["K", "blocksize", "ft", "size", "version", "wsize"] ∧
    ObjectsG.ctorOnly "MD5" = ["K", "blocksize", "ft", "size", "st", "wsize"] ∧
    ObjectsG.ctorOnly "Keccak" = ["b", "n", "outlen", "w"] ∧
    ObjectsG.ctorOnly "MD6" = ["K", "L", "blocksize", "chunksize", "keylen", "rounds", "size", "wsize"] ∧
    ObjectsG.ctorOnly "Blake" = ["blocksize", "outlen", "size", "wsize"] ∧
    ObjectsG.ctorOnly "Blake2" = ["blocksize", "size", "wsize"] ∧
    ObjectsG.ctorOnly "TLSH" = ["MIN_DATA_LENGTH", "bktlen", "chklen", "codesize", "wnd_size"] ∧
    ObjectsG.ctorOnly "Nilsimsa" = ["tran"] ∧
    ObjectsG.ctorOnly "AES" = ["K", "Nb", "Nk", "Nr", "blocksize"] ∧
    ObjectsG.ctorOnly "DES" = ["K"] ∧ ObjectsG.ctorOnly "TDEA" = ["E1", "E2", "E3"] ∧ ObjectsG.ctorOnly "Serpent" = ["K", "keys"] ∧
    ObjectsG.ctorOnly "CBC" = ["IV", "_cipher", "pad"] ∧ ObjectsG.ctorOnly "Salsa20" = ["K", "dround"] ∧
    ObjectsG.ctorOnly "Chacha" = ["K", "dround"] ∧
    ObjectsG.ctorOnly "Skein" = ["C", "Nb", "No", "PK", "Yf", "Yl", "Ym", "kdf", "key", "non", "prs"] ∧
    ObjectsG.ctorOnly "Threefish" = ["K", "Nr", "Nw", "T", "_Threefish__R", "_Threefish__k", "_Threefish__pi", "_Threefish__piinv",
      "_Threefish__t"] := by decide +kernel

/-- shared state outside the instances: the module-level singletons are exactly these; no function stores into a
    module-level object; no parameter has a mutable default; no class-level data attribute is ever assigned through `self` -/
theorem inventory_shared :
    ObjectsG.singletons = ["blake.blake224:Blake", "blake.blake256:Blake", "blake.blake2b:Blake2", "blake.blake2s:Blake2",
      "blake.blake384:Blake", "blake.blake512:Blake", "keccak.keccak_224:Keccak", "keccak.keccak_256:Keccak",
      "keccak.keccak_384:Keccak", "keccak.keccak_512:Keccak", "tlsh.tlsh:TLSH"] ∧
    ObjectsG.globalsMutated = [] ∧ ObjectsG.mutableDefaults = [] ∧
    (ObjectsG.classes.all fun r => r.2.2.2.all fun a => !r.2.1.contains a && !r.2.2.1.contains a) = true := by decide +kernel

/-! ## Non-vacuity: concrete histories that DO leave non-default scratch state behind -/

example : (HashO.machine.run (HashO.init Md.md5Core) [.update (List.replicate 64 7) none false]).padmethod.bitcnt = 512 := by decide +kernel
example : (HashO.machine.run (HashO.init Md.md5Core) [.call [1] (some 9999)]).H = Md.md5Core.iv := by decide +kernel
example : (KeccakO.machine.run (KeccakO.init { b := 25, w := 1, n := 12, r := 8, outlen := some 8 }) [.duplex [1] (some 3) none])._S ≠ none := by
  decide +kernel
example : (Blake2O.machine.run (Blake2O.init Blake2.blake2b) [.call [1, 2, 3] { outlen := some 20 } 0]).outlen = 20 := by decide
example : (Blake2O.machine.run (Blake2O.init Blake2.blake2b) [.call [1, 2, 3] { outlen := some 99 } 0]).outlen = 99 := by decide
example : (AesO.machine.run (AesO.init (List.range 16)) [.keyschedule])._AES__w ≠ none := by decide +kernel
example : (NilsimsaO.machine.run (NilsimsaO.init (Nilsimsa.maketran 53)) [.update [1, 2, 3, 4, 5]]).count = 5 := by decide +kernel
example : (ModeO.machine.run (ModeO.init { nullCfg with scheme := .pkcs7 }) [.enc [1, 2, 3]]).pad.padflag = true := by decide +kernel
example : (KeccakO.machine.run (KeccakO.init { b := 25, w := 1, n := 12, r := 8, outlen := some 8 }) [.setrate 4]).cfg.r = 4 := by decide
/-- a Skein-256 history leaves a chaining value behind (one `_initstate()`), and a following `update` then succeeds -/
example : (Skein.mk 256 256 0 0 0 none none none none none).toOption.map (fun c =>
    ((SkeinO.machine.run (SkeinO.init c) [.initstate]).G.map List.length,
     (SkeinO.machine.out (SkeinO.machine.run (SkeinO.init c) [.initstate]) (.update [1, 2, 3])).toOption)) = some (some 32, some .none) := by
  decide +kernel
/-- the hypotheses of the stream theorems are inhabited: a block of 16 words of 32 bits -/
example : StreamAdm { chacha := false, K := none, dround := 10, p0 := Proofs.Lemmas.StreamPoly.ofBV (List.replicate 16 (5 : BitVec 32)) } :=
  ⟨_, by decide, rfl⟩
example : StreamValid (.enc ⟨0, 64⟩ [1, 2, 255]) := ⟨by decide, by decide⟩
example : ModeAdm { nullCfg with scheme := .pkcs7 } := by unfold ModeAdm; decide

end Proofs.C10
