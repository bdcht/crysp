/-
  C02 (DES part) — sanity of the SPECIFICATION lean/Spec/Des.lean, whose tables were typed from FIPS PUB 46-3: structural
  facts that every correct transcription satisfies and that a typing error in a table almost always violates (a non-permutation,
  IP⁻¹∘IP ≠ id, a broken generating pattern of IP / E / PC-1, a repeated value in an S-box row, a parity bit or an omitted
  position picked by PC-1 / PC-2).  Known answers through Spec.Des: Proofs/C02_DesSpec/{Kat,Weak,SboxTest,SboxKat*,SboxCover*}.lean.
  NOT established here: that P, PC-2's order and the S-box rows are THE permutations of the standard (any other permutation
  passes the structural test; the known answers and the comparison with tools/props/parts/desref.py are the evidence there).
-/
import Proofs.Lemmas.DesRotl
namespace Proofs.C02_DesSpec
open Spec.Des

def IsPermOf (n : Nat) (tbl : List Nat) : Prop := tbl.length = n ∧ tbl.Nodup ∧ ∀ k ∈ tbl, 1 ≤ k ∧ k ≤ n

def IsPermOf0 (n : Nat) (tbl : List Nat) : Prop := tbl.length = n ∧ tbl.Nodup ∧ ∀ k ∈ tbl, k < n

instance (n : Nat) (tbl : List Nat) : Decidable (IsPermOf n tbl) := by unfold IsPermOf; infer_instance
instance (n : Nat) (tbl : List Nat) : Decidable (IsPermOf0 n tbl) := by unfold IsPermOf0; infer_instance

theorem IP_is_permutation : IsPermOf 64 IP := by decide +kernel
theorem IPinv_is_permutation : IsPermOf 64 IPinv := by decide +kernel

theorem IP_IPinv_tables_inverse :
    ∀ i, i < 64 → IP.getD (IPinv.getD i 0 - 1) 0 = i + 1 ∧ IPinv.getD (IP.getD i 0 - 1) 0 = i + 1 := by
  decide +kernel

theorem IPinv_IP (x : Bitstr) (hx : x.length = 64) : permute IPinv (permute IP x) = x :=
  permute_permute_of_inverse x IP_is_permutation.1 IPinv_is_permutation.1 IPinv_is_permutation.2.2 hx fun i hi =>
    (IP_IPinv_tables_inverse i hi).1

theorem IP_IPinv (x : Bitstr) (hx : x.length = 64) : permute IP (permute IPinv x) = x :=
  permute_permute_of_inverse x IPinv_is_permutation.1 IP_is_permutation.1 IP_is_permutation.2.2 hx fun i hi =>
    (IP_IPinv_tables_inverse i hi).2

/-- IP by its generating pattern: write the input block as 8 rows (bytes) of 8 bits; output row r reads one input
    COLUMN from the bottom row upwards (entries decrease by 8), the even columns 2,4,6,8 first, then the odd columns
    1,3,5,7:  58 50 42 … 2 / 60 52 … 4 / … / 57 49 … 1 / … / 63 55 … 7 -/
theorem IP_follows_pattern :
    IP = (List.range 64).map fun i =>
      let r := i / 8
      let c := i % 8
      (if r < 4 then 2 * r + 2 else 2 * (r - 4) + 1) + 8 * (7 - c) := by
  decide +kernel

/-- hence IP⁻¹'s pattern: 40 8 48 16 56 24 64 32 / 39 7 47 15 … -/
theorem IPinv_follows_pattern :
    IPinv = (List.range 64).map fun i =>
      let r := i / 8
      let c := i % 8
      8 * (c / 2) + (if c % 2 = 0 then 40 else 8) - r := by
  decide +kernel

/-- E by its rule: the 32 bits in 8 groups of 4, each group extended by the last bit of the previous group and the
    first bit of the next one (cyclically) -/
theorem E_follows_rule :
    E = (List.range 48).map fun i => (4 * (i / 6) + i % 6 + 31) % 32 + 1 := by
  decide +kernel

theorem P_is_permutation : IsPermOf 32 P := by decide +kernel

/-- PC-1 selects each non-parity bit of the key exactly once and no parity bit (8, 16, …, 64) -/
theorem PC1_selects_nonparity_bits :
    PC1.length = 56 ∧ PC1.Nodup ∧ ∀ k, k < 65 → (k ∈ PC1 ↔ 1 ≤ k ∧ k % 8 ≠ 0) := by
  decide +kernel

/-- PC-1 by its generating pattern: the C half reads the key bytes' bit columns 1, 2, 3 from the bottom and the lower
    half of column 4; the D half columns 7, 6, 5 and then the upper half of column 4 -/
theorem PC1_follows_pattern :
    PC1 = (List.range 28).map (fun i => if i < 24 then 57 - 8 * (i % 8) + i / 8 else 60 - 8 * (i - 24))
        ++ (List.range 28).map (fun i => if i < 24 then 63 - 8 * (i % 8) - i / 8 else 28 - 8 * (i - 24)) := by
  decide +kernel

/-- PC-2 selects 48 distinct positions of C‖D, the first 24 from C (≤ 28), the last 24 from D -/
theorem PC2_selects_48_of_56 :
    PC2.length = 48 ∧ PC2.Nodup ∧
    (∀ k, k < 57 → (k ∈ PC2 ↔ 1 ≤ k ∧ k ∉ [9, 18, 22, 25, 35, 38, 43, 54])) ∧
    (∀ k ∈ PC2, 1 ≤ k ∧ k ≤ 56) ∧
    (∀ k ∈ PC2.take 24, k ≤ 28) ∧ (∀ k ∈ PC2.drop 24, 28 < k) := by
  decide +kernel

/-- the shifts total 28 (so C16 D16 = C0 D0); single shifts exactly in iterations 1, 2, 9, 16 -/
theorem shifts_sum_to_28 :
    shifts.length = 16 ∧ shifts.foldl (· + ·) 0 = 28 ∧
    ∀ i, i < 16 → shifts.getD i 0 = if i ∈ [0, 1, 8, 15] then 1 else 2 := by
  decide +kernel

/-- after the sixteen iterations the halves are back where they started (what makes deciphering with the reversed key
    order work with right shifts) -/
theorem rotl_total (x : Bitstr) (hx : x.length = 28) : shifts.foldl (fun c s => rotl s c) x = x := by
  have hsum : shifts.sum = 28 := List.sum_eq_foldl.trans shifts_sum_to_28.2.1
  rw [foldl_rotl shifts x (Nat.le_of_eq (hsum.trans hx.symm)), hsum]
  simp [rotl, ← hx]

theorem sbox_rows_are_permutations :
    Sboxes.length = 8 ∧ ∀ S ∈ Sboxes, S.length = 4 ∧ ∀ row ∈ S, IsPermOf0 16 row := by
  decide +kernel

/-- the example of FIPS 46-3 (description of the selection functions): S1(011011) = 0101 (row 01, column 1101 → 5) -/
theorem sbox_example : sbox 0 [false, true, true, false, true, true] = [false, true, false, true] := by
  decide +kernel

end Proofs.C02_DesSpec
