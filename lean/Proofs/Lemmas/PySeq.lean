/-
  Python sequence indexing over a length, for every container of the model (Bits, Poly, plain lists): what an int
  index denotes (`Py.normIndex`), `range(a,b,step)`, `slice.indices` (`Py.sliceIndices`), and the effect of an assignment
  loop `for j,x in zip(js,xs): s[j] = x` on one position (the last write that hits it wins).
-/
import Model.Py
import Proofs.Lemmas.Fold
namespace Proofs.Lemmas.PySeq
open Model Model.Py

theorem normIndex_eq_some {i : Int} {n p : Nat} :
    normIndex i n = some p ↔ -(n : Int) ≤ i ∧ i < n ∧ (p : Int) = if i < 0 then i + n else i := by
  unfold normIndex
  split
  · rw [Option.some.injEq]; omega
  · split
    · rw [Option.some.injEq]; omega
    · simp only [reduceCtorEq, false_iff]; omega

theorem normIndex_eq_none {i : Int} {n : Nat} : normIndex i n = none ↔ i < -(n : Int) ∨ (n : Int) ≤ i := by
  unfold normIndex
  split
  · simp only [reduceCtorEq, false_iff]; omega
  · split
    · simp only [reduceCtorEq, false_iff]; omega
    · simp only [true_iff]; omega

theorem normIndex_lt {i : Int} {len p : Nat} (h : normIndex i len = some p) : p < len := by
  have := PySeq.normIndex_eq_some.mp h
  split at this <;> omega

theorem normIndex_of_bounds {x : Int} {len : Nat} (h0 : 0 ≤ x) (h1 : x < len) : normIndex x len = some x.toNat :=
  normIndex_eq_some.mpr (by omega)

@[scoped simp] theorem range_length (s e st : Int) : (Py.range s e st).length = rangeLen s e st := by
  simp [Py.range]

theorem range_getElem (s e st : Int) (j : Nat) (h : j < (Py.range s e st).length) :
    (Py.range s e st)[j] = s + st * (j : Int) := by
  simp [Py.range]

theorem range_pos_bounds {s e st : Int} (hst : 0 < st) {j : Nat} (hj : j < rangeLen s e st) :
    s ≤ s + st * (j : Int) ∧ s + st * (j : Int) < e := by
  unfold rangeLen at hj
  simp only [gt_iff_lt, hst, ↓reduceIte] at hj
  split at hj
  · have h1 : (j : Int) < (e - s - 1) / st + 1 := Int.lt_toNat.1 hj
    have h2 : (j : Int) ≤ (e - s - 1) / st := by omega
    have h3 := (Int.le_ediv_iff_mul_le hst).1 h2
    have h4 : 0 ≤ st * (j : Int) := Int.mul_nonneg (by omega) (by omega)
    rw [Int.mul_comm] at h3
    omega
  · omega

theorem rangeLen_neg (s e st : Int) (hst : st < 0) : rangeLen s e st = rangeLen (-s) (-e) (-st) := by
  unfold rangeLen
  rw [if_neg (by omega), if_pos (by omega : -st > 0)]
  by_cases h : e < s
  · rw [if_pos h, if_pos (by omega), show -e - -s - 1 = s - e - 1 by omega]
  · rw [if_neg h, if_neg (by omega)]

theorem range_neg_bounds {s e st : Int} (hst : st < 0) {j : Nat} (hj : j < rangeLen s e st) :
    e < s + st * (j : Int) ∧ s + st * (j : Int) ≤ s := by
  rw [rangeLen_neg s e st hst] at hj
  have := range_pos_bounds (by omega : 0 < -st) hj
  rw [Int.neg_mul] at this
  omega

theorem mem_range_iff (s e st x : Int) : x ∈ Py.range s e st ↔ ∃ j : Nat, j < rangeLen s e st ∧ x = s + st * (j : Int) := by
  simp only [Py.range, List.mem_map, List.mem_range]
  exact ⟨fun ⟨j, hj, h⟩ => ⟨j, hj, h.symm⟩, fun ⟨j, hj, h⟩ => ⟨j, hj, h.symm⟩⟩

theorem range_nonneg {s e st : Int} (hs : 0 ≤ s) (hst : 0 ≤ st) : ∀ i ∈ Py.range s e st, 0 ≤ i := by
  intro i hi
  obtain ⟨j, _, rfl⟩ := (mem_range_iff s e st i).mp hi
  have : 0 ≤ st * (j:Int) := Int.mul_nonneg hst (Int.natCast_nonneg j)
  omega

theorem sliceIndices_bounds {start stop step : Option Int} {len : Nat} {s e st : Int}
    (h : sliceIndices start stop step len = .ok (s, e, st)) :
    st ≠ 0 ∧ st = step.getD 1 ∧
    (0 < st → 0 ≤ s ∧ s ≤ len ∧ 0 ≤ e ∧ e ≤ len) ∧
    (st < 0 → -1 ≤ s ∧ s ≤ (len : Int) - 1 ∧ -1 ≤ e ∧ e ≤ (len : Int) - 1) := by
  unfold sliceIndices at h
  simp only at h
  split at h
  · cases h
  · rename_i hst
    injection h with h
    simp only [Prod.mk.injEq] at h
    obtain ⟨hs, he, rfl⟩ := h
    -- each end point on its own: `omega` splits the three tests of `PySlice_AdjustIndices` itself
    have hS : (0 < step.getD 1 → 0 ≤ s ∧ s ≤ len) ∧ (step.getD 1 < 0 → -1 ≤ s ∧ s ≤ (len : Int) - 1) := by
      cases start <;> simp only at hs <;> omega
    have hE : (0 < step.getD 1 → 0 ≤ e ∧ e ≤ len) ∧ (step.getD 1 < 0 → -1 ≤ e ∧ e ≤ (len : Int) - 1) := by
      cases stop <;> simp only at he <;> omega
    exact ⟨hst, rfl, fun h => ⟨(hS.1 h).1, (hS.1 h).2, hE.1 h⟩, fun h => ⟨(hS.2 h).1, (hS.2 h).2, hE.2 h⟩⟩

theorem sliceIndices_fwd {start stop step : Option Int} {n : Nat} {s e st : Int}
    (h : sliceIndices start stop step n = .ok (s, e, st)) (hst : 0 ≤ st) : 0 ≤ s ∧ 0 ≤ e := by
  obtain ⟨h0, _, hp, _⟩ := sliceIndices_bounds h
  have := hp (by omega)
  omega

theorem sliceIndices_one {start stop step : Option Int} {len : Nat} {s e : Int}
    (h : sliceIndices start stop step len = .ok (s, e, 1)) : ∃ a c : Nat, s = a ∧ e = c ∧ a ≤ len ∧ c ≤ len := by
  have := (sliceIndices_bounds h).2.2.1 (by omega)
  exact ⟨s.toNat, e.toNat, by omega, by omega, by omega, by omega⟩

theorem sliceIndices_nat (a b len : Nat) (hab : a ≤ b) (h : b ≤ len) :
    sliceIndices (some (a : Int)) (some (b : Int)) none len = .ok ((a : Int), (b : Int), 1) := by
  have h1 : ¬ ((a : Int) < 0) := by omega
  have h2 : ¬ ((a : Int) > (len : Int)) := by omega
  have h3 : ¬ ((b : Int) < 0) := by omega
  have h4 : ¬ ((b : Int) > (len : Int)) := by omega
  simp [sliceIndices, h1, h2, h3, h4]

theorem sliceIndices_error_iff (start stop step : Option Int) (len : Nat) :
    (∃ err, sliceIndices start stop step len = .error err) ↔ step = some 0 := by
  unfold sliceIndices
  simp only
  constructor
  · rintro ⟨err, h⟩
    split at h
    · rename_i h0
      cases step with
      | none => simp at h0
      | some v => simp at h0; rw [h0]
    · cases h
  · rintro rfl
    exact ⟨"ValueError:slice step cannot be zero", by simp⟩

theorem range_in_bounds {start stop step : Option Int} {len : Nat} {s e st : Int}
    (h : sliceIndices start stop step len = .ok (s, e, st)) {j : Nat} (hj : j < rangeLen s e st) :
    0 ≤ s + st * (j : Int) ∧ s + st * (j : Int) < len := by
  obtain ⟨h0, _, hp, hn⟩ := sliceIndices_bounds h
  by_cases hpos : 0 < st
  · have := range_pos_bounds hpos hj
    have := hp hpos
    omega
  · have hneg : st < 0 := by omega
    have := range_neg_bounds hneg hj
    have := hn hneg
    omega

theorem range_one (a c : Nat) : Py.range a c 1 = (List.range (c - a)).map fun j => ((a + j : Nat) : Int) := by
  have hl : rangeLen a c 1 = c - a := by
    unfold rangeLen
    rw [if_pos (by omega), Int.ediv_one]
    split <;> omega
  rw [Py.range, hl]
  exact List.map_congr_left fun j _ => by omega

theorem range_one' (a c : Nat) : Py.range a c 1 = (List.range' a (c - a)).map Int.ofNat := by
  rw [range_one, List.range'_eq_map_range, List.map_map]
  rfl

/-! A loop of writes, read at one position: `hit p` says that write `p` addresses the position, `val p` is what it stores. -/

theorem foldl_write_none {α β : Type} {hit : α → Prop} [DecidablePred hit] {val : α → β} (l : List α) (x : β)
    (h : ∀ p ∈ l, ¬ hit p) : l.foldl (fun x p => if hit p then val p else x) x = x :=
  Fold.foldl_inv (· = x) _ l (fun p hp _ ha => (if_neg (h p hp)).trans ha) rfl

theorem foldl_write_last {α β : Type} {hit : α → Prop} [DecidablePred hit] {val : α → β} (l : List α) (x : β) (t : Nat)
    (ht : t < l.length) (h0 : hit l[t]) (hl : ∀ t' (h' : t' < l.length), t < t' → ¬ hit l[t']) :
    l.foldl (fun x p => if hit p then val p else x) x = val l[t] := by
  conv =>
    lhs
    rw [← List.take_append_drop t l, ← List.getElem_cons_drop ht]
  rw [List.foldl_append, List.foldl_cons, if_pos h0]
  refine foldl_write_none _ _ fun q hq => ?_
  obtain ⟨i, hi, rfl⟩ := List.getElem_of_mem hq
  rw [List.getElem_drop]
  exact hl _ _ (by omega)

theorem foldl_zip_last {ι ν β : Type} {hit : ι → Prop} [DecidablePred hit] {val : ν → β} (js : List ι) (xs : List ν)
    (x : β) (t : Nat) (h1 : t < js.length) (h2 : t < xs.length) (h0 : hit js[t])
    (hl : ∀ t' (h' : t' < js.length), t < t' → ¬ hit js[t']) :
    (js.zip xs).foldl (fun x p => if hit p.1 then val p.2 else x) x = val xs[t] := by
  have hz : t < (js.zip xs).length := by simp only [List.length_zip]; omega
  rw [foldl_write_last (hit := fun p : ι × ν => hit p.1) (val := fun p => val p.2) _ x t hz (by simpa using h0)]
  · simp
  · intro t' ht' htt'
    simp only [List.length_zip] at ht'
    simpa using hl t' (by omega) htt'

theorem foldl_zip_none {ι ν β : Type} {hit : ι → Prop} [DecidablePred hit] {val : ν → β} (js : List ι) (xs : List ν)
    (x : β) (h : ∀ j ∈ js, ¬ hit j) : (js.zip xs).foldl (fun x p => if hit p.1 then val p.2 else x) x = x :=
  foldl_write_none (hit := fun p : ι × ν => hit p.1) (val := fun p => val p.2) _ x fun p hp => h p.1 (List.of_mem_zip hp).1

end Proofs.Lemmas.PySeq
