/-
  Skein bit padding: `(Bits(M,bitlen)[//Bits(1,1)]).bytes()` (bitstream load through reverse_byte, truncate to the bit
  length, append a one bit, write back through reverse_byte) = the specification's rule on the last byte.
-/
import Model.Skein
import Spec.Skein
import Proofs.Lemmas.TfBytes
namespace Proofs.Lemmas.SkBitPad
open Model Proofs.Lemmas Proofs.Lemmas.Bytes Proofs.Lemmas.TfBytes
open Proofs.Lemmas.Bits (reverseByte_lt reverseByte_reverseByte)
open Model.Py (leInt)

/-- the last, partial byte: keep the r most significant bits, set the next one, clear the rest (all bytes, r = 1..7) -/
theorem rev_last : ∀ r < 8, 0 < r → ∀ b < 256,
    Bits.reverseByte (Bits.reverseByte b % 2 ^ r + 2 ^ r) = b / 2 ^ (8 - r) * 2 ^ (8 - r) + 2 ^ (7 - r) := by decide +kernel

theorem isBytes_map_rev (M : List Nat) (h : IsBytes M) : IsBytes (M.map Bits.reverseByte) :=
  AllBytes.map reverseByte_lt h

theorem low_bytes (M : List Nat) (h : AllBytes M) (L X : Nat) (hL : L ≤ 8 * M.length)
    (hX : X % 2 ^ L = leInt (M.map Bits.reverseByte) % 2 ^ L) :
    (List.range (L / 8)).map (fun k => Bits.reverseByte (byteAt X k)) = M.take (L / 8) := by
  rw [← Fold.map_getD_range M 0 (L / 8) (by omega)]
  apply List.map_congr_left
  intro k hk
  have hk' := List.mem_range.1 hk
  rw [← byteAt_mod X L k (by omega), hX, byteAt_mod _ L k (by omega), byteAt_leInt _ (h.map reverseByte_lt),
    Fold.getD_map_lt _ M k 0 0 (by omega)]
  exact reverseByte_reverseByte _ (h.getD_lt k)

/-- `f` stands for `Bits.reverseByte`: its byte bound and `rev_last` are all the proof needs of it -/
theorem last_byte (f : Nat → Nat) (hf : ∀ b < 256, f b < 256)
    (hlast : ∀ r, r < 8 → 0 < r → ∀ b < 256, f (f b % 2 ^ r + 2 ^ r) = b / 2 ^ (8 - r) * 2 ^ (8 - r) + 2 ^ (7 - r))
    (M : List Nat) (h : AllBytes M) (q r : Nat) (hr : r < 8) (h0 : 0 < r) (hq : q < M.length) :
    f (byteAt (leInt (M.map f) % 2 ^ (8 * q + r) + 2 ^ (8 * q + r)) q) =
      M.getD q 0 / 2 ^ (8 - r) * 2 ^ (8 - r) + 2 ^ (7 - r) := by
  rw [byteAt_last _ _ _ hr, byteAt_leInt _ (h.map hf), Fold.getD_map_lt f M q 0 0 hq]
  exact hlast r hr h0 _ (h.getD_lt q)

theorem bitPadded_eq (M : List Nat) (h : AllBytes M) (L : Nat) (hL : L ≤ 8 * M.length) :
    Skein.bitPadded M (some L) = .ok (Spec.Skein.bitPad M L) := by
  unfold Skein.bitPadded Spec.Skein.bitPad
  dsimp only []
  rw [Bits.ofBytes_rev_size_eq M h L]
  simp only [bind, Except.bind, pure, Except.pure]
  have hY : leInt (M.map Bits.reverseByte) % 2 ^ L < 2 ^ L := Nat.mod_lt _ (Nat.two_pow_pos _)
  by_cases hr : L % 8 = 0
  · simp only [hr, ne_eq, not_true_eq_false, ite_false, ite_true]
    rw [Bits.toBytes_mk _ _ hY, show (L + 7) / 8 = L / 8 by omega]
    congr 2
    exact low_bytes M h L _ hL (Nat.mod_mod _ _)
  · simp only [hr, ne_eq, not_false_eq_true, ite_true, ite_false]
    have hr8 : L % 8 < 8 := Nat.mod_lt _ (by decide)
    have hLq : L = 8 * (L / 8) + L % 8 := by omega
    have hc : (⟨leInt (M.map Bits.reverseByte) % 2 ^ L, L⟩ : Bits).concat (Bits.ofNatSz 1 1) =
        ⟨leInt (M.map Bits.reverseByte) % 2 ^ L + 1 * 2 ^ L, L + 1⟩ :=
      Bits.concat_eq_add ⟨_, L⟩ _ hY (Bits.ofNatSz_wf 1 1)
    rw [hc, Bits.toBytes_mk _ _ (by rw [Nat.pow_succ]; omega), show (L + 1 + 7) / 8 = L / 8 + 1 by omega, List.range_succ, List.map_append]
    apply congrArg (fun x => Except.ok (x, 1))
    apply congr (congrArg HAppend.hAppend ?_) ?_
    · exact low_bytes M h L _ hL (by rw [Nat.add_mul_mod_self_right, Nat.mod_mod])
    · simp only [List.map_cons, List.map_nil, List.cons.injEq, and_true]
      have := last_byte Bits.reverseByte reverseByte_lt rev_last M h (L / 8) (L % 8) hr8 (by omega) (by omega)
      rw [← hLq] at this
      rw [Nat.one_mul]
      exact this

theorem bitPadded_none (M : List Nat) : Skein.bitPadded M none = .ok (Spec.Skein.bitPad M (8 * M.length)) := by
  unfold Skein.bitPadded Spec.Skein.bitPad
  simp [pure, Except.pure]

end Proofs.Lemmas.SkBitPad
