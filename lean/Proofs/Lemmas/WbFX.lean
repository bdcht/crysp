/-
  For C18: the linear layer `__FX` — `res[b] = (v & M2[b]).hw() % 2` — as an xor of selected bits.
-/
import Model.Wb
import Proofs.Lemmas.WbBits
import Proofs.Lemmas.BitsExt
namespace Proofs.Lemmas.Wb
open Model Model.Wb Model.Bits

def rowMask (ps : List Nat) : Nat := ps.foldl (fun a p => a ||| 2 ^ p) 0

def fxBit (v : Bits) (t : Nat) : Bool := decide ((v.and (ofNat t)).hw % 2 = 1)

theorem fxBit_toNat (v : Bits) (t : Nat) : (v.and (ofNat t)).hw % 2 = (fxBit v t).toNat := by
  unfold fxBit
  rcases Nat.mod_two_eq_zero_or_one (v.and (ofNat t)).hw with h | h <;> simp [h]

theorem and_ofNat (v : Bits) (t : Nat) (hv : v.size = 96) (ht : t < 2 ^ 96) :
    v.and (ofNat t) = ⟨v.ival &&& t, 96⟩ := by
  rw [Bits.and, Bits.wsize_ofNat v (hv ▸ ht), hv]
  rfl

theorem fxBit_one (v : Bits) (hv : v.size = 96) (p : Nat) (hp : p < 96) : fxBit v (rowMask [p]) = v.ival.testBit p := by
  have ht : 2 ^ p < 2 ^ 96 := Nat.pow_lt_pow_right (by decide) hp
  rw [show rowMask [p] = 2 ^ p from Nat.zero_or _, fxBit, and_ofNat v _ hv ht, Bits.hw_eq_cnt, Bits.cnt_and_pow, if_pos hp]
  cases v.ival.testBit p <;> rfl

theorem fxBit_two (v : Bits) (hv : v.size = 96) (p q : Nat) (hp : p < 96) (hq : q < 96) (hpq : p ≠ q) :
    fxBit v (rowMask [p, q]) = (v.ival.testBit p ^^ v.ival.testBit q) := by
  have ht : 2 ^ p ||| 2 ^ q < 2 ^ 96 :=
    Nat.or_lt_two_pow (Nat.pow_lt_pow_right (by decide) hp) (Nat.pow_lt_pow_right (by decide) hq)
  have hd : (v.ival &&& 2 ^ p) &&& (v.ival &&& 2 ^ q) = 0 := by
    apply Nat.eq_of_testBit_eq
    intro i
    simp only [Nat.testBit_and, Nat.testBit_two_pow, Nat.zero_testBit]
    by_cases h1 : p = i <;> by_cases h2 : q = i <;> simp [h1, h2]
    omega
  rw [show rowMask [p, q] = 2 ^ p ||| 2 ^ q from congrArg (· ||| 2 ^ q) (Nat.zero_or _), fxBit, and_ofNat v _ hv ht,
    Bits.hw_eq_cnt, Nat.and_or_distrib_left, Bits.cnt_or _ _ _ hd, Bits.cnt_and_pow, Bits.cnt_and_pow, if_pos hp, if_pos hq]
  cases v.ival.testBit p <;> cases v.ival.testBit q <;> rfl

theorem fxLoop_ok (tM2 : List Nat) (v : Bits) (h2 : tM2.length = 96) (bs : List Nat) (hnd : bs.Nodup) (hbs : ∀ b ∈ bs, b < 96)
    (res : Bits) (hs : res.size = 96) (hw : res.WF) :
    ∃ res', fxLoop tM2 v bs res = .ok res' ∧ (res'.size = 96 ∧ res'.WF) ∧
      ∀ i, res'.ival.testBit i = if i ∈ bs then fxBit v (tM2.getD i 0) else res.ival.testBit i := by
  refine Fold.loop_writes (fxLoop tM2 v) (fun _ => rfl) (fun r => r.size = 96 ∧ r.WF) (fun r i => r.ival.testBit i) id
    (fun b _ => fxBit v (tM2.getD b 0)) res bs hnd ?_ res ⟨hs, hw⟩ fun _ _ => rfl
  intro b hb r hr _
  have hbl : b < tM2.length := by rw [h2]; exact hbs b hb
  obtain ⟨r', s1, s2, s3, s4⟩ := Bits.setInt_bool r hr.2 b (by rw [hr.1]; exact hbs b hb) (fxBit v tM2[b])
  refine ⟨r', fun rest => ?_, ⟨s2.trans hr.1, s3⟩, fun i => ?_⟩
  · rw [fxLoop, pyIdx_ok _ _ hbl, Fold.ok_bind, fxBit_toNat, s1, Fold.ok_bind]
  · rw [s4, List.getD_eq_getElem?_getD, List.getElem?_eq_getElem hbl, Option.getD_some]
    rfl

end Proofs.Lemmas.Wb
