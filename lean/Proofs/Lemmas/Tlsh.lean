/-
  Helper lemmas about Model.Tlsh for Proofs.C19: the population gate, `finalOf` / `final` / `tlsh` as one equation each,
  digest objects and `from_hash`, symmetry of `distance`.
-/
import Model.Tlsh
import Proofs.Lemmas.Lsh
import Proofs.Lemmas.Fold
namespace Proofs.Lemmas.Tlsh
open Model Model.Tlsh Model.Gen.Lsh

theorem pearsonT_perm : pearsonT.Perm (List.range 256) :=
  Lsh.perm_range_of_mask _ 256 (by decide +kernel) (by decide +kernel)

theorem pearson_lt (x : Nat) : pearson x < 256 := by
  unfold pearson
  rw [List.getD_eq_getElem?_getD]
  cases h : pearsonT[x]? with
  | none => exact Nat.zero_lt_succ _
  | some v => exact List.mem_range.mp (pearsonT_perm.mem_iff.mp (List.mem_of_getElem? h))

theorem bMapping4_lt (s a b c : Nat) : bMapping [s, a, b, c] < 256 := by
  simp only [bMapping, List.foldl]; exact pearson_lt _

theorem ckStep_length (d0 d1 s : Nat) (cs : List Nat) : (ckStep d0 d1 s cs).length = cs.length := by
  induction cs generalizing s with
  | nil => rfl
  | cons c cs ih => simp [ckStep, ih]

theorem ckStep_lt (d0 d1 s : Nat) (cs : List Nat) : ∀ x ∈ ckStep d0 d1 s cs, x < 256 := by
  induction cs generalizing s with
  | nil => simp [ckStep]
  | cons c cs ih =>
    intro x hx
    simp only [ckStep, List.mem_cons] at hx
    rcases hx with rfl | hx
    · exact bMapping4_lt _ _ _ _
    · exact ih _ x hx

theorem bump_length (b : List Nat) (i : Nat) : (bump b i).length = b.length := by simp [bump]

/-- what every state reached by `update` satisfies -/
structure StWF (n : Nat) (st : St) : Prop where
  cklen : st.checksum.length = n
  cklt : ∀ x ∈ st.checksum, x < 256
  bklen : st.bucket.length = 256

theorem init_wf (c : Cfg) : StWF c.chklen (St.init c) :=
  ⟨by simp only [St.init, List.length_replicate],
   by intro x hx; simp only [St.init] at hx; rw [(List.mem_replicate.mp hx).2]; omega,
   by simp only [St.init, List.length_replicate]⟩

theorem stepWindow_wf {n : Nat} {st : St} (h : StWF n st) (win : List Nat) : StWF n (stepWindow st win) :=
  ⟨by simp [stepWindow, ckStep_length, h.cklen], by simpa [stepWindow] using ckStep_lt _ _ _ _,
   Fold.foldl_inv (·.length = 256) _ _ (fun _ _ b hb => (bump_length b _).trans hb) h.bklen⟩

theorem update_wf (c : Cfg) (data : List Nat) : StWF c.chklen (update c data) :=
  Fold.foldl_inv (StWF c.chklen) stepWindow _ (fun w _ _ h => stepWindow_wf h w) (init_wf c)

theorem insertSorted_perm (x : Nat) (l : List Nat) : (insertSorted x l).Perm (x :: l) := by
  induction l with
  | nil => simp [insertSorted]
  | cons y ys ih =>
    simp only [insertSorted]
    split
    · exact List.Perm.refl _
    · exact ((List.Perm.cons y ih).trans (List.Perm.swap x y ys))

theorem isort_perm (l : List Nat) : (isort l).Perm l := by
  induction l with
  | nil => exact List.Perm.refl _
  | cons x xs ih => exact (insertSorted_perm x _).trans (List.Perm.cons x ih)

theorem insertSorted_sorted (x : Nat) (l : List Nat) (h : l.Pairwise (· ≤ ·)) : (insertSorted x l).Pairwise (· ≤ ·) := by
  induction l with
  | nil => simp [insertSorted]
  | cons y ys ih =>
    simp only [insertSorted]
    split
    · rename_i hxy
      refine List.Pairwise.cons ?_ h
      intro z hz
      rcases List.mem_cons.mp hz with rfl | hz
      · exact hxy
      · exact Nat.le_trans hxy (List.rel_of_pairwise_cons h hz)
    · rename_i hxy
      have hy : ∀ z ∈ ys, y ≤ z := fun z hz => List.rel_of_pairwise_cons h hz
      refine List.Pairwise.cons ?_ (ih (List.Pairwise.of_cons h))
      intro z hz
      rcases List.mem_cons.mp ((insertSorted_perm x ys).mem_iff.mp hz) with rfl | hz
      · omega
      · exact hy z hz

theorem isort_sorted (l : List Nat) : (isort l).Pairwise (· ≤ ·) := by
  induction l with
  | nil => exact List.Pairwise.nil
  | cons x xs ih => exact insertSorted_sorted x _ ih

theorem isort_length (l : List Nat) : (isort l).length = l.length := (isort_perm l).length_eq

theorem isort_count_iff (l : List Nat) (k : Nat) (hk : k < l.length) (x : Nat) :
    k < (l.filter (· ≤ x)).length ↔ (isort l).getD k 0 ≤ x := by
  have hk' : k < (isort l).length := by rw [isort_length]; exact hk
  rw [← ((isort_perm l).filter _).length_eq, List.getD_eq_getElem?_getD, List.getElem?_eq_getElem hk']
  exact Fold.sorted_count_iff _ (isort_sorted l) k hk' x

theorem isort_getD_mem (l : List Nat) (k : Nat) (hk : k < l.length) : (isort l).getD k 0 ∈ l := by
  have hk' : k < (isort l).length := by rw [isort_length]; exact hk
  rw [List.getD_eq_getElem?_getD, List.getElem?_eq_getElem hk']
  exact (isort_perm l).mem_iff.mp (List.getElem_mem hk')

theorem nonzero_le_of_quartile_zero (l : List Nat) (p : Nat) (hp : p < l.length) (h0 : (isort l).getD p 0 = 0) :
    (l.filter (· ≠ 0)).length ≤ l.length - (p + 1) := by
  have hz := (isort_count_iff l p hp 0).mpr (Nat.le_of_eq h0)
  have hsum := List.length_eq_countP_add_countP (· ≤ 0) (l := l)
  have hne : (fun a => decide ¬(decide (a ≤ 0)) = true) = fun a : Nat => decide (a ≠ 0) := by
    funext a
    simp
  rw [hne, List.countP_eq_length_filter, List.countP_eq_length_filter] at hsum
  omega

theorem valid_cases {c : Cfg} (h : c.valid = true) :
    (c.buckets = 256 ∨ c.buckets = 128 ∨ c.buckets = 48) ∧ (4 ≤ c.window ∧ c.window ≤ 8) ∧ (c.chklen = 1 ∨ c.chklen = 3) := by
  simp [Cfg.valid] at h
  omega

theorem take_length {c : Cfg} (hc : c.valid = true) {b : List Nat} (hb : b.length = 256) :
    (b.take c.buckets).length = c.buckets := by
  have := (valid_cases hc).1
  rw [List.length_take, hb]
  omega

/-- on 256 buckets neither IndexError of `finalOf` fires -/
theorem index_ok {c : Cfg} (hc : c.valid = true) {b : List Nat} (hb : b.length = 256) :
    ¬ (b.take c.buckets).length ≤ 3 * c.codesize - 1 ∧ ¬ b.length < c.buckets := by
  have := (valid_cases hc).1
  rw [take_length hc hb, hb]
  unfold Cfg.codesize
  omega

/-- behind the population gate the third quartile is positive: `q3 = 0` would leave at most a quarter of the buckets
    (48 buckets: 12) non-zero -/
theorem gate_q3_pos {c : Cfg} (hc : c.valid = true) {st : St} (hb : st.bucket.length = 256)
    (hg : ¬ tooFew c.buckets (nonzero c st.bucket) = true) : (quartiles c st.bucket).2.2 ≠ 0 := by
  intro h0
  have hv := (valid_cases hc).1
  have hlen := take_length hc hb
  have hp : 3 * c.codesize - 1 < (st.bucket.take c.buckets).length := by
    rw [hlen]; unfold Cfg.codesize; omega
  have := nonzero_le_of_quartile_zero (st.bucket.take c.buckets) (3 * c.codesize - 1) hp (by simpa [quartiles] using h0)
  rw [hlen] at this
  unfold Cfg.codesize at this
  have hn : nonzero c st.bucket ≤ c.buckets - (3 * (c.buckets / 4) - 1 + 1) := this
  generalize nonzero c st.bucket = n at hn hg
  rcases hv with h | h | h <;> simp [tooFew, h] at hg hn <;> omega

/-- the object `finalOf` hands out behind the gates -/
def mkObjOf (lcap : Nat → Nat) (c : Cfg) (st : St) (n : Nat) : TObj :=
  let q := quartiles c st.bucket
  { chklen := c.chklen, checksum := st.checksum, lvalue := lcap n % 256,
    q1 := q.1 * 100 / q.2.2 % 16, q2 := q.2.1 * 100 / q.2.2 % 16,
    code := bodyCode c q.1 q.2.1 q.2.2 st.bucket }

theorem gates_or {α} {A T : Prop} [Decidable A] [Decidable T] (x y : α) :
    (if A then x else if T then x else y) = if A ∨ T then x else y := by
  by_cases hA : A <;> by_cases hT : T <;> simp [hA, hT]

/-- on 256 buckets `finalOf` never raises: the two IndexErrors need a shorter array, the division is guarded by the gate -/
theorem finalOf_eq (lcap : Nat → Nat) (c : Cfg) (hc : c.valid = true) (st : St) (hb : st.bucket.length = 256)
    (n : Nat) (force : Bool) :
    finalOf lcap c st n force = .ok
      (if n < 50 ∨ (force = false ∧ n < 256) ∨ tooFew c.buckets (nonzero c st.bucket) = true then none
       else some (mkObjOf lcap c st n)) := by
  unfold finalOf mkObjOf
  simp only [minLen, minLenNoForce, index_ok hc hb, ↓reduceIte, gates_or, or_assoc]
  split
  · rfl
  · rename_i hg
    rw [if_neg (gate_q3_pos hc hb fun ht => hg (.inr (.inr ht)))]

theorem final_eq_finalOf (lcap : Nat → Nat) (c : Cfg) (hc : c.valid = true) (data : List Nat) (force : Bool) :
    final lcap c data force = finalOf lcap c (update c data) data.length force := by
  unfold final finalOf
  simp only [index_ok hc (update_wf c data).bklen, ↓reduceIte]

theorem finalOf_some (lcap : Nat → Nat) (c : Cfg) (hc : c.valid = true) (st : St) (hb : st.bucket.length = 256)
    (n : Nat) (force : Bool) (o : TObj) (h : finalOf lcap c st n force = .ok (some o)) :
    o = mkObjOf lcap c st n ∧ (quartiles c st.bucket).2.2 ≠ 0 := by
  rw [finalOf_eq lcap c hc st hb] at h
  split at h
  · cases h
  · rename_i hg
    exact ⟨(Option.some.inj (Except.ok.inj h)).symm,
      gate_q3_pos hc hb fun ht => hg (.inr (.inr ht))⟩

theorem tlsh_eq (lcap : Nat → Nat) (c : Cfg) (hc : c.valid = true) (data : List Nat) (force : Bool) :
    tlsh lcap c data force = .ok
      ((if data.length < 50 ∨ (force = false ∧ data.length < 256)
            ∨ tooFew c.buckets (nonzero c (update c data).bucket) = true then none
        else some (mkObjOf lcap c (update c data) data.length)).map digest) := by
  unfold tlsh
  rw [if_neg (by simp [hc]), final_eq_finalOf lcap c hc, finalOf_eq lcap c hc _ (update_wf c data).bklen]
  rfl

theorem tlsh_some {lcap : Nat → Nat} {c : Cfg} {data : List Nat} {force : Bool} {d : List Nat}
    (h : tlsh lcap c data force = .ok (some d)) :
    c.valid = true ∧ final lcap c data force = .ok (some (mkObjOf lcap c (update c data) data.length))
      ∧ digest (mkObjOf lcap c (update c data) data.length) = d := by
  have hc : c.valid = true := by
    cases hv : c.valid with
    | true => rfl
    | false => simp [tlsh, hv] at h
  rw [tlsh_eq lcap c hc] at h
  rw [final_eq_finalOf lcap c hc, finalOf_eq lcap c hc _ (update_wf c data).bklen]
  split at h
  · cases h
  · rename_i hg
    rw [if_neg hg]
    exact ⟨hc, rfl, Option.some.inj (Except.ok.inj h)⟩

/-- a valid digest object of configuration `c`: what `final` and `from_hash` hand out -/
structure ObjWF (c : Cfg) (o : TObj) : Prop where
  chk : o.chklen = c.chklen
  cklen : o.checksum.length = c.chklen
  cklt : ∀ x ∈ o.checksum, x < 256
  lv : o.lvalue < 256
  q1 : o.q1 < 16
  q2 : o.q2 < 16
  codelen : o.code.length = c.codesize
  codelt : ∀ x ∈ o.code, x < 256

theorem quart_le (q1 q2 q3 bv : Nat) : quart q1 q2 q3 bv ≤ 3 := by
  unfold quart; repeat' split
  all_goals omega

theorem codeByte_lt (q1 q2 q3 : Nat) (b : List Nat) (i : Nat) : codeByte q1 q2 q3 b i < 256 := by
  unfold codeByte
  have h0 := quart_le q1 q2 q3 (b.getD (4 * i) 0)
  have h1 := quart_le q1 q2 q3 (b.getD (4 * i + 1) 0)
  have h2 := quart_le q1 q2 q3 (b.getD (4 * i + 2) 0)
  have h3 := quart_le q1 q2 q3 (b.getD (4 * i + 3) 0)
  simp only [Nat.shiftLeft_eq]
  omega

theorem quart_zero (q1 q2 q3 : Nat) : quart q1 q2 q3 0 = 0 := by simp [quart]

theorem codeByte_take (q1 q2 q3 : Nat) (b : List Nat) (n i : Nat) (h : 4 * i + 3 < n) :
    codeByte q1 q2 q3 (b.take n) i = codeByte q1 q2 q3 b i := by
  unfold codeByte
  rw [Fold.getD_take _ _ _ _ (by omega), Fold.getD_take _ _ _ _ (by omega), Fold.getD_take _ _ _ _ (by omega),
    Fold.getD_take _ _ _ _ h]

theorem mkObjOf_wf (lcap : Nat → Nat) (c : Cfg) {st : St} (h : StWF c.chklen st) (n : Nat) :
    ObjWF c (mkObjOf lcap c st n) where
  chk := rfl
  cklen := h.cklen
  cklt := h.cklt
  lv := Nat.mod_lt _ (by decide)
  q1 := Nat.mod_lt _ (by decide)
  q2 := Nat.mod_lt _ (by decide)
  codelen := by simp [mkObjOf, bodyCode]
  codelt := by
    intro x hx
    simp only [mkObjOf, bodyCode, List.mem_map] at hx
    obtain ⟨i, _, rfl⟩ := hx
    exact codeByte_lt _ _ _ _ _

theorem shr4 (q : Nat) : q >>> 4 = q / 16 := Nat.shiftRight_eq_div_pow q 4

theorem and15 (q : Nat) : q &&& 0xf = q % 16 := Nat.and_two_pow_sub_one_eq_mod q 4

theorem qb_val (a b : Nat) (hb : b < 16) : (a <<< 4) ||| b = a * 16 + b := by
  rw [← Nat.shiftLeft_add_eq_or_of_lt (show b < 2 ^ 4 from hb), Nat.shiftLeft_eq]

theorem swp8_val (x : Nat) (hx : x < 256) : swp8 x = x % 16 * 16 + x / 16 := by
  unfold swp8
  rw [shr4, and15, qb_val _ _ (by omega)]

theorem swp8_lt (x : Nat) (hx : x < 256) : swp8 x < 256 := by
  rw [swp8_val x hx]
  omega

theorem swp8_swp8 (x : Nat) (hx : x < 256) : swp8 (swp8 x) = x := by
  rw [swp8_val _ (swp8_lt x hx), swp8_val x hx]
  omega

theorem qb_div (a b : Nat) (hb : b < 16) : ((a <<< 4) ||| b) / 16 = a ∧ ((a <<< 4) ||| b) % 16 = b := by
  rw [qb_val a b hb]
  omega

theorem qb_split (q : Nat) (hq : q < 256) : ((q >>> 4) <<< 4) ||| (q &&& 0xf) = q ∧ q >>> 4 < 16 ∧ q &&& 0xf < 16 := by
  rw [shr4, and15, qb_val _ _ (by omega)]
  omega

theorem map_swp8_swp8 (l : List Nat) (h : ∀ x ∈ l, x < 256) : (l.map swp8).map swp8 = l := by
  rw [List.map_map]
  exact (List.map_congr_left fun x hx => swp8_swp8 x (h x hx)).trans (List.map_id l)

theorem digest_length (o : TObj) : (digest o).length = o.checksum.length + 2 + o.code.length := by
  simp [digest]; omega

theorem digest_lt {c : Cfg} {o : TObj} (h : ObjWF c o) : ∀ x ∈ digest o, x < 256 := by
  intro x hx
  simp only [digest, List.mem_append, List.mem_map, List.mem_cons, List.mem_reverse, List.not_mem_nil, or_false] at hx
  rcases hx with (⟨y, hy, rfl⟩ | rfl | rfl) | hx
  · exact swp8_lt y (h.cklt y hy)
  · exact swp8_lt _ h.lv
  · rw [qb_val _ _ h.q2]
    have := h.q1
    have := h.q2
    omega
  · exact h.codelt x hx

/-- a digest cut where `from_hash` and the reference's distance cut it -/
theorem digest_split {o : TObj} {n : Nat} (h : o.checksum.length = n) :
    (digest o).take n = o.checksum.map swp8
    ∧ (digest o).drop n = swp8 o.lvalue :: ((o.q1 <<< 4) ||| o.q2) :: o.code.reverse := by
  have hl : (o.checksum.map swp8).length = n := by rw [List.length_map, h]
  have e : digest o = o.checksum.map swp8 ++ (swp8 o.lvalue :: ((o.q1 <<< 4) ||| o.q2) :: o.code.reverse) := by
    simp [digest]
  rw [e]
  exact ⟨List.take_left' hl, List.drop_left' hl⟩

theorem fromHash_digest {c : Cfg} {o : TObj} (h : ObjWF c o) : fromHash c (digest o) = .ok o := by
  obtain ⟨htake, hdrop⟩ := digest_split h.cklen
  have ho : (⟨c.chklen, ((digest o).take c.chklen).map swp8, swp8 (swp8 o.lvalue),
              ((o.q1 <<< 4) ||| o.q2) >>> 4, ((o.q1 <<< 4) ||| o.q2) &&& 0xf, o.code.reverse.reverse⟩ : TObj) = o := by
    rw [htake, map_swp8_swp8 _ h.cklt, swp8_swp8 _ h.lv, shr4, and15, (qb_div _ _ h.q2).1, (qb_div _ _ h.q2).2,
      List.reverse_reverse, ← h.chk]
  unfold fromHash
  rw [hdrop]
  simp only [ho, List.length_reverse, h.codelen, ne_eq, not_true_eq_false, ↓reduceIte]

theorem absDiff_comm (a b : Nat) : absDiff a b = absDiff b a := by unfold absDiff; split <;> split <;> omega
theorem absDiff_self (a : Nat) : absDiff a a = 0 := by simp [absDiff]
theorem diffmod_comm (x y n : Nat) : diffmod x y n = diffmod y x n := by simp [diffmod, absDiff_comm]
theorem diffmod_self (x n : Nat) : diffmod x x n = 0 := by simp [diffmod, absDiff_self]

theorem pairDiff_comm4 : ∀ a < 4, ∀ b < 4, pairDiff a b = pairDiff b a := by decide +kernel
theorem pairDiff_self4 : ∀ a < 4, pairDiff a a = 0 := by decide +kernel

theorem mod4_lt (z : Nat) : z % 4 < 4 := Nat.mod_lt _ (by decide)

theorem byteDiff_comm (x y : Nat) : byteDiff x y = byteDiff y x := by
  unfold byteDiff
  rw [pairDiff_comm4 _ (mod4_lt x) _ (mod4_lt y), pairDiff_comm4 _ (mod4_lt (x / 4)) _ (mod4_lt (y / 4)),
    pairDiff_comm4 _ (mod4_lt (x / 16)) _ (mod4_lt (y / 16)), pairDiff_comm4 _ (mod4_lt (x / 64)) _ (mod4_lt (y / 64))]

theorem byteDiff_self (x : Nat) : byteDiff x x = 0 := by
  unfold byteDiff
  rw [pairDiff_self4 _ (mod4_lt _), pairDiff_self4 _ (mod4_lt _), pairDiff_self4 _ (mod4_lt _),
    pairDiff_self4 _ (mod4_lt _)]

theorem bodyDiff_comm (a b : List Nat) : bodyDiff a b = bodyDiff b a := Lsh.zipSum_comm byteDiff_comm a b

theorem bodyDiff_self (a : List Nat) : bodyDiff a a = 0 := Lsh.zipSum_self byteDiff_self a

theorem headerDiff_comm (t0 t1 : TObj) (lv : Bool) : headerDiff t0 t1 lv = headerDiff t1 t0 lv := by
  unfold headerDiff
  rw [diffmod_comm t1.lvalue, diffmod_comm t1.q1, diffmod_comm t1.q2]
  have : (t1.checksum ≠ t0.checksum) = (t0.checksum ≠ t1.checksum) := propext ⟨Ne.symm, Ne.symm⟩
  simp only [this]

theorem headerDiff_self (t : TObj) (lv : Bool) : headerDiff t t lv = 0 := by
  unfold headerDiff
  simp [diffmod_self]

theorem resolve_raw_digest {c : Cfg} (hc : c.valid = true) {o : TObj} (h : ObjWF c o) :
    resolve (.raw (digest o)) = .ok (some o) := by
  have hv := valid_cases hc
  have hlen : (digest o).length = c.chklen + 2 + c.codesize := by rw [digest_length, h.cklen, h.codelen]
  have key : fromHash ⟨c.buckets, 5, c.chklen⟩ (digest o) = .ok o :=
    fromHash_digest ⟨h.chk, h.cklen, h.cklt, h.lv, h.q1, h.q2, h.codelen, h.codelt⟩
  unfold resolve
  simp only [hlen, Cfg.codesize]
  rcases hv with ⟨hb | hb | hb, _, hk | hk⟩
  all_goals
    rw [hb, hk] at key
    simp [hb, hk, Cfg.valid, key, Except.map]

theorem distance_resolved {x y : Operand} {t0 t1 : TObj} (hx : resolve x = .ok (some t0)) (hy : resolve y = .ok (some t1))
    (hc : t0.chklen = t1.chklen) (lv : Bool) :
    distance x y lv = .ok (some (headerDiff t0 t1 lv + bodyDiff t1.code t0.code)) := by
  unfold distance
  rw [hx, hy]
  exact if_neg fun h => h hc

end Proofs.Lemmas.Tlsh
