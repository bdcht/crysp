/-
  The regenerated DES tables (Model.Gen.Des, probed from the source) equal the tables of FIPS 46-3
  (Spec.Des, typed from the standard) under the index translation: the code numbers bits from 0, the standard from 1.
-/
import Model.Des
import Spec.Des
namespace Proofs.DesTables
open Model

theorem ip_eq : Gen.Des.ip = Spec.Des.IP.map (· - 1) := by decide +kernel
theorem ipinv_eq : Gen.Des.ipinv = Spec.Des.IPinv.map (· - 1) := by decide +kernel
theorem pc1_eq : Gen.Des.pc1 = Spec.Des.PC1.map (· - 1) := by decide +kernel
theorem pc2_eq : Gen.Des.pc2 = Spec.Des.PC2.map (· - 1) := by decide +kernel
theorem e_eq : Gen.Des.e = Spec.Des.E.map (· - 1) := by decide +kernel
theorem p_eq : Gen.Des.p = Spec.Des.P.map (· - 1) := by decide +kernel
theorem shifts_eq : Gen.Des.shifts = Spec.Des.shifts := by decide +kernel

/-- the code's flat row-major box `n` at `16·row + col` is the standard's `S_{n+1}` at (row, col) -/
theorem sbox_eq : ∀ n < 8, ∀ x < 64,
    (Gen.Des.sbox.getD n []).getD x 0 = ((Spec.Des.Sboxes.getD n []).getD (x / 16) []).getD (x % 16) 0 := by
  decide +kernel

/-- the standard's tables are 1-based: no entry is 0 (so `· - 1` loses nothing) -/
theorem spec_tables_pos : (Spec.Des.IP ++ Spec.Des.IPinv ++ Spec.Des.PC1 ++ Spec.Des.PC2 ++ Spec.Des.E ++ Spec.Des.P).all (0 < ·) = true := by
  decide +kernel

end Proofs.DesTables
