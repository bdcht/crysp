/-
  The log/antilog product of crysp/aes.py is multiplication in GF(2^8): `Exp` lists the powers of the generator {03}
  (compared in one pass with the list of those powers), {03}^255 = 1, and `Log` inverts `Exp` (AesBasic), so
  Exp[(Log a + Log b) mod 255] = {03}^(Log a + Log b) = {03}^(Log a) · {03}^(Log b) = a · b.
-/
import Proofs.Lemmas.AesBasic
namespace Proofs.Aes
open Model.Aes Model.Gen.Aes Spec.Aes

def gpow (a : Nat) : Nat → Nat
  | 0 => a
  | i + 1 => gfmul 3 (gpow a i)

def gpows (a : Nat) : Nat → List Nat
  | 0 => []
  | n + 1 => a :: gpows (gfmul 3 a) n

theorem gpow_gfmul (a i : Nat) : gpow (gfmul 3 a) i = gpow a (i + 1) := by
  induction i with
  | zero => rfl
  | succ i ih => simp only [gpow, ih]

theorem getD_gpows : ∀ n a i, i < n → (gpows a n).getD i 0 = gpow a i := by
  intro n
  induction n with
  | zero =>
    intro a i h
    omega
  | succ n ih =>
    intro a i h
    cases i with
    | zero => rfl
    | succ i => rw [gpows, List.getD_cons_succ, ih _ _ (by omega), gpow_gfmul]

theorem expTable_eq : expTable = gpows 1 255 := by decide +kernel

theorem gpow_255 : gpow 1 255 = 1 := by decide +kernel

theorem gpow_lt (i : Nat) : gpow 1 i < 256 := by
  induction i with
  | zero => decide
  | succ i ih => exact gfmul_lt (by decide) ih

theorem gfmul_gpow (i j : Nat) : gfmul (gpow 1 i) (gpow 1 j) = gpow 1 (i + j) := by
  induction j with
  | zero => exact gfmul_one_right _ (gpow_lt i)
  | succ j ih =>
    show gfmul (gpow 1 i) (gfmul 3 (gpow 1 j)) = gfmul 3 (gpow 1 (i + j))
    rw [← ih, ← gfmul_assoc (gpow_lt i) (by decide) (gpow_lt j), gfmul_comm (gpow_lt i) (by decide : 3 < 256),
      gfmul_assoc (by decide) (gpow_lt i) (gpow_lt j)]

theorem gpow_mod (i : Nat) : gpow 1 (i % 255) = gpow 1 i := by
  induction i using Nat.strongRecOn with
  | _ i ih =>
    by_cases h : i < 255
    · rw [Nat.mod_eq_of_lt h]
    · obtain ⟨k, rfl⟩ : ∃ k, i = 255 + k := ⟨i - 255, by omega⟩
      rw [Nat.add_mod_left, ih k (by omega), ← gfmul_gpow, gpow_255, gfmul_one_left _ (gpow_lt k)]

theorem gmulB_lt (a n : Nat) : gmulB a n < 256 := by
  unfold gmulB
  split
  · exact Lemmas.Bytes.AllBytes.getD_lt isBytes_expTable _
  · decide

theorem gmul_ok {a n : Nat} (ha : a < 256) (hn : n < 256) : gmul a n = .ok (gmulB a n) := by
  unfold gmul gmulB
  by_cases h : a > 0 ∧ n > 0
  · have e1 : logAt a = .ok (logD a) := by
      unfold logAt
      rw [(logTable_spec ha h.1).1]
    have e2 : logAt n = .ok (logD n) := by
      unfold logAt
      rw [(logTable_spec hn h.2).1]
    have hlt : (logD a + logD n) % 0xff < expTable.length := by
      rw [expTable_length]
      exact Nat.mod_lt _ (by decide)
    have e3 : expAt ((logD a + logD n) % 0xff) = .ok (expTable.getD ((logD a + logD n) % 0xff) 0) := by
      unfold expAt
      rw [List.getD_eq_getElem?_getD, List.getElem?_eq_getElem hlt]
      rfl
    rw [if_pos h, if_pos h, e1, e2]
    exact e3
  · rw [if_neg h, if_neg h]

theorem gmulB_eq_gfmul {a b : Nat} (ha : a < 256) (hb : b < 256) : gmulB a b = gfmul a b := by
  unfold gmulB
  by_cases h : a > 0 ∧ b > 0
  · obtain ⟨_, la, ea⟩ := logTable_spec ha h.1
    obtain ⟨_, lb, eb⟩ := logTable_spec hb h.2
    rw [expTable_eq, getD_gpows _ _ _ la] at ea
    rw [expTable_eq, getD_gpows _ _ _ lb] at eb
    rw [if_pos h, expTable_eq, getD_gpows _ _ _ (Nat.mod_lt _ (by decide)), gpow_mod, ← gfmul_gpow, ea, eb]
  · rw [if_neg h]
    rcases Nat.eq_zero_or_pos a with rfl | h1
    · rw [gfmul_zero_left]
    · have e : b = 0 := by omega
      rw [e, gfmul_zero_right]

theorem gmul_eq_gfmul {a b : Nat} (ha : a < 256) (hb : b < 256) :
    Model.Aes.gmul a b = .ok (Spec.Aes.gfmul a b) := by
  rw [gmul_ok ha hb, gmulB_eq_gfmul ha hb]

/-- the products of MixColumns / InvMixColumns: state byte first in the code, coefficient first in FIPS 197 -/
theorem gmulB_eq {a c : Nat} (ha : a < 256) (hc : c < 256) : gmulB a c = gfmul c a := by
  rw [gmulB_eq_gfmul ha hc, gfmul_comm ha hc]

end Proofs.Aes
