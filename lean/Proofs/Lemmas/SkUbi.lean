/-
  UBI: the block/tweak sequence of `UBI.iterblocks` and the chaining loop versus Spec.Skein.ubi.
  The block `SkBytes` in front holds the byte-string facts (16- and 8-byte packing, xor of strings) under a namespace of
  its own; SkHash uses `pack64` from it.
-/
import Proofs.Lemmas.SkTweak
import Proofs.Lemmas.SkBitPad
import Proofs.Lemmas.TfEnd

namespace Proofs.Lemmas.SkBytes
open Model Proofs.Lemmas.Bytes Proofs.Lemmas.TfBytes
open Spec.Threefish (toBytes)

theorem pack128 (T : Nat) : (⟨T, 128⟩ : Bits).pack = toBytes 16 T := pack_eq_toBytes T 16

theorem pack64 (i : Nat) : (Bits.ofNatSz i 64).pack = toBytes 8 i :=
  (pack_eq_toBytes (i % 2 ^ 64) 8).trans (toBytes_mod 8 i)

theorem xorstr_eq (a b : List Nat) : Skein.xorstr a b = Spec.Skein.xorBytes a b := rfl

theorem nbytes_xor {n : Nat} {a b : List Nat} (ha : NBytes n a) (hb : NBytes n b) : NBytes n (Spec.Skein.xorBytes a b) :=
  ⟨ha.bytes.zipWith_xor hb.bytes, by simp [Spec.Skein.xorBytes, ha.len, hb.len]⟩

end Proofs.Lemmas.SkBytes

namespace Proofs.Lemmas.SkUbi
open Model Proofs.Lemmas.Bytes Proofs.Lemmas.TfBytes Proofs.Lemmas.SkBytes Proofs.Lemmas.SkTweak Proofs.Lemmas.SkBitPad
open Spec.Threefish (toInt toBytes)

def bitsOf (M : List Nat) (bitlen : Option Nat) : Nat := bitlen.getD (8 * M.length)

theorem bitPadded_spec (M : List Nat) (h : AllBytes M) (bitlen : Option Nat) (hL : bitsOf M bitlen ≤ 8 * M.length) :
    Skein.bitPadded M bitlen = .ok (Spec.Skein.bitPad M (bitsOf M bitlen)) := by
  cases bitlen with
  | none => exact bitPadded_none M
  | some L => exact bitPadded_eq M h L hL

/-- the specification's sequence of (tweak bytes, block) for a bit-padded message M' with flag B -/
def specBlocks (lb Ts : Nat) (M' : List Nat) (B : Nat) : List (List Nat × List Nat) :=
  let NM := M'.length
  let p := if NM = 0 then lb else if NM % lb = 0 then 0 else lb - NM % lb
  let M'' := M' ++ List.replicate p 0
  let k := M''.length / lb
  (List.range k).map fun i =>
    (toBytes 16 (Ts + min NM ((i + 1) * lb) + (if i = 0 then 1 else 0) * 2 ^ 126
        + (if i + 1 = k then 1 else 0) * (B * 2 ^ 119 + 2 ^ 127)),
     (M''.drop (i * lb)).take lb)

theorem ubi_as_fold (G M : List Nat) (L Ts : Nat) :
    Spec.Skein.ubi G M L Ts =
      (specBlocks G.length Ts (Spec.Skein.bitPad M L).1 (Spec.Skein.bitPad M L).2).foldl
        (fun H (tm : List Nat × List Nat) => Spec.Skein.xorBytes (Spec.Skein.E H tm.1 tm.2) tm.2) G := by
  unfold Spec.Skein.ubi specBlocks
  simp only [List.foldl_map]

/-- the `for b in range(nb-1)` loop: positions advance by lb, First is cleared after the first block -/
theorem midBlocks_eq (lb n : Nat) : ∀ (f : Tw) (P : List Nat), f.Ok → f.pos + n * lb < 2 ^ 96 →
    Skein.midBlocks lb n f.bits P =
      .ok ({ f with pos := f.pos + n * lb, fi := if n = 0 then f.fi else 0 }.bits, P.drop (n * lb),
        (List.range n).map fun j =>
          ({ f with pos := f.pos + (j + 1) * lb, fi := if j = 0 then f.fi else 0 }.bits.pack, (P.drop (j * lb)).take lb)) := by
  induction n with
  | zero =>
    intro f P _ _
    simp [Skein.midBlocks, pure, Except.pure]
  | succ n ih =>
    intro f P h hp
    rw [Nat.succ_mul] at hp
    have h1 : Tw.Ok { f with pos := f.pos + lb } := { h with pos := by show f.pos + lb < _; omega }
    have h2 : Tw.Ok { f with pos := f.pos + lb, fi := 0 } := { h1 with fi := Nat.zero_le 1 }
    simp only [Skein.midBlocks, bind, Except.bind, h.getPosition, h.setPosition h1.pos, h1.setFirst (Nat.zero_le 1),
      ih _ (P.drop lb) h2 (by show f.pos + lb + n * lb < _; omega), pure, Except.pure]
    simp only [ite_self, Nat.succ_ne_zero, ite_false, List.range_succ_eq_map, List.map_cons, List.map_map, Nat.one_mul,
      Nat.zero_mul, List.drop_zero, ite_true, List.drop_drop, Function.comp_def, Nat.succ_eq_add_one, Nat.add_mul,
      Nat.add_zero, Nat.add_comm, Nat.add_left_comm, Nat.add_assoc]

/-- the part of `iterblocks` after the padding decisions: n middle blocks, then the final block -/
def iterCore (lb : Nat) (ts : Bits) (M2 : List Nat) (n lp B : Nat) : Except Err (List (List Nat × List Nat)) := do
  let ts ← Skein.setFirst ts 1
  let (ts, P, ys) ← Skein.midBlocks lb n ts M2
  let ts ← Skein.setFinal ts 1
  let ts ← Skein.setBitPad ts B
  let m := P.take lb
  let pos ← Skein.getPosition ts
  let ts ← Skein.setPosition ts (pos + (lb - lp))
  pure (ys ++ [(ts.pack, m)])

/-- the setter calls are followed field by field on `Tw` records (`a1` … `a4`) and the tweak is turned into a number
    only at the end, by `Tw.val_ubi`: value + position + first·2^126 + final·(B·2^119 + 2^127).  `min NM ((i+1)·lb)`: the
    position counts message bytes before padding, so the last block advances it by lb − lp, not lb -/
theorem iterCore_eq (lb : Nat) (f : Tw) (hf : f.Ok) (h0 : f.bp = 0) (h1 : f.fi = 0) (h2 : f.fn = 0) (M2 : List Nat)
    (n lp NM B : Nat) (hNM : n * lb + (lb - lp) = NM) (hp : f.pos + NM < 2 ^ 96) (hB : B ≤ 1) :
    iterCore lb f.bits M2 n lp B = .ok ((List.range (n + 1)).map fun i =>
      (toBytes 16 (f.val + min NM ((i + 1) * lb) + (if i = 0 then 1 else 0) * 2 ^ 126
          + (if i + 1 = n + 1 then 1 else 0) * (B * 2 ^ 119 + 2 ^ 127)),
       (M2.drop (i * lb)).take lb)) := by
  have a1 : Tw.Ok { f with fi := 1 } := { hf with fi := Nat.le_refl 1 }
  have hmid := midBlocks_eq lb n _ M2 a1 (by show f.pos + n * lb < _; omega)
  have a2 : Tw.Ok { f with pos := f.pos + n * lb, fi := if n = 0 then 1 else 0 } :=
    { hf with pos := by show f.pos + n * lb < _; omega, fi := by show (if n = 0 then 1 else 0) ≤ 1; split <;> decide }
  have a3 : Tw.Ok { f with pos := f.pos + n * lb, fi := if n = 0 then 1 else 0, fn := 1 } := { a2 with fn := Nat.le_refl 1 }
  have a4 : Tw.Ok { f with pos := f.pos + n * lb, fi := if n = 0 then 1 else 0, fn := 1, bp := B } := { a3 with bp := hB }
  unfold iterCore
  simp only [bind, Except.bind, hf.setFirst (Nat.le_refl 1), hmid, a2.setFinal (Nat.le_refl 1), a3.setBitPad hB,
    a4.getPosition, Nat.add_assoc f.pos, hNM, a4.setPosition hp, pure, Except.pure]
  simp only [Tw.bits, pack128, h0, h2]
  rw [List.range_succ, List.map_append]
  apply congrArg Except.ok
  apply congr (congrArg HAppend.hAppend ?_) ?_
  · apply List.map_congr_left
    intro j hj
    have hle : (j + 1) * lb ≤ n * lb := Nat.mul_le_mul_right lb (List.mem_range.1 hj)
    rw [if_neg (Nat.ne_of_lt (Nat.succ_lt_succ (List.mem_range.1 hj))), Nat.min_eq_right (by omega)]
    generalize (if j = 0 then 1 else 0) = a
    exact congrArg (fun x => (toBytes 16 x, (M2.drop (j * lb)).take lb)) ((Tw.val_ubi h0 h1 h2 _ _ _ _).trans (by omega))
  · have hle : NM ≤ (n + 1) * lb := by
      rw [Nat.succ_mul]
      omega
    rw [List.map_cons, List.map_nil, if_pos rfl, Nat.min_eq_left hle]
    generalize (if n = 0 then 1 else 0) = a
    exact congrArg (fun x => [(toBytes 16 x, (M2.drop (n * lb)).take lb)]) ((Tw.val_ubi h0 h1 h2 _ _ _ _).trans (by omega))

theorem iterblocks_core (lb : Nat) (hne : lb ≠ 0) (ts : Bits) (M : List Nat) (bitlen : Option Nat) (M1 : List Nat) (B : Nat)
    (hbp : Skein.bitPadded M bitlen = .ok (M1, B)) :
    Skein.iterblocks lb ts M bitlen =
      iterCore lb ts (if (M1.length = 0 || M1.length % lb > 0) then M1 ++ List.replicate (lb - M1.length % lb) 0 else M1)
        ((if (M1.length = 0 || M1.length % lb > 0) then M1.length / lb + 1 else M1.length / lb) - 1)
        (if (M1.length = 0 || M1.length % lb > 0) then lb - M1.length % lb else 0) B := by
  unfold Skein.iterblocks iterCore
  rw [hbp]
  simp only [bind, Except.bind, hne, ite_false]
  cases hp : (decide (M1.length = 0) || decide (M1.length % lb > 0)) <;> simp only [Bool.false_eq_true, ite_false, ite_true]

theorem iterblocks_eq (lb : Nat) (hlb : 0 < lb) {f : Tw} (hf : f.Ok) (h0 : f.bp = 0) (h1 : f.fi = 0) (h2 : f.fn = 0)
    (M : List Nat) (bitlen : Option Nat) (M1 : List Nat) (B : Nat) (hbp : Skein.bitPadded M bitlen = .ok (M1, B)) (hB : B ≤ 1)
    (hp : f.pos + M1.length < 2 ^ 96) :
    Skein.iterblocks lb f.bits M bitlen = .ok (specBlocks lb f.val M1 B) := by
  rw [iterblocks_core lb (Nat.ne_of_gt hlb) _ M bitlen M1 B hbp]
  unfold specBlocks
  have hdm : lb * (M1.length / lb) + M1.length % lb = M1.length := Nat.div_add_mod _ _
  have hr : M1.length % lb < lb := Nat.mod_lt _ hlb
  by_cases hpad : M1.length = 0 ∨ M1.length % lb > 0
  · -- a partial last block (the whole block for the empty message): zero padded
    have hp' : (if M1.length = 0 then lb else if M1.length % lb = 0 then 0 else lb - M1.length % lb) = lb - M1.length % lb := by
      rcases hpad with h | h
      · rw [if_pos h, h, Nat.zero_mod, Nat.sub_zero]
      · rw [if_neg (by omega), if_neg (by omega)]
    have hk : (M1.length + (lb - M1.length % lb)) / lb = M1.length / lb + 1 := by
      rw [show M1.length + (lb - M1.length % lb) = lb * (M1.length / lb + 1) by rw [Nat.mul_succ]; omega,
        Nat.mul_div_cancel_left _ hlb]
    simp only [show (decide (M1.length = 0) || decide (M1.length % lb > 0)) = true by simpa using hpad, ite_true, hp',
      Nat.add_sub_cancel, List.length_append, List.length_replicate, hk]
    rw [iterCore_eq lb f hf h0 h1 h2 _ (M1.length / lb) (lb - M1.length % lb) M1.length B (by rw [Nat.mul_comm]; omega) hp hB]
  · -- a whole number of blocks: no zero padding
    have h0' : ¬ M1.length = 0 := fun h => hpad (Or.inl h)
    have hr0 : M1.length % lb = 0 := by omega
    obtain ⟨q, hq⟩ : ∃ q, M1.length / lb = q + 1 := by
      refine ⟨M1.length / lb - 1, (Nat.sub_add_cancel (Nat.pos_of_ne_zero fun h => ?_)).symm⟩
      rw [h, Nat.mul_zero, hr0] at hdm
      exact h0' hdm.symm
    simp only [show (decide (M1.length = 0) || decide (M1.length % lb > 0)) = false by simpa using hpad, Bool.false_eq_true, ite_false]
    simp only [h0', hr0, ite_true, ite_false, List.replicate_zero, List.append_nil, hq, Nat.add_sub_cancel]
    rw [iterCore_eq lb f hf h0 h1 h2 _ q 0 M1.length B (by rw [← hdm, hq, hr0, Nat.mul_succ, Nat.mul_comm]; omega) hp hB]

theorem E_eq {lb : Nat} (hlb : lb = 32 ∨ lb = 64 ∨ lb = 128) {H T m : List Nat} (hH : NBytes lb H) (hT : NBytes 16 T)
    (hm : NBytes lb m) : Threefish.encrypt H T m = .ok (Spec.Skein.E H T m) ∧ NBytes lb (Spec.Skein.E H T m) := by
  have hs : Spec.Threefish.sizesOk H T m = true :=
    (TfEnd.sizesOk_iff _ _ _).2 ⟨hH.len ▸ hlb, hT.len, hm.len.trans hH.len.symm⟩
  have hE : Spec.Skein.E H T m = Spec.Threefish.wordsToBytes (Spec.Threefish.encWords (H.length / 8)
      (Spec.Threefish.bytesToWords H) (Spec.Threefish.bytesToWords T) (Spec.Threefish.bytesToWords m)) := by
    simp [Spec.Skein.E, Spec.Threefish.enc, hs]
  rw [hE]
  have := ((TfEnd.bytes_inv (TfInverse.enc_inv (TfEnd.valid_of_len (hH.len ▸ hlb)) (Spec.Threefish.bytesToWords H)
    (Spec.Threefish.bytesToWords T))).st (s := m) ⟨hm.bytes, by rw [hm.len, hH.len]; omega⟩).1
  exact ⟨TfEnd.encrypt_ok H T m hH.bytes hT.bytes hm.bytes hs, this.bytes, this.len.trans (by rw [hH.len]; omega)⟩

theorem chain_eq {lb : Nat} (hlb : lb = 32 ∨ lb = 64 ∨ lb = 128) (bl : List (List Nat × List Nat))
    (hbl : ∀ tm ∈ bl, NBytes 16 tm.1 ∧ NBytes lb tm.2) :
    ∀ (H : List Nat), NBytes lb H →
    bl.foldlM (fun H (tm : List Nat × List Nat) => do
        let X ← Threefish.encrypt H tm.1 tm.2
        pure (Skein.xorstr X tm.2)) H =
      .ok (bl.foldl (fun H (tm : List Nat × List Nat) => Spec.Skein.xorBytes (Spec.Skein.E H tm.1 tm.2) tm.2) H) ∧
    NBytes lb (bl.foldl (fun H (tm : List Nat × List Nat) => Spec.Skein.xorBytes (Spec.Skein.E H tm.1 tm.2) tm.2) H) := by
  induction bl with
  | nil => exact fun H hH => ⟨rfl, hH⟩
  | cons tm bl ih =>
    intro H hH
    obtain ⟨h1, h2⟩ := hbl tm (by simp)
    obtain ⟨e1, e2⟩ := E_eq hlb hH h1 h2
    simp only [List.foldlM_cons, List.foldl_cons, bind, Except.bind, e1, pure, Except.pure, xorstr_eq]
    exact ih (fun t ht => hbl t (by simp [ht])) _ (nbytes_xor e2 h2)

theorem bitPad_wf (M : List Nat) (h : AllBytes M) (L : Nat) (hL : L ≤ 8 * M.length) :
    AllBytes (Spec.Skein.bitPad M L).1 ∧ (Spec.Skein.bitPad M L).1.length ≤ M.length ∧ (Spec.Skein.bitPad M L).2 ≤ 1 := by
  unfold Spec.Skein.bitPad
  by_cases hr : L % 8 = 0
  · simp only [hr, ite_true]
    exact ⟨h.take _, by rw [List.length_take]; omega, by omega⟩
  · simp only [hr, ite_false]
    refine ⟨AllBytes.append (h.take _) ?_, by simp; omega, by omega⟩
    intro x hx
    simp only [List.mem_singleton] at hx
    subst hx
    have hlt := AllBytes.getD_lt h (L / 8)
    generalize M.getD (L / 8) 0 = y at hlt
    have hr8 : L % 8 < 8 := Nat.mod_lt _ (by decide)
    have : L % 8 = 1 ∨ L % 8 = 2 ∨ L % 8 = 3 ∨ L % 8 = 4 ∨ L % 8 = 5 ∨ L % 8 = 6 ∨ L % 8 = 7 := by omega
    rcases this with e | e | e | e | e | e | e <;> rw [e] <;> simp only [Nat.reduceSub, Nat.reducePow] <;> omega

theorem specBlocks_wf {lb : Nat} (hlb : 0 < lb) (Ts : Nat) (M1 : List Nat) (h : AllBytes M1) (B : Nat) :
    ∀ tm ∈ specBlocks lb Ts M1 B, NBytes 16 tm.1 ∧ NBytes lb tm.2 := by
  intro tm htm
  unfold specBlocks at htm
  simp only [List.mem_map, List.mem_range] at htm
  obtain ⟨i, hi, rfl⟩ := htm
  refine ⟨⟨allBytes_toBytes _ _, toBytes_length _ _⟩, ((h.append (AllBytes.replicate (by decide) _)).drop _).take _, ?_⟩
  -- block i lies inside the padded message, however long the padding is
  simp only [List.length_take, List.length_drop, List.length_append, List.length_replicate] at hi ⊢
  have h1 := (Nat.le_div_iff_mul_le hlb).1 (Nat.succ_le_of_lt hi)
  rw [Nat.succ_mul] at h1
  omega

/-- `UBI.__call__` on a tweak given by its fields: the constructor's asserts and the position assert read the fields, then
    the chaining loop runs over the blocks -/
theorem ubi_fields (G M : List Nat) (bitlen : Option Nat) {f : Tw} (hf : f.Ok) :
    Skein.ubi G f.bits M bitlen =
      if f.bp ≠ 0 then .error "AssertionError:BitPad" else
      if f.fi ≠ 0 then .error "AssertionError:First" else
      if f.fn ≠ 0 then .error "AssertionError:Final" else
      if ¬ (f.pos + M.length < 2 ^ 96) then .error "AssertionError:Position" else
      Skein.iterblocks G.length f.bits M bitlen >>= fun blocks =>
        blocks.foldlM (fun H (tm : List Nat × List Nat) => do
          let X ← Threefish.encrypt H tm.1 tm.2
          pure (Skein.xorstr X tm.2)) G := by
  unfold Skein.ubi
  -- the getters are rewritten before `bind` is unfolded: with `bind` open over `getBitPad f.bits` the `if` on the value read
  -- makes the kernel evaluate the slice read on the sum of fields (deep recursion)
  simp only [hf.getBitPad, hf.getFirst, hf.getFinal, hf.getPosition]
  simp only [bind, Except.bind, show f.bits.size = 128 from rfl, ne_eq, not_true_eq_false, ite_false, pure, Except.pure]

theorem ubi_eq {lb : Nat} (hlb : lb = 32 ∨ lb = 64 ∨ lb = 128) {G M : List Nat} (bitlen : Option Nat) {f : Tw} (hf : f.Ok)
    (h0 : f.bp = 0) (h1 : f.fi = 0) (h2 : f.fn = 0) (hG : NBytes lb G) (hM : AllBytes M)
    (hL : bitsOf M bitlen ≤ 8 * M.length) (hp : f.pos + M.length < 2 ^ 96) :
    Skein.ubi G f.bits M bitlen = .ok (Spec.Skein.ubi G M (bitsOf M bitlen) f.val) ∧
    NBytes lb (Spec.Skein.ubi G M (bitsOf M bitlen) f.val) := by
  obtain ⟨w1, w2, w3⟩ := bitPad_wf M hM _ hL
  have hit := iterblocks_eq lb (by omega) hf h0 h1 h2 M bitlen _ _ (bitPadded_spec M hM bitlen hL) w3
    (Nat.lt_of_le_of_lt (Nat.add_le_add_left w2 _) hp)
  obtain ⟨c1, c2⟩ := chain_eq hlb _ (specBlocks_wf (by omega) f.val _ w1 _) G hG
  rw [ubi_as_fold, hG.len]
  refine ⟨?_, c2⟩
  rw [ubi_fields G M bitlen hf, if_neg (fun h => h h0), if_neg (fun h => h h1), if_neg (fun h => h h2), if_neg (fun h => h hp), hG.len,
    Fold.bind_eq_of_ok hit]
  exact c1

theorem ubiPre_iff (M : List Nat) (Ts : Nat) : Spec.Skein.ubiPre M Ts = true ↔
    Ts < 2 ^ 128 ∧ (Tw.of Ts).bp = 0 ∧ (Tw.of Ts).fi = 0 ∧ (Tw.of Ts).fn = 0 ∧ (Tw.of Ts).pos + M.length < 2 ^ 96 := by
  simp only [Spec.Skein.ubiPre, Bool.and_eq_true, decide_eq_true_eq, Tw.of, and_assoc]

theorem ubi_rejects (G M : List Nat) (bitlen : Option Nat) (Ts : Nat) (hTs : Ts < 2 ^ 128)
    (hpre : Spec.Skein.ubiPre M Ts = false) : ∃ e, Skein.ubi G ⟨Ts, 128⟩ M bitlen = .error e := by
  have hn := mt (ubiPre_iff M Ts).2 (by simp [hpre])
  rw [← Tw.bits_of hTs, ubi_fields G M bitlen (Tw.of_ok Ts)]
  by_cases h1 : (Tw.of Ts).bp = 0
  · by_cases h2 : (Tw.of Ts).fi = 0
    · by_cases h3 : (Tw.of Ts).fn = 0
      · have h4 : ¬ ((Tw.of Ts).pos + M.length < 2 ^ 96) := fun h4 => hn ⟨hTs, h1, h2, h3, h4⟩
        rw [if_neg (fun h => h h1), if_neg (fun h => h h2), if_neg (fun h => h h3), if_pos h4]
        exact ⟨_, rfl⟩
      · rw [if_neg (fun h => h h1), if_neg (fun h => h h2), if_pos h3]
        exact ⟨_, rfl⟩
    · rw [if_neg (fun h => h h1), if_pos h2]
      exact ⟨_, rfl⟩
  · rw [if_pos h1]
    exact ⟨_, rfl⟩

end Proofs.Lemmas.SkUbi
