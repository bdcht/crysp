/-
  HMAC over the four BLAKE objects: the generic HMAC theorem (`HmacAlgs.hmac_eq_on_bytes`) composed with BLAKE's
  end-to-end refinement (`BlakeFull.blake_call_hash`).
-/
import Proofs.Lemmas.HmacAlgs
import Proofs.Lemmas.BlakeFull
namespace Proofs.Lemmas.BlakeHmac
open Model Model.Hmac Proofs.Lemmas.BlakeEnd Proofs.Lemmas.HmacAlgs

def specFn (V : Spec.Blake.Variant) (m : List Nat) : List Nat := Spec.Blake.hash V m (8 * m.length) 0

theorem blake_on_bytes {c V} (hp : Pair c V) (m : List Nat) (hm : IsBytes m) :
    Blake.call c m 0 none = .ok (specFn V m) :=
  BlakeFull.blake_call_hash hp m hm 0 none (Nat.le_refl _)

theorem output_isBytes (V : Spec.Blake.Variant) (h : List (BitVec V.w)) : IsBytes (Spec.Blake.output V h) :=
  Bytes.AllBytes.take (Bytes.AllBytes.flatMap fun x _ b hb => by
    obtain ⟨i, _, rfl⟩ := List.mem_map.mp hb
    exact Nat.mod_lt _ (by decide)) _

theorem specFn_length_le (V : Spec.Blake.Variant) (m : List Nat) : (specFn V m).length ≤ V.out := by
  unfold specFn Spec.Blake.hash Spec.Blake.output
  rw [List.length_take]
  exact Nat.min_le_left _ _

theorem hmac_blake {c V} (hp : Pair c V) (key msg : List Nat) (hkey : IsBytes key) (hmsg : IsBytes msg) :
    Hmac.hmac (fun m => Blake.call c m 0 none) c.blocksize key msg
      = .ok (Spec.rfc2104 (specFn V) (c.blocksize / 8) key msg) := by
  have g := pair_geo hp
  have := hmac_eq_on_bytes (fun m => Blake.call c m 0 none) (specFn V) (c.blocksize / 8) g.pos key msg
    (blake_on_bytes hp) (fun _ => output_isBytes V _) hkey hmsg (fun _ => Nat.le_trans (specFn_length_le V key) g.outBlock)
  rw [← g.whole] at this
  exact this

end Proofs.Lemmas.BlakeHmac
