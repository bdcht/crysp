/-
  Byte-list predicates and the tables regenerated from the source: each is compared with what it tabulates in one
  pass over the table (S-boxes = the FIPS 197 S-boxes; Exp = the powers of {03}, see AesGmul; Log = the inverse of Exp).
-/
import Model.Aes
import Proofs.Lemmas.AesField
import Proofs.Lemmas.Bytes
import Proofs.Lemmas.Fold
namespace Proofs.Aes
open Model Model.Aes Model.Gen.Aes
open Proofs.Lemmas.Bytes (AllBytes)

def IsBytes (l : List Nat) : Prop := ∀ b ∈ l, b < 256

def St (s : List Nat) : Prop := s.length = 16 ∧ IsBytes s

def Wd (w : List Nat) : Prop := w.length = 4 ∧ IsBytes w

theorem sboxtable_eq : sboxtable = (List.range 256).map Spec.Aes.sbox := by
  have h : sboxtable = (List.range 256).map (entry sboxT) := by decide +kernel
  rw [h]
  exact List.map_congr_left fun b hb => (sboxT_eq b (List.mem_range.mp hb)).symm
theorem sboxinvtable_eq : sboxinvtable = (List.range 256).map Spec.Aes.invSbox := by
  have h : sboxinvtable = (List.range 256).map (entry invSboxT) := by decide +kernel
  rw [h]
  exact List.map_congr_left fun b hb => (invSboxT_eq b (List.mem_range.mp hb)).symm

theorem sbox_spec : ∀ b < 256, sbox b = Spec.Aes.sbox b := fun b hb => by
  rw [sbox, sboxtable_eq, Lemmas.Fold.getD_map_range _ _ _ _ hb]
theorem sboxInv_spec : ∀ b < 256, sboxInv b = Spec.Aes.invSbox b := fun b hb => by
  rw [sboxInv, sboxinvtable_eq, Lemmas.Fold.getD_map_range _ _ _ _ hb]

theorem sboxtable_length : sboxtable.length = 256 := by decide +kernel
theorem sboxinvtable_length : sboxinvtable.length = 256 := by decide +kernel
theorem isBytes_sboxtable : IsBytes sboxtable := by
  unfold IsBytes
  decide +kernel
theorem isBytes_sboxinvtable : IsBytes sboxinvtable := by
  unfold IsBytes
  decide +kernel
theorem isBytes_expTable : IsBytes expTable := by
  unfold IsBytes
  decide +kernel

theorem sbox_lt (b : Nat) : sbox b < 256 := AllBytes.getD_lt isBytes_sboxtable b
theorem sboxInv_lt (b : Nat) : sboxInv b < 256 := AllBytes.getD_lt isBytes_sboxinvtable b

theorem expTable_length : expTable.length = 255 := by decide +kernel
theorem logTable_length : logTable.length = 256 := by decide +kernel
theorem shiftRowsIdx_eq : shiftRowsIdx = [0, 5, 10, 15, 4, 9, 14, 3, 8, 13, 2, 7, 12, 1, 6, 11] := by decide +kernel
theorem invShiftRowsIdx_eq : invShiftRowsIdx = [0, 13, 10, 7, 4, 1, 14, 11, 8, 5, 2, 15, 12, 9, 6, 3] := by decide +kernel

/-- the index permutation probed from `ShiftRows` is s'_{r,c} = s_{r,(c+r) mod 4} in the column-major layout -/
theorem shiftRowsIdx_spec :
    shiftRowsIdx = (List.range 16).map fun i => i % 4 + 4 * ((i / 4 + i % 4) % 4) := by decide +kernel
theorem invShiftRowsIdx_spec :
    invShiftRowsIdx = (List.range 16).map fun i => i % 4 + 4 * ((i / 4 + 4 - i % 4) % 4) := by decide +kernel

theorem logTable_exp : ∀ p ∈ logTable.zipIdx,
    p.2 ≠ 0 → p.1.isSome = true ∧ p.1.getD 0 < 255 ∧ expTable.getD (p.1.getD 0) 0 = p.2 := by decide +kernel

theorem logTable_spec {a : Nat} (ha : a < 256) (h0 : 0 < a) :
    logTable[a]? = some (some (logD a)) ∧ logD a < 255 ∧ expTable.getD (logD a) 0 = a := by
  have hl : a < logTable.length := Nat.lt_of_lt_of_eq ha logTable_length.symm
  have hm : (logTable[a], a) ∈ logTable.zipIdx :=
    List.mem_of_getElem? (i := a) (by simp [hl])
  obtain ⟨h1, h2⟩ := logTable_exp _ hm (Nat.ne_of_gt h0)
  have e : logD a = (logTable[a]).getD 0 := by simp [logD, List.getD_eq_getElem?_getD, hl]
  rw [e, List.getElem?_eq_getElem hl]
  cases h : logTable[a] with
  | none =>
    rw [h] at h1
    cases h1
  | some l =>
    rw [h] at h2
    exact ⟨rfl, h2⟩

end Proofs.Aes
