/-
  Lemmas for C04 / FIPS 202: the lane/bit correspondence (bit z of lane (x,y) ↔ A[x,y,z]) between the
  state array of bits of Spec.Fips202 and the 25 lanes of Spec.Keccak, and what the step mappings need under it:
  a rotation of a lane is a shift of z, the index arithmetic, the walk of ρ.
-/
import Spec.Fips202
import Spec.Keccak
import Proofs.Lemmas.KeccakString
namespace Proofs.Lemmas.Fips202Step
open Spec.Fips202 Proofs.Lemmas.KeccakString

theorem mod_natCast (n a : Nat) : mod (n : Int) a = n % a := by
  simp only [mod, ← Int.natCast_emod, Int.toNat_natCast]

theorem mod_lt (x : Int) {a : Nat} (ha : 0 < a) : mod x a < a := by
  have h1 : x % (a : Int) < a := Int.emod_lt_of_pos x (by omega)
  have h2 : 0 ≤ x % (a : Int) := Int.emod_nonneg x (by omega)
  simp only [mod]; omega

theorem mod_sub (z k w : Nat) (hw : 0 < w) : mod ((z : Int) - k) w = (z + (w - k % w)) % w := by
  simp only [mod, ← Fold.sub_mod_int hw z k, Int.toNat_natCast]

theorem mod_neg (k w : Nat) (hw : 0 < w) : mod (-(k : Int)) w = (w - k % w) % w := by
  have := mod_sub 0 k w hw
  simpa using this

/-- lane (x,y) of a state array of bits: bit z is A[x,y,z] -/
def laneOf (w : Nat) (A : StateArray) (x y : Nat) : BitVec w :=
  BitVec.ofNat w (Spec.Keccak.bitsToNat ((List.range w).map fun z => A x y z))

def lanes (w : Nat) (A : StateArray) : Spec.Keccak.State w := Spec.Keccak.mkState fun x y => laneOf w A x y

theorem getLsbD_laneOf (w : Nat) (A : StateArray) (x y z : Nat) :
    (laneOf w A x y).getLsbD z = (decide (z < w) && A x y z) := by
  rw [laneOf, getLsbD_ofNat_bitsToNat, bit_map_range]
  cases decide (z < w) <;> rfl

theorem lanes_getElem (w : Nat) (A : StateArray) (i : Nat) (hi : i < 25) :
    (lanes w A)[i] = laneOf w A (i % 5) (i / 5) := getElem_mkState _ i hi

theorem lane_lanes (w : Nat) (A : StateArray) (x y : Nat) :
    Spec.Keccak.lane (lanes w A) x y = laneOf w A (x % 5) (y % 5) := lane_mkState _ x y

theorem lanes_eq_mkState (w : Nat) (A : StateArray) (g : Nat → Nat → BitVec w)
    (h : ∀ x < 5, ∀ y < 5, ∀ z < w, A x y z = (g x y).getLsbD z) : lanes w A = Spec.Keccak.mkState g := by
  refine state_ext fun i hi z hz => ?_
  rw [lanes_getElem w A i hi, getElem_mkState g i hi, getLsbD_laneOf, h (i % 5) (by omega) (i / 5) (by omega) z hz,
    decide_eq_true hz, Bool.true_and]

theorem lanes_congr (w : Nat) (A A' : StateArray) (h : ∀ x < 5, ∀ y < 5, ∀ z < w, A x y z = A' x y z) :
    lanes w A = lanes w A' :=
  lanes_eq_mkState w A (fun x y => laneOf w A' x y) fun x hx y hy z hz => by
    rw [getLsbD_laneOf, h x hx y hy z hz, decide_eq_true hz, Bool.true_and]

theorem rot_bit {w : Nat} (hw : 0 < w) (a : BitVec w) (k z : Nat) (hz : z < w) :
    (a.rotateLeft k).getLsbD z = a.getLsbD (mod ((z : Int) - k) w) := by
  have hk : k % w < w := Nat.mod_lt k hw
  rw [BitVec.getLsbD_rotateLeft, mod_sub z k w hw]
  by_cases h : z < k % w
  · have e : (z + (w - k % w)) % w = w - k % w + z := by
      rw [Nat.mod_eq_of_lt (by omega)]; omega
    simp [h, e]
  · have e : (z + (w - k % w)) % w = z - k % w := by
      have : z + (w - k % w) = (z - k % w) + w := by omega
      rw [this, Nat.add_mod_right, Nat.mod_eq_of_lt (by omega)]
    simp [h, e, hz]

theorem mod5_sub_one (x : Nat) : mod ((x : Int) - 1) 5 = (x + 4) % 5 := by simp only [mod]; omega
theorem mod5_add_one (x : Nat) : mod ((x : Int) + 1) 5 = (x + 1) % 5 := by simp only [mod]; omega
theorem mod5_add_two (x : Nat) : mod ((x : Int) + 2) 5 = (x + 2) % 5 := by simp only [mod]; omega
theorem mod5_pi (x y : Nat) : mod ((x : Int) + 3 * y) 5 = (x + 3 * y) % 5 := by simp only [mod]; omega
theorem mod5_walk (x y : Nat) : mod (2 * (x : Int) + 3 * y) 5 = (2 * x + 3 * y) % 5 := by simp only [mod]; omega

/-- the body of the loop of Algorithm 2 (as written in Spec.Fips202.rho) -/
def rhoStep (w : Nat) (A : StateArray) (st : (Nat × Nat) × StateArray) (t : Nat) : (Nat × Nat) × StateArray :=
  let x := st.1.1
  let y := st.1.2
  let A' := st.2
  let A'' : StateArray := fun x' y' z =>
    if x' = x ∧ y' = y then A x y (mod (z - (t + 1) * (t + 2) / 2) w) else A' x' y' z
  ((y, mod (2 * x + 3 * y) 5), A'')

theorem rho_eq_fold (w : Nat) (A : StateArray) :
    rho w A = ((List.range 24).foldl (rhoStep w A)
      ((1, 0), fun x y z => if x = 0 ∧ y = 0 then A 0 0 z else false)).2 := rfl

/-- the body of the loop that builds `Spec.Keccak.rhoTable` -/
def tblStep (st : (Nat × Nat) × List Nat) (t : Nat) : (Nat × Nat) × List Nat :=
  ((st.1.2, (2 * st.1.1 + 3 * st.1.2) % 5), st.2.set (st.1.1 + 5 * st.1.2) ((t + 1) * (t + 2) / 2))

theorem rhoTable_eq_fold : Spec.Keccak.rhoTable = ((List.range 24).foldl tblStep ((1, 0), List.replicate 25 0)).2 := rfl

/-- what the two walks have in common after the same number of steps: the position, and lane (x,y) has been rotated
    by its table entry as soon as that entry is set (every offset (t+1)(t+2)/2 is ≥ 1, so "set" is "non-zero") -/
def WalkRel (w : Nat) (A A0 : StateArray) (s1 : (Nat × Nat) × StateArray) (s2 : (Nat × Nat) × List Nat) : Prop :=
  s1.1 = s2.1 ∧ s2.1.1 < 5 ∧ s2.1.2 < 5 ∧ s2.2.length = 25 ∧
    ∀ x < 5, ∀ y < 5, ∀ z, s1.2 x y z =
      if s2.2.getD (x + 5 * y) 0 = 0 then A0 x y z else A x y (mod ((z : Int) - (s2.2.getD (x + 5 * y) 0 : Nat)) w)

theorem walks_agree (w : Nat) (A A0 : StateArray) (n : Nat) :
    WalkRel w A A0 ((List.range n).foldl (rhoStep w A) ((1, 0), A0))
      ((List.range n).foldl tblStep ((1, 0), List.replicate 25 0)) := by
  refine Fold.foldl_range_rel (fun _ => WalkRel w A A0) _ _ n _ _ ?_ fun n _ s1 s2 ⟨h1, hx, hy, hl, h5⟩ => ?_
  · refine ⟨rfl, by decide, by decide, rfl, fun x _ y _ z => ?_⟩
    have : (List.replicate 25 0).getD (x + 5 * y) 0 = 0 := by
      simp only [List.getD_eq_getElem?_getD, List.getElem?_replicate]; split <;> rfl
    simp only [this, if_true]
  · refine ⟨by simp only [rhoStep, tblStep, h1, mod5_walk], hy, Nat.mod_lt _ (by decide),
      by simp only [tblStep, List.length_set, hl], fun x' hx' y' hy' z => ?_⟩
    have hoff : (n + 1) * (n + 2) / 2 ≠ 0 := by
      have := Nat.mul_le_mul (show 1 ≤ n + 1 by omega) (show 2 ≤ n + 2 by omega)
      omega
    by_cases h : x' = s2.1.1 ∧ y' = s2.1.2
    · obtain ⟨rfl, rfl⟩ := h
      have hg : (s2.2.set (s2.1.1 + 5 * s2.1.2) ((n + 1) * (n + 2) / 2)).getD (s2.1.1 + 5 * s2.1.2) 0
          = (n + 1) * (n + 2) / 2 := by
        simp [List.getD_eq_getElem?_getD, List.getElem?_set_self (by omega : s2.1.1 + 5 * s2.1.2 < s2.2.length)]
      have hc : (((n : Int) + 1) * ((n : Int) + 2) / 2) = (((n + 1) * (n + 2) / 2 : Nat) : Int) := by push_cast; rfl
      simp only [rhoStep, tblStep, h1, and_self, if_true, hg, if_neg hoff, hc]
    · have hg : (s2.2.set (s2.1.1 + 5 * s2.1.2) ((n + 1) * (n + 2) / 2)).getD (x' + 5 * y') 0
          = s2.2.getD (x' + 5 * y') 0 := by
        simp [List.getD_eq_getElem?_getD, List.getElem?_set_ne (by omega : s2.1.1 + 5 * s2.1.2 ≠ x' + 5 * y')]
      simp only [rhoStep, tblStep, h1, if_neg h, hg]
      exact h5 x' hx' y' hy' z

theorem rhoTable_pos : ∀ i < 25, Spec.Keccak.rhoTable.getD i 0 = 0 → i = 0 := by decide

theorem rho_at {w : Nat} (A : StateArray) (x y z : Nat) (hx : x < 5) (hy : y < 5) (hz : z < w) :
    rho w A x y z = A x y (mod ((z : Int) - (Spec.Keccak.rhoOffset x y : Nat)) w) := by
  have h := (walks_agree w A (fun x y z => if x = 0 ∧ y = 0 then A 0 0 z else false) 24).2.2.2.2 x hx y hy z
  rw [← rho_eq_fold, ← rhoTable_eq_fold] at h
  have ho : Spec.Keccak.rhoOffset x y = Spec.Keccak.rhoTable.getD (x + 5 * y) 0 := by
    rw [Spec.Keccak.rhoOffset, Nat.mod_eq_of_lt hx, Nat.mod_eq_of_lt hy]
  rw [h, ho]
  split
  · rename_i h0
    have : x = 0 ∧ y = 0 := by have := rhoTable_pos _ (by omega) h0; omega
    obtain ⟨rfl, rfl⟩ := this
    simp only [h0, and_self, if_true, Int.natCast_zero, Int.sub_zero, mod_natCast, Nat.mod_eq_of_lt hz]
  · rfl

end Proofs.Lemmas.Fips202Step
