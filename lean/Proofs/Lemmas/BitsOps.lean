/-
  Shifts, bitwise operators, rotations, concatenation, slices and `split` of `Model.Bits` at the `testBit` level.
-/
import Model.Bits
import Proofs.Lemmas.BitsBasic
import Proofs.Lemmas.Fold
namespace Proofs.Lemmas.Bits
open Model Model.Bits Model.Py

theorem shl_testBit (b : Bits) (k i : Nat) :
    (b.shl k).ival.testBit i = (decide (i < b.size) && (decide (k ≤ i) && b.ival.testBit (i - k))) := by
  simp only [shl, and_mask, Nat.testBit_mod_two_pow, Nat.testBit_shiftLeft, ge_iff_le]

theorem shr_testBit (b : Bits) (k i : Nat) :
    (b.shr k).ival.testBit i = (decide (i < b.size) && b.ival.testBit (k + i)) := by
  simp only [shr, and_mask, Nat.testBit_mod_two_pow, Nat.testBit_shiftRight]

theorem shl_wf (b : Bits) (k : Nat) : (b.shl k).WF := and_mask_lt _ b
theorem shr_wf (b : Bits) (k : Nat) : (b.shr k).WF := and_mask_lt _ b

theorem and_wf {a : Bits} (ha : a.WF) (o : Bits) : (a.and o).WF :=
  Nat.lt_of_le_of_lt Nat.and_le_left (lt_wsize_left ha o)
theorem or_wf {a o : Bits} (ha : a.WF) (ho : o.WF) : (a.or o).WF :=
  Nat.or_lt_two_pow (lt_wsize_left ha o) (lt_wsize_right a ho)
theorem xor_wf {a o : Bits} (ha : a.WF) (ho : o.WF) : (a.xor o).WF :=
  Nat.xor_lt_two_pow (lt_wsize_left ha o) (lt_wsize_right a ho)

theorem or_comm (a o : Bits) : a.or o = o.or a := by
  simp only [Bits.or, wsize_eq_max, Nat.max_comm a.size, Nat.or_comm a.ival]

theorem xor_mk (x a y b : Nat) (h : b ≤ a) : Bits.xor ⟨x, a⟩ ⟨y, b⟩ = ⟨x ^^^ y, a⟩ := by
  rw [Bits.xor, wsize_of_le (a := ⟨x, a⟩) (o := ⟨y, b⟩) h]

theorem or_mk (x a y b : Nat) (h : b ≤ a) : Bits.or ⟨x, a⟩ ⟨y, b⟩ = ⟨x ||| y, a⟩ := by
  rw [Bits.or, wsize_of_le (a := ⟨x, a⟩) (o := ⟨y, b⟩) h]

theorem shr_mk (x w k : Nat) (h : x < 2 ^ w) : Bits.shr ⟨x, w⟩ k = ⟨x >>> k, w⟩ := by
  unfold Bits.shr
  rw [and_mask, Nat.mod_eq_of_lt (Nat.lt_of_le_of_lt (Nat.shiftRight_le _ _) h)]

theorem shl_mk (x w k : Nat) : Bits.shl ⟨x, w⟩ k = ⟨(x <<< k) % 2 ^ w, w⟩ := by
  unfold Bits.shl
  rw [and_mask]

theorem xor_same (a o : Bits) (h : a.size = o.size) : a.xor o = ⟨a.ival ^^^ o.ival, a.size⟩ :=
  xor_mk a.ival a.size o.ival o.size (Nat.le_of_eq h.symm)

theorem xor_size (a o : Bits) (h : a.size = o.size) : (a.xor o).size = a.size :=
  wsize_of_le (Nat.le_of_eq h.symm)

theorem xor_testBit (a o : Bits) (i : Nat) :
    (a.xor o).ival.testBit i = (a.ival.testBit i ^^ o.ival.testBit i) := by
  simp [Bits.xor, Nat.testBit_xor]

theorem neg_eq_sub (b : Bits) : b.neg = Bits.sub ⟨0, b.size⟩ b := by
  simp [neg, sub, wsize, ofNatSz]

theorem xor_mask (b : Bits) (hb : b.WF) : b.ival ^^^ b.mask = 2 ^ b.size - 1 - b.ival := xor_two_pow_pred hb

/-! `rol!`/`ror!` are the bodies of operators.py `rol`/`ror` -/

@[scoped simp] theorem rol!_size (x : Bits) (k : Nat) : (x.rol! k).size = x.size := by
  simp [rol!, Bits.or, wsize, shl, shr]
@[scoped simp] theorem ror!_size (x : Bits) (k : Nat) : (x.ror! k).size = x.size := by
  simp [ror!, Bits.or, wsize, shl, shr]

theorem rol!_wf (x : Bits) (k : Nat) : (x.rol! k).WF := or_wf (shl_wf _ _) (shr_wf _ _)
theorem ror!_wf (x : Bits) (k : Nat) : (x.ror! k).WF := or_wf (shr_wf _ _) (shl_wf _ _)

theorem ror!_testBit (x : Bits) (hx : x.WF) (k : Nat) (hk : k ≤ x.size) (i : Nat) (hi : i < x.size) :
    (x.ror! k).ival.testBit i = x.ival.testBit ((i + k) % x.size) := by
  simp only [ror!, Bits.or, Nat.testBit_or, shl_testBit, shr_testBit, hi, decide_true, Bool.true_and]
  by_cases h : i + k < x.size
  · have h1 : ¬ x.size - k ≤ i := by omega
    rw [Nat.mod_eq_of_lt h, Nat.add_comm k i]
    simp only [h1, decide_false, Bool.false_and, Bool.or_false]
  · have h1 : x.size - k ≤ i := by omega
    rw [wf_testBit hx (i := k + i) (by omega), Nat.mod_eq_sub_mod (by omega), Nat.mod_eq_of_lt (by omega)]
    simp only [h1, decide_true, Bool.true_and, Bool.false_or]
    congr 1
    omega

theorem rol!_eq_ror! (x : Bits) {k : Nat} (hk : k ≤ x.size) : x.rol! k = x.ror! (x.size - k) := by
  rw [rol!, ror!, or_comm, Nat.sub_sub_self hk]

theorem rol!_testBit (x : Bits) (hx : x.WF) (k : Nat) (hk : k ≤ x.size) (i : Nat) (hi : i < x.size) :
    (x.rol! k).ival.testBit i = x.ival.testBit ((i + x.size - k) % x.size) := by
  rw [rol!_eq_ror! x hk, ror!_testBit x hx _ (Nat.sub_le _ _) i hi, Nat.add_sub_assoc hk]

theorem ror!_ror! (x : Bits) (hx : x.WF) {j k : Nat} (h : j + k = x.size) : (x.ror! j).ror! k = x := by
  apply ext_of_wf (ror!_wf _ _) hx (by simp)
  intro i hi
  simp only [ror!_size] at hi
  rw [ror!_testBit _ (ror!_wf _ _) k (by simp; omega) i (by simpa using hi), ror!_size,
    ror!_testBit x hx j (by omega) _ (Nat.mod_lt _ (by omega)), Nat.mod_add_mod, Nat.add_assoc, Nat.add_comm k j, h,
    Nat.add_mod_right, Nat.mod_eq_of_lt hi]

theorem rol!_ror! (x : Bits) (hx : x.WF) (k : Nat) (hk : k ≤ x.size) : (x.ror! k).rol! k = x := by
  rw [rol!_eq_ror! _ (by simpa using hk), ror!_size]
  exact ror!_ror! x hx (by omega)

theorem ror!_rol! (x : Bits) (hx : x.WF) (k : Nat) (hk : k ≤ x.size) : (x.rol! k).ror! k = x := by
  rw [rol!_eq_ror! x hk]
  exact ror!_ror! x hx (by omega)

theorem rol_ok {x : Bits} {k : Nat} (hk : k ≤ x.size) : x.rol k = .ok (x.rol! k) := if_neg (Nat.not_lt.2 hk)
theorem ror_ok {x : Bits} {k : Nat} (hk : k ≤ x.size) : x.ror k = .ok (x.ror! k) := if_neg (Nat.not_lt.2 hk)
theorem rol_error {x : Bits} {k : Nat} (hk : x.size < k) : x.rol k = .error "ValueError:negative shift count" := if_pos hk
theorem ror_error {x : Bits} {k : Nat} (hk : x.size < k) : x.ror k = .error "ValueError:negative shift count" := if_pos hk

@[scoped simp] theorem sliceFast_size (b : Bits) (s e : Nat) : (b.sliceFast s e).size = e - s := rfl
theorem sliceFast_wf (b : Bits) (s e : Nat) : (b.sliceFast s e).WF := ofNatSz_wf _ _

theorem sliceFast_testBit (b : Bits) (s e i : Nat) :
    (b.sliceFast s e).ival.testBit i = (decide (i < e - s) && b.ival.testBit (s + i)) := by
  simp only [sliceFast, ofNatSz_ival, Nat.testBit_mod_two_pow, Nat.testBit_shiftRight,
    Nat.and_two_pow_sub_one_eq_mod]
  by_cases h : i < e - s
  · have : s + i < e := by omega
    simp [h, this]
  · simp [h]

theorem sliceFast_ival (b : Bits) (s e : Nat) : (b.sliceFast s e).ival = b.ival / 2 ^ s % 2 ^ (e - s) := by
  apply Nat.eq_of_testBit_eq
  intro i
  rw [sliceFast_testBit, Nat.testBit_mod_two_pow, Nat.testBit_div_two_pow, Nat.add_comm]

theorem sliceFast_eq (X : Bits) (a w : Nat) : X.sliceFast a (a + w) = ⟨(X.ival >>> a) % 2 ^ w, w⟩ :=
  eq_of_size_ival (Nat.add_sub_cancel_left ..)
    (by rw [sliceFast_ival, Nat.add_sub_cancel_left, Nat.shiftRight_eq_div_pow])

@[scoped simp] theorem concat_size (a o : Bits) : (a.concat o).size = a.size + o.size := rfl
theorem concat_wf (a o : Bits) : (a.concat o).WF := ofNatSz_wf _ _

theorem concat_eq_add (a o : Bits) (ha : a.WF) (ho : o.WF) : a.concat o = ⟨a.ival + o.ival * 2 ^ a.size, a.size + o.size⟩ := by
  have hlt : 2 ^ a.size * o.ival + a.ival < 2 ^ (a.size + o.size) :=
    field_lt (Nat.le_add_right _ _) (by rwa [Nat.add_sub_cancel_left]) ha
  rw [concat, ofNatSz, Nat.or_comm, ← Nat.shiftLeft_add_eq_or_of_lt ha, Nat.shiftLeft_eq, Nat.mul_comm, Nat.mod_eq_of_lt hlt,
    Nat.add_comm, Nat.mul_comm]

theorem concat_testBit (a o : Bits) (ha : a.WF) (i : Nat) :
    (a.concat o).ival.testBit i =
      if i < a.size then a.ival.testBit i else (decide (i < a.size + o.size) && o.ival.testBit (i - a.size)) := by
  simp only [concat, ofNatSz_ival, Nat.testBit_mod_two_pow, Nat.testBit_or, Nat.testBit_shiftLeft, ge_iff_le]
  by_cases h : i < a.size
  · have h1 : i < a.size + o.size := by omega
    have h2 : ¬ a.size ≤ i := by omega
    simp [h, h1, h2]
  · have h2 : a.size ≤ i := by omega
    simp [h, h2, wf_testBit ha h2]

theorem concat_testBit_wf (a o : Bits) (ha : a.WF) (ho : o.WF) (i : Nat) :
    (a.concat o).ival.testBit i = if i < a.size then a.ival.testBit i else o.ival.testBit (i - a.size) := by
  rw [concat_testBit a o ha]
  by_cases h : i < a.size + o.size
  · rw [decide_eq_true h, Bool.true_and]
  · rw [decide_eq_false h, Bool.false_and, wf_testBit ho (show o.size ≤ i - a.size by omega)]

theorem sliceFast_full (b : Bits) (hb : b.WF) : b.sliceFast 0 b.size = b := by
  apply ext_of_wf (sliceFast_wf _ _ _) hb (by simp)
  intro i hi
  simp only [sliceFast_size, Nat.sub_zero] at hi
  simp [sliceFast_testBit, hi]

theorem concat_sliceFast (b : Bits) (p q r : Nat) (hpq : p ≤ q) (hqr : q ≤ r) :
    (b.sliceFast p q).concat (b.sliceFast q r) = b.sliceFast p r := by
  apply ext_of_wf (concat_wf _ _) (sliceFast_wf _ _ _) (by simp; omega)
  intro i _
  rw [concat_testBit _ _ (sliceFast_wf _ _ _)]
  simp only [sliceFast_size, sliceFast_testBit]
  by_cases h : i < q - p
  · have : i < r - p := by omega
    simp [h, this]
  · have e : q + (i - (q - p)) = p + i := by omega
    have h3 : (decide (i - (q - p) < r - q)) = decide (i < r - p) := by
      apply decide_eq_decide.2; omega
    simp only [h, ↓reduceIte, e, h3]
    by_cases h4 : i < r - p
    · have : i < q - p + (r - q) := by omega
      simp [h4, this]
    · simp [h4]

theorem sliceFast_concat_left (a o : Bits) (ha : a.WF) : (a.concat o).sliceFast 0 a.size = a := by
  apply ext_of_wf (sliceFast_wf _ _ _) ha (by simp)
  intro i hi
  simp only [sliceFast_size, Nat.sub_zero] at hi
  simp [sliceFast_testBit, hi, concat_testBit a o ha]

theorem sliceFast_concat_right (a o : Bits) (ha : a.WF) (ho : o.WF) :
    (a.concat o).sliceFast a.size (a.size + o.size) = o := by
  apply ext_of_wf (sliceFast_wf _ _ _) ho (by simp)
  intro i hi
  simp only [sliceFast_size, Nat.add_sub_cancel_left] at hi
  have h1 : ¬ (a.size + i < a.size) := by omega
  simp [sliceFast_testBit, hi, concat_testBit a o ha, h1]

/-- the j-th piece of `split(k)` -/
def piece (b : Bits) (k j : Nat) : Bits := b.sliceFast (j * k) (min (j * k + k) b.size)

def npieces (b : Bits) (k : Nat) : Nat := (b.size + k - 1) / k

theorem split_eq (b : Bits) (k : Nat) (hk : 0 < k) (be : Bool) :
    b.split k be = .ok (if be then ((List.range (npieces b k)).map (piece b k)).reverse
                        else (List.range (npieces b k)).map (piece b k)) := by
  have : k ≠ 0 := by omega
  simp only [split, this, ↓reduceIte]
  rfl

theorem sliceFast_digit (b : Bits) (k j : Nat) : b.sliceFast (k * j) (k * j + k) = ⟨b.ival / 2 ^ (k * j) % 2 ^ k, k⟩ :=
  (sliceFast_eq b (k * j) k).trans (by rw [Nat.shiftRight_eq_div_pow])

/-- the short last piece included: what the value has above bit j*k is then below both moduli -/
theorem piece_ival {b : Bits} (hb : b.WF) (k j : Nat) : (piece b k j).ival = b.ival / 2^(k*j) % 2^k := by
  rw [piece, sliceFast_ival, Nat.mul_comm k j]
  by_cases h : j*k + k ≤ b.size
  · rw [Nat.min_eq_left h, Nat.add_sub_cancel_left]
  · have hy : b.ival / 2^(j*k) < 2^(b.size - j*k) := by
      rw [Nat.div_lt_iff_lt_mul (Nat.two_pow_pos _), ← Nat.pow_add]
      exact Nat.lt_of_lt_of_le hb (Nat.pow_le_pow_right (by decide) (by omega))
    rw [Nat.min_eq_right (by omega), Nat.mod_eq_of_lt hy,
      Nat.mod_eq_of_lt (Nat.lt_of_lt_of_le hy (Nat.pow_le_pow_right (by decide) (by omega)))]

theorem split_uniform (b : Bits) (n k : Nat) (hk : 0 < k) (hs : b.size = k * n) :
    b.split k false = .ok ((List.range n).map fun j => (⟨b.ival / 2 ^ (k * j) % 2 ^ k, k⟩ : Bits)) := by
  rw [split_eq b k hk, npieces, hs, Fold.ceilDiv_mul k n hk]
  simp only [Bool.false_eq_true, ↓reduceIte]
  congr 1
  apply List.map_congr_left
  intro j hj
  have hle : k * j + k ≤ b.size := by
    rw [hs, ← Nat.mul_succ]
    exact Nat.mul_le_mul_left k (List.mem_range.mp hj)
  rw [piece, Nat.mul_comm j k, Nat.min_eq_left hle]
  exact sliceFast_digit b k j

theorem lt_npieces {b : Bits} {k j : Nat} (hk : 0 < k) : j < npieces b k ↔ j * k < b.size := by
  unfold npieces
  rw [Nat.lt_iff_add_one_le, Nat.le_div_iff_mul_le hk, Nat.succ_mul]
  omega

/-- `bigend` only reverses the list: the length test spares the reversal of a one-element list, which is its own reverse -/
theorem concatList_eq (l : List Bits) (be : Bool) : concatList l be = concatList (if be then l.reverse else l) false := by
  cases be
  · rfl
  · have h : (if true = true ∧ l.length ≠ 1 then l.reverse else l) = l.reverse := by
      split
      · rfl
      · rename_i h
        match l, Decidable.not_not.1 (fun h1 => h ⟨rfl, h1⟩) with
        | [x], _ => rfl
    unfold concatList
    rw [h]
    rfl

theorem concatList_cons (x : Bits) (xs : List Bits) : concatList (x :: xs) false = .ok (xs.foldl concat x) := rfl

end Proofs.Lemmas.Bits
