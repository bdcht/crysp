/-
  Helper lemmas for C05: what the modes need of the padding object, for the four schemes they are stated with.  The
  generator and `remove` are those of the padding property: its theorems (Proofs.C09) describe the blocks of one padded
  call over Spec.Padding, and Spec.Padding agrees with Spec.ModePad on byte strings (ModePadTie).
-/
import Proofs.C09
import Proofs.Lemmas.ModePadTie
import Proofs.Lemmas.ModeL
open Model Model.Mode Proofs.Lemmas.ModeL
namespace Proofs.Lemmas.ModeL

def PadDom (s : Spec.ModePad.Scheme) (l : Nat) (M : List Nat) : Prop :=
  match s with
  | .none => M.length % l = 0 ∧ 0 < M.length
  | .pkcs7 => l < 256
  | .x923 => l < 256
  | .bit => True

structure PadFacts (s : Spec.ModePad.Scheme) (l : Nat) (M : List Nat) : Prop where
  iter : iter ⟨toModel s, 8 * l⟩ M = (Spec.Mode.blocks l (Spec.ModePad.pad s l M), none)
  len : ∃ n, (Spec.ModePad.pad s l M).length = n * l
  bytes : Bytes (Spec.ModePad.pad s l M)
  remove : ∀ st, Padder.remove ⟨toModel s, 8 * l⟩ st (Spec.ModePad.pad s l M) = .ok M

theorem pad_length (s : Spec.ModePad.Scheme) (l : Nat) (hl : 0 < l) (M : List Nat) :
    (Spec.ModePad.pad s l M).length = if s = .none then M.length else (M.length / l + 1) * l := by
  have h1 := Nat.div_add_mod M.length l
  have h2 := Nat.mod_lt M.length hl
  rw [Nat.succ_mul, Nat.mul_comm]
  generalize l * (M.length / l) = q at *
  cases s <;> simp [Spec.ModePad.pad, Spec.ModePad.pkcs7, Spec.ModePad.x923, Spec.ModePad.bitpad, Spec.ModePad.padLen] <;> omega

open Proofs.Lemmas.Padding in
theorem padFacts_padded (s : Spec.ModePad.Scheme) (hs : s ≠ .none) (l : Nat) (hl : 0 < l) (M : List Nat)
    (h256 : s = .pkcs7 ∨ s = .x923 → l < 256) (hM : Bytes M) : PadFacts s l M := by
  have hv : Valid ⟨toModel s, 8 * l⟩ := by
    refine ⟨Nat.mul_mod_right 8 l, Nat.mul_pos (by decide) hl, ?_⟩
    cases s with
    | pkcs7 => exact (blocklen_mk _ l).symm ▸ h256 (.inl rfl)
    | x923 => exact (blocklen_mk _ l).symm ▸ h256 (.inr rfl)
    | _ => trivial
  have hL : effLen M none ≤ 8 * M.length := Nat.le_refl _
  have hbg : (none : Option Nat) ≠ none → BitGranular (toModel s) := fun h => absurd rfl h
  obtain ⟨herr, hcat⟩ := Proofs.C09.blocks_concat _ hv {} rfl rfl M hM none hL hbg
  have hby := Proofs.C09.blocks_bytes _ hv {} rfl M hM none hL hbg
  have hrm := Proofs.C09.remove_pad _ hv {} rfl M hM none hL hbg
  have hall : ∀ b ∈ ((Padder.iterblocks ⟨toModel s, 8 * l⟩ {} M).yields.map (·.1)), b.length = l := by
    intro b hb
    obtain ⟨y, hy, rfl⟩ := List.mem_map.1 hb
    obtain ⟨i, hi, rfl⟩ := List.getElem_of_mem hy
    rcases Proofs.C09.blocks_length _ hv {} rfl M hM none hL hbg i hi with h | ⟨h, _⟩
    · rw [h]
      exact blocklen_mk _ l
    · cases s <;> first | exact absurd rfl hs | cases h
  have hspec : Padding.specOf (toModel s) = ModePadTie.toPadding s := by
    cases s <;> rfl
  rw [show (⟨toModel s, 8 * l⟩ : Padder).scheme = toModel s from rfl, hspec,
    show effLen M none = 8 * M.length from rfl, ← ModePadTie.pad_eq s l hl M hM h256] at hcat
  rw [hcat] at hby hrm
  rw [show effLen M none = 8 * M.length from rfl, msgBytes_whole M hM] at hrm
  generalize hBs : (Padder.iterblocks ⟨toModel s, 8 * l⟩ {} M).yields.map (·.1) = Bs at hcat hall
  have hit : iter ⟨toModel s, 8 * l⟩ M = (Bs, none) := Prod.ext hBs herr
  refine ⟨?_, ⟨Bs.length, ?_⟩, hby, ?_⟩
  · rw [hit, ← hcat, blocks_full l hl Bs hall]
  · rw [← hcat]
    exact length_join_of_all l Bs hall
  · intro st
    rw [← hrm]
    cases s <;> first | exact absurd rfl hs | rfl

theorem padFacts (s : Spec.ModePad.Scheme) (l : Nat) (hl : 0 < l) (M : List Nat) (hd : PadDom s l M) (hM : Bytes M) :
    PadFacts s l M := by
  cases s with
  | none =>
    refine ⟨iter_no l hl M hd.2, ⟨M.length / l, ?_⟩, hM, fun st => rfl⟩
    have := Nat.div_add_mod M.length l
    have := hd.1
    show M.length = _
    rw [Nat.mul_comm]
    omega
  | pkcs7 => exact padFacts_padded _ (by simp) l hl M (fun _ => hd) hM
  | x923 => exact padFacts_padded _ (by simp) l hl M (fun _ => hd) hM
  | bit => exact padFacts_padded _ (by simp) l hl M (fun h => by simp at h) hM

end Proofs.Lemmas.ModeL
