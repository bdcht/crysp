/-
  `Spec.Des` on numbers, proved equal to `Spec.Des` as functions, and used only to evaluate the known answers of
  Proofs/C02_DesSpec in the kernel.  A bit string of the specification is `bitsOfNat n p` for a number p, first bit
  highest: its length is the constant n, and bits of p from n on are not read, so the lemmas need no bound on a number.
  The round loop `roundsN` also lists the arguments handed to the S-boxes: the list that `DesSboxVectors.sboxInputs_eq`, in a
  file that imports this one, identifies with the specification's.
-/
import Spec.Des
import Proofs.Lemmas.Fold
namespace Proofs.Lemmas.DesEval
open Spec.Des

theorem bitsOfNat_natOfBits (x : Bitstr) : bitsOfNat x.length (natOfBits x) = x := by
  rw [bitsOfNat, ← Fold.reverse_map_range _ (fun j => (natOfBits x).testBit j), natOfBits, ← List.foldr_reverse]
  simp only [Fold.testBit_foldr_bits]
  rw [← List.length_reverse, Fold.map_getD_range _ _ _ (Nat.le_refl _), List.take_length, List.reverse_reverse]

theorem natOfBits_bitsOfNat (n p : Nat) : natOfBits (bitsOfNat n p) = p % 2 ^ n := by
  apply Nat.eq_of_testBit_eq
  intro j
  rw [natOfBits, ← List.foldr_reverse, Fold.testBit_foldr_bits, bitsOfNat, ← Fold.reverse_map_range _ (fun j => p.testBit j),
    List.reverse_reverse, Nat.testBit_mod_two_pow]
  by_cases h : j < n <;> simp [h]

-- Position j of the string is bit n − 1 − j of p, that is bit n − j of 2·p: written so, a position j ≥ n reads bit 0 of 2·p,
-- which is `false`, the default of `getD`, and the lemma needs no bound on j.
theorem getD_bits (n p j : Nat) : (bitsOfNat n p).getD j false = (2 * p).testBit (n - j) := by
  by_cases h : j < n
  · rw [bitsOfNat, Fold.getD_map_range _ _ _ _ h, show n - j = n - 1 - j + 1 by omega, Nat.testBit_succ,
      Nat.mul_div_cancel_left _ (by decide)]
  · simp [h, bitsOfNat, Nat.sub_eq_zero_of_le (Nat.le_of_not_lt h)]

theorem xor_bits (n a b : Nat) : Spec.Des.xor (bitsOfNat n a) (bitsOfNat n b) = bitsOfNat n (a ^^^ b) := by
  simp only [Spec.Des.xor, bitsOfNat, List.zipWith_map, List.zipWith_self, Nat.testBit_xor]

theorem take_bits (m n p : Nat) : (bitsOfNat n p).take m = bitsOfNat (min m n) (p >>> (n - m)) := by
  rw [bitsOfNat, ← List.map_take, List.take_range, bitsOfNat]
  refine Fold.map_range_congr fun i hi => ?_
  rw [Nat.testBit_shiftRight, show n - m + (min m n - 1 - i) = n - 1 - i by omega]

theorem drop_bits (m n p : Nat) : (bitsOfNat n p).drop m = bitsOfNat (n - m) p := by
  rw [bitsOfNat, ← List.map_drop, List.range_eq_range', List.drop_range', List.range'_eq_map_range, List.map_map, bitsOfNat]
  refine Fold.map_range_congr fun i _ => ?_
  rw [Function.comp_apply, show n - 1 - (0 + m * 1 + i) = n - m - 1 - i by omega]

theorem append_bits (m n a b : Nat) : bitsOfNat m a ++ bitsOfNat n b = bitsOfNat (m + n) (a <<< n ||| b % 2 ^ n) := by
  simp only [bitsOfNat, List.range_add, List.map_append, List.map_map]
  congr 1 <;> refine Fold.map_range_congr fun i hi => ?_
  · simp [show m + n - 1 - i = n + (m - 1 - i) by omega, Nat.testBit_shiftLeft, Nat.testBit_mod_two_pow,
      Nat.not_lt.2 (Nat.le_add_right n (m - 1 - i))]
  · have h : n - 1 - i < n := by omega
    simp [show m + n - 1 - (m + i) = n - 1 - i by omega, h, Nat.testBit_shiftLeft, Nat.testBit_mod_two_pow, Nat.not_le.2 h]

/-- pieces of w bits each, the first highest -/
def concatN {α} (w : Nat) (g : α → Nat) : List α → Nat
  | [] => 0
  | a :: l => g a <<< (w * l.length) ||| concatN w g l % 2 ^ (w * l.length)
theorem flatMap_bits {α} (w : Nat) (g : α → Nat) (l : List α) :
    (l.flatMap fun a => bitsOfNat w (g a)) = bitsOfNat (w * l.length) (concatN w g l) := by
  induction l with
  | nil => rfl
  | cons a l ih =>
    rw [List.flatMap_cons, ih, append_bits, List.length_cons, Nat.mul_succ, Nat.add_comm]
    rfl

theorem slice_bits (w c p i : Nat) (h : i ∈ List.range c) :
    ((bitsOfNat (w * c) p).drop (w * i)).take w = bitsOfNat w (p >>> (w * (c - 1 - i))) := by
  rw [drop_bits, take_bits, ← Nat.mul_sub, Nat.min_eq_left (Nat.le_mul_of_pos_right w (Nat.sub_pos_of_lt (List.mem_range.1 h))),
    ← Nat.mul_sub_one, Nat.sub_right_comm]

-- not reduced to n bits: `bitsOfNat n` does not read what `<<<` pushes beyond bit n − 1; `min s n` is the length of `List.take s`
def rotN (n s x : Nat) : Nat := x <<< min s n ||| (x >>> (n - s)) % 2 ^ min s n
theorem rotl_bits (n s x : Nat) : rotl s (bitsOfNat n x) = bitsOfNat n (rotN n s x) := by
  rw [rotl, drop_bits, take_bits, append_bits, rotN]
  congr 1
  omega

-- `bit` and `permuteN` do nearly all the work of an evaluation; they name `Nat.land`, `Nat.add` … and not `&&&`, `+`, which
-- the kernel has to unfold through their instances, once for every bit, before it computes on the numerals
def bit (x i : Nat) : Nat := Nat.land (Nat.shiftRight x i) 1
theorem bit_eq (x i : Nat) : bit x i = (x.testBit i).toNat :=
  (Nat.and_one_is_mod (x >>> i)).trans (by rw [Nat.shiftRight_eq_div_pow, Nat.toNat_testBit])

-- `2 * x` and `n - (i - 1)` as in `getD_bits`: a table entry beyond n selects `false`
def permuteN (n : Nat) (tbl : List Nat) (x : Nat) : Nat :=
  tbl.foldl (fun a i => Nat.add (Nat.mul 2 a) (bit (2 * x) (n - (i - 1)))) 0
theorem permute_bits (tbl : List Nat) (n p : Nat) :
    permute tbl (bitsOfNat n p) = bitsOfNat tbl.length (permuteN n tbl p) := by
  have h := bitsOfNat_natOfBits (tbl.map fun i => (2 * p).testBit (n - (i - 1)))
  rw [List.length_map, natOfBits, List.foldl_map] at h
  simp only [permute, getD_bits, permuteN, bit_eq]
  exact h.symm

def sboxN (n v : Nat) : Nat :=
  ((Sboxes.getD n []).getD (2 * bit v 5 + bit v 0) []).getD (2 * (2 * (2 * bit v 4 + bit v 3) + bit v 2) + bit v 1) 0
theorem sbox_bits (n v : Nat) : sbox n (bitsOfNat 6 v) = bitsOfNat 4 (sboxN n v) := by
  have e : bitsOfNat 6 v = [v.testBit 5, v.testBit 4, v.testBit 3, v.testBit 2, v.testBit 1, v.testBit 0] := rfl
  simp only [sbox, e, List.getD_cons_succ, List.getD_cons_zero, natOfBits, List.foldl_cons, List.foldl_nil, Nat.mul_zero,
    Nat.zero_add, sboxN, bit_eq]

def fN (R K : Nat) : Nat :=
  let B := K ^^^ permuteN 32 E R
  permuteN 32 P (concatN 4 (fun n => sboxN n (B >>> (6 * (7 - n)))) (List.range 8))
theorem f_bits (R K : Nat) : f (bitsOfNat 32 R) (bitsOfNat 48 K) = bitsOfNat 32 (fN R K) := by
  simp only [f, permute_bits, show E.length = 48 from rfl, xor_bits]
  rw [Fold.flatMap_congr_mem fun n hn => by rw [slice_bits 6 8 _ n hn, sbox_bits], flatMap_bits, permute_bits]
  rfl

def ksFromN : List Nat → Nat → Nat → List Nat
  | [], _, _ => []
  | s :: ss, C, D =>
    let C' := rotN 28 s C
    let D' := rotN 28 s D
    permuteN 56 PC2 (C' <<< 28 ||| D' % 2 ^ 28) :: ksFromN ss C' D'
theorem ksFrom_bits (ss : List Nat) (C D : Nat) :
    ksFrom ss (bitsOfNat 28 C) (bitsOfNat 28 D) = (ksFromN ss C D).map (bitsOfNat 48) := by
  induction ss generalizing C D with
  | nil => rfl
  | cons s ss ih =>
    simp only [ksFrom, ksFromN, rotl_bits, append_bits, permute_bits, ih, List.map_cons, show PC2.length = 48 from rfl]

def keyScheduleN (key : Nat) : List Nat :=
  let cd := permuteN 64 PC1 key
  ksFromN shifts (cd >>> 28) cd
theorem keySchedule_bits (key : Nat) : keySchedule (bitsOfNat 64 key) = (keyScheduleN key).map (bitsOfNat 48) := by
  simp only [keySchedule, keyScheduleN, permute_bits, take_bits, drop_bits, show PC1.length = 56 from rfl]
  exact ksFrom_bits _ _ _

/-- one round on (L, R), and its eight S-box arguments added to the list: box n+1 with 6-bit input v coded 64·n + v -/
def roundN (st : (Nat × Nat) × List Nat) (K : Nat) : (Nat × Nat) × List Nat :=
  let B := K ^^^ permuteN 32 E st.1.2
  ((st.1.2, st.1.1 ^^^ fN st.1.2 K), st.2 ++ (List.range 8).map fun n => 64 * n + (B >>> (6 * (7 - n))) % 64)

def roundsN (ks : List Nat) (blk : Nat) : (Nat × Nat) × List Nat :=
  let x := permuteN 64 IP blk
  ks.foldl roundN ((x >>> 32, x), [])
theorem rounds_bits (ks : List Nat) (blk : Nat) :
    (ks.map (bitsOfNat 48)).foldl
      (fun (st : (Bitstr × Bitstr) × List Nat) K =>
        let B := Spec.Des.xor K (permute E st.1.2)
        (round st.1 K, st.2 ++ (List.range 8).map fun n => 64 * n + natOfBits ((B.drop (6 * n)).take 6)))
      (((permute IP (bitsOfNat 64 blk)).take 32, (permute IP (bitsOfNat 64 blk)).drop 32), [])
    = ((bitsOfNat 32 (roundsN ks blk).1.1, bitsOfNat 32 (roundsN ks blk).1.2), (roundsN ks blk).2) := by
  rw [List.foldl_map, permute_bits, take_bits, drop_bits]
  refine List.foldl_hom (fun st : (Nat × Nat) × List Nat => ((bitsOfNat 32 st.1.1, bitsOfNat 32 st.1.2), st.2)) (g₁ := roundN)
    (init := ((permuteN 64 IP blk >>> 32, permuteN 64 IP blk), [])) fun st K => ?_
  simp only [round, f_bits, xor_bits, permute_bits, show E.length = 48 from rfl, roundN]
  congr 2
  exact List.map_congr_left fun n hn => by
    rw [slice_bits 6 8 _ n hn, natOfBits_bitsOfNat]

def cryptN (ks : List Nat) (blk : Nat) : Nat :=
  let LR := (roundsN ks blk).1
  permuteN 64 IPinv (LR.2 <<< 32 ||| LR.1 % 2 ^ 32)
theorem cryptBits_bits (ks : List Nat) (blk : Nat) :
    cryptBits (ks.map (bitsOfNat 48)) (bitsOfNat 64 blk) = bitsOfNat 64 (cryptN ks blk) := by
  have h := congrArg Prod.fst (rounds_bits ks blk)
  -- the list of S-box inputs rides beside the state and does not feed back into it
  rw [← List.foldl_hom Prod.fst (g₂ := round) fun _ _ => rfl] at h
  rw [cryptBits, h, append_bits, permute_bits, cryptN]
  rfl

def packBytes (bs : List Nat) : Nat := concatN 8 (fun b => b) bs
theorem bytesToBits_eq (bs : List Nat) (h : bs.length = 8) : bytesToBits bs = bitsOfNat 64 (packBytes bs) := by
  rw [bytesToBits, flatMap_bits 8 (fun b => b), h]
  rfl

def unpackBytes (c : Nat) : List Nat := (List.range 8).map fun k => (c >>> (8 * (7 - k))) % 256
theorem bitsToBytes_bits (c : Nat) : bitsToBytes (bitsOfNat 64 c) = unpackBytes c := by
  rw [bitsToBytes, bitsOfNat, List.length_map, List.length_range, ← bitsOfNat]
  exact List.map_congr_left fun i hi => by
    rw [slice_bits 8 8 c i hi, natOfBits_bitsOfNat]

theorem keySchedule_bytes (key : List Nat) (h : key.length = 8) :
    keySchedule (bytesToBits key) = (keyScheduleN (packBytes key)).map (bitsOfNat 48) := by
  rw [bytesToBits_eq key h, keySchedule_bits]

theorem enc_eq :
    enc = fun key blk =>
      if key.length = 8 ∧ blk.length = 8 then some (unpackBytes (cryptN (keyScheduleN (packBytes key)) (packBytes blk)))
      else none := by
  funext key blk
  refine ite_congr rfl (fun h => ?_) fun _ => rfl
  rw [encryptBits, keySchedule_bytes key h.1, bytesToBits_eq blk h.2, cryptBits_bits, bitsToBytes_bits]

end Proofs.Lemmas.DesEval
