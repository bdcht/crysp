/-
  The generic Merkle–Damgård composition: a model hash object (Model.HashCore: padding iterator + compression loop
  + serialisation) computes the standard's hash (Spec.MDHash: pad, cut, iterate, serialise) as soon as
    * its IV, compression function and serialisation refine the standard's (`Refines`), and
    * the blocks its padding iterator yields for the call are the blocks of the standard's padded message (`PadOk`).
-/
import Model.HashObj
import Spec.MerkleDamgard
import Proofs.Lemmas.Parse
import Proofs.Lemmas.SpecList
namespace Proofs.Lemmas.Compose
open Model Proofs.Lemmas.Parse

variable {σ : Type}

structure Refines (c : HashCore) (h : Spec.MDHash σ) (emb : σ → List Bits) : Prop where
  iv : c.iv = emb h.init
  compress : ∀ s blk, blk.length = h.blockLen →
    c.compress (emb s) (toNatBytes blk) = .ok (emb (h.compress s blk))
  digest : ∀ s, c.digest (emb s) = toNatBytes (h.out s)
  blockLen : c.padder.blocklen = h.blockLen

/-- the padding obligation of one `update(M,bitlen,padding=True)` call on an object whose padding state is `st`,
    `done` bits already absorbed -/
def PadOk (c : HashCore) (h : Spec.MDHash σ) (st : PadState) (done : Nat) (M : List Spec.Byte) (L : Option Nat)
    (bits : List Bool) : Prop :=
  (c.padder.iterblocks st (toNatBytes M) L true).err = none ∧
  (c.padder.iterblocks st (toNatBytes M) L true).yields.map (·.1)
    = (Spec.groups h.blockLen (h.padFrom done bits)).map toNatBytes

theorem blocks_groups (p : Padder) (X : List Spec.Byte) :
    (List.range (X.length / p.blocklen)).map (p.blockAt (toNatBytes X)) = (Spec.groups p.blocklen X).map toNatBytes := by
  simp only [Spec.groups, List.map_map]
  apply List.map_congr_left
  intro i _
  simp only [Function.comp, Padder.blockAt, toNatBytes, Fold.drop_take_map]

theorem absorb_ok {c : HashCore} {h : Spec.MDHash σ} {emb : σ → List Bits} (R : Refines c h emb)
    (ys : List (List Nat × PadState)) (blocks : List (List Spec.Byte)) (s : σ)
    (hy : ys.map (·.1) = blocks.map toNatBytes) (hl : ∀ b ∈ blocks, b.length = h.blockLen) :
    c.absorb (emb s) ys = (emb (h.absorb s blocks), none) := by
  induction ys generalizing blocks s with
  | nil =>
    cases blocks with
    | nil => rfl
    | cons _ _ => simp at hy
  | cons y ys ih =>
    cases blocks with
    | nil => simp at hy
    | cons b bs =>
      obtain ⟨B, st⟩ := y
      simp only [List.map_cons, List.cons.injEq] at hy
      obtain ⟨h1, h2⟩ := hy
      subst h1
      simp only [HashCore.absorb, R.compress s b (hl b (by simp))]
      exact ih bs (h.compress s b) h2 (fun x hx => hl x (by simp [hx]))

theorem update_final {c : HashCore} {h : Spec.MDHash σ} {emb : σ → List Bits} (R : Refines c h emb)
    (s : σ) (st : PadState) (done : Nat) (M : List Spec.Byte) (L : Option Nat) (bits : List Bool)
    (hp : PadOk c h st done M L bits) :
    (c.update ⟨emb s, st⟩ (toNatBytes M) L true).2 = .ok (toNatBytes (h.hashFrom s done bits)) := by
  obtain ⟨he, hy⟩ := hp
  simp only [HashCore.update]
  rw [absorb_ok R _ _ s hy (SpecList.groups_length _ _)]
  simp only [he, R.digest, Spec.MDHash.hashFrom]

theorem hash_of_refines {c : HashCore} {h : Spec.MDHash σ} {emb : σ → List Bits} (R : Refines c h emb)
    (M : List Spec.Byte) (L : Option Nat) (bits : List Bool) (hp : PadOk c h {} 0 M L bits) :
    c.hash (toNatBytes M) L = .ok (toNatBytes (h.hash bits)) := by
  have := update_final R h.init {} 0 M L bits hp
  simp only [HashCore.hash, HashCore.call, HashCore.initstate, R.iv]
  exact this

end Proofs.Lemmas.Compose
