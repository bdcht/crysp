/-
  Lemmas for C17: the bit-stream view of byte strings.  `sbit s k` is bit k of the stream (bit 0 = most significant bit of
  the first byte), entry k of the bit list `Spec.Padding.bytesToBits s`.  `Bits(bytes)` (bitorder -1), `Bits.bytes()` and
  big-endian integers are characterised through it; the specification's `takeBits`/`zeroPad` are cutting a bit list and
  appending zero bits to it.
-/
import Model.Md6
import Spec.Md6
import Proofs.Lemmas.BitCodec
namespace Proofs.Lemmas.Md6Bits
open Model Model.Py Proofs.Lemmas.Padding

def sbit (s : List Nat) (k : Nat) : Bool := (s.getD (k / 8) 0).testBit (7 - k % 8)

theorem sbit_eq (s : List Nat) (k : Nat) : sbit s k = (Spec.Padding.bytesToBits s).getD k false :=
  (bytesToBits_getD s k).symm

/-- also beyond the end, where both sides are `false` -/
theorem sbit_bitsToBytes (l : List Bool) (k : Nat) : sbit (Spec.Padding.bitsToBytes l) k = l.getD k false := by
  have hk : k % 8 < 8 := Nat.mod_lt _ (by omega)
  unfold sbit
  by_cases h : k / 8 < (Spec.Padding.bitsToBytes l).length
  · rw [List.getD_eq_getElem?_getD, List.getElem?_eq_getElem h, Option.getD_some, bitsToBytes_getElem,
      byteOfBits_bit _ _ hk, Fold.getD_drop_take, decide_eq_true hk, Bool.true_and, Nat.div_add_mod]
  · rw [bitsToBytes_length] at h
    rw [List.getD_eq_getElem?_getD, List.getElem?_eq_none (by rw [bitsToBytes_length]; omega),
      List.getD_eq_getElem?_getD, List.getElem?_eq_none (by omega)]
    simp

/-- a byte string as a number: the first byte in the low 8 bits, each byte sent through `f` -/
def accVal (f : Nat → Nat) : List Nat → Nat
  | [] => 0
  | b :: bs => (accVal f bs <<< 8) ||| f b

/-- … with every byte bit-reversed: on bytes the value of `Bits(s)` in bitorder -1; the recursion of `Model.Bits.bsVal` -/
def bsVal (s : List Nat) : Nat := accVal Bits.reverseByte s

theorem bsVal_cons (b : Nat) (bs : List Nat) : bsVal (b :: bs) = (bsVal bs <<< 8) ||| Bits.reverseByte b := rfl
theorem bsVal_nil : bsVal [] = 0 := rfl

theorem bsVal_eq_leInt (s : List Nat) (hs : ∀ x ∈ s, x < 256) : bsVal s = leInt (s.map Bits.reverseByte) := by
  induction s with
  | nil => rfl
  | cons b bs ih =>
    have hb : Bits.reverseByte b < 2 ^ 8 := Bits.reverseByte_lt b (hs b (by simp))
    rw [bsVal_cons, ih (fun x hx => hs x (by simp [hx])), ← Nat.shiftLeft_add_eq_or_of_lt hb, Nat.shiftLeft_eq,
      List.map_cons, leInt]
    omega

/-- the value of `Bits(s)` in bitorder -1 (`Bits.ofBytes_rev_eq`) has the stream's bit k at position k -/
theorem leInt_rev_testBit (s : List Nat) (hs : ∀ x ∈ s, x < 256) (k : Nat) :
    (leInt (s.map Bits.reverseByte)).testBit k = sbit s k := by
  have hk : k % 8 < 8 := Nat.mod_lt _ (by omega)
  have h := Bytes.leInt_testBit _ (Bits.byteMap_reverseByte.map hs) (k / 8) (k % 8) hk
  rw [Nat.div_add_mod] at h
  rw [h, sbit, List.getD_eq_getElem?_getD, List.getD_eq_getElem?_getD, List.getElem?_map]
  cases hv : s[k / 8]? with
  | none => simp
  | some v =>
    rw [Option.map_some, Option.getD_some, Option.getD_some]
    exact Bits.reverseByte_testBit v (hs v (List.mem_of_getElem? hv)) _ hk

theorem bytes_ext (l1 l2 : List Nat) (hlen : l1.length = l2.length) (h1 : ∀ x ∈ l1, x < 256) (h2 : ∀ x ∈ l2, x < 256)
    (h : ∀ k, k < 8 * l1.length → sbit l1 k = sbit l2 k) : l1 = l2 := by
  rw [← bitsToBytes_bytesToBits l1 h1, ← bitsToBytes_bytesToBits l2 h2]
  congr 1
  apply List.ext_getElem (by simp [hlen])
  intro k hk _
  have := h k (by simpa using hk)
  rwa [sbit_eq, sbit_eq, List.getD_eq_getElem?_getD, List.getD_eq_getElem?_getD, List.getElem?_eq_getElem hk,
    List.getElem?_eq_getElem (by simpa [← hlen] using hk), Option.getD_some, Option.getD_some] at this

theorem toBytes_sbit (b : Bits) (k : Nat) : sbit b.toBytes k = (decide (k < b.size) && b.ival.testBit k) := by
  rw [BitCodec.toBytes_eq, sbit_bitsToBytes, Bits.getD_bools']

theorem be_testBit (s : List Nat) (hs : ∀ x ∈ s, x < 256) (t : Nat) (ht : t < 8 * s.length) :
    (s.foldl (fun a x => a * 256 + x) 0).testBit t = sbit s (8 * s.length - 1 - t) := by
  have h : (s.foldl (fun a x => a * 256 + x) 0).testBit (8 * (t / 8) + t % 8) = _ :=
    Bytes.beInt_testBit s hs (t / 8) (t % 8) (Nat.mod_lt _ (by omega))
  rw [Nat.div_add_mod] at h
  have e1 : (8 * s.length - 1 - t) / 8 = s.length - 1 - t / 8 := by omega
  have e2 : 7 - (8 * s.length - 1 - t) % 8 = t % 8 := by omega
  rw [sbit, e1, e2]
  simpa [List.getD_eq_getElem?_getD, List.getElem?_reverse (show t / 8 < s.length by omega)] using h

theorem sbit_beBytes (v nb k : Nat) (hk : k < 8 * nb) :
    sbit ((List.range nb).map fun i => (v / 256 ^ (nb - 1 - i)) % 256) k = v.testBit (8 * nb - 1 - k) := by
  have hi : k / 8 < nb := by omega
  simp only [sbit, List.getD_eq_getElem?_getD, List.getElem?_map, List.getElem?_range hi, Option.map_some,
    Option.getD_some]
  rw [Bytes.pow256, ← Bytes.byteAt, Bytes.byteAt_testBit _ _ _ (by omega)]
  congr 1; omega

theorem takeBits_eq (m : Nat) (s : List Nat) (hs : ∀ x ∈ s, x < 256) (hm : m ≤ 8 * s.length) :
    Spec.Md6.takeBits m s = Spec.Padding.bitsToBytes ((Spec.Padding.bytesToBits s).take m) := by
  have hsplit : (Spec.Padding.bytesToBits s).take m = Spec.Padding.bytesToBits (s.take (m / 8))
      ++ (Spec.Padding.bytesToBits (s.drop (m / 8))).take (m % 8) := by
    rw [bytesToBits_take, bytesToBits_drop, ← List.take_add, Nat.div_add_mod]
  rw [hsplit, bitsToBytes_bytesToBits_append _ (Bytes.AllBytes.take hs _), Spec.Md6.takeBits]
  by_cases h0 : m % 8 = 0
  · rw [if_pos h0, h0, List.take_zero, bitsToBytes_nil, List.append_nil]
  · rw [if_neg h0]
    congr 1
    have hlen : ((Spec.Padding.bytesToBits (s.drop (m / 8))).take (m % 8)).length = m % 8 := by
      rw [List.length_take, bytesToBits_length, List.length_drop]
      omega
    have h1 : (m % 8 + 7) / 8 = 1 := by omega
    simp only [Spec.Padding.bitsToBytes, hlen, h1, List.range_one, List.map_cons, List.map_nil, Nat.mul_zero,
      List.drop_zero]
    congr 1
    symm
    apply byteOfBits_eq _ (Nat.lt_of_le_of_lt (Nat.div_mul_le_self _ _) (Bytes.AllBytes.getD_lt hs _))
    intro j hj
    rw [List.take_take, List.getD_eq_getElem?_getD, List.getElem?_take, Nat.testBit_mul_two_pow,
      Nat.testBit_div_two_pow]
    by_cases hjt : j < m % 8
    · rw [if_pos (by omega), ← List.getD_eq_getElem?_getD, bytesToBits_getD, Nat.div_eq_of_lt hj, Nat.mod_eq_of_lt hj,
        decide_eq_true (by omega), Bool.true_and, show 7 - j - (8 - m % 8) + (8 - m % 8) = 7 - j by omega,
        List.getD_eq_getElem?_getD, List.getD_eq_getElem?_getD, List.getElem?_drop, Nat.add_zero]
    · rw [if_neg (by omega), decide_eq_false (by omega)]
      rfl

theorem takeBits_length (m : Nat) (s : List Nat) (hs : ∀ x ∈ s, x < 256) (hm : m ≤ 8 * s.length) :
    (Spec.Md6.takeBits m s).length = (m + 7) / 8 := by
  rw [takeBits_eq m s hs hm, bitsToBytes_length, List.length_take, bytesToBits_length, Nat.min_eq_left hm]

theorem takeBits_lt (m : Nat) (s : List Nat) (hs : ∀ x ∈ s, x < 256) (hm : m ≤ 8 * s.length) :
    ∀ x ∈ Spec.Md6.takeBits m s, x < 256 := by
  rw [takeBits_eq m s hs hm]
  exact bitsToBytes_Bytes _

theorem sbit_zeroPad (n : Nat) (A : List Nat) (k : Nat) : sbit (Spec.Md6.zeroPad n A) k = sbit A k := by
  unfold sbit Spec.Md6.zeroPad
  rw [Fold.getD_append_replicate]

theorem zeroPad_lt (n : Nat) (A : List Nat) (hA : ∀ x ∈ A, x < 256) : ∀ x ∈ Spec.Md6.zeroPad n A, x < 256 :=
  Bytes.AllBytes.append hA (Bytes.AllBytes.replicate (by decide) _)

theorem zeroPad_bitsToBytes (A : List Bool) (z : Nat) :
    Spec.Md6.zeroPad ((A.length + z + 7) / 8) (Spec.Padding.bitsToBytes A)
      = Spec.Padding.bitsToBytes (A ++ Spec.Padding.zeros z) := by
  apply bytes_ext _ _ _ (zeroPad_lt _ _ (bitsToBytes_Bytes A)) (bitsToBytes_Bytes _)
  · intro k _
    rw [sbit_zeroPad, sbit_bitsToBytes, sbit_bitsToBytes, Spec.Padding.zeros, Fold.getD_append_replicate]
  · simp only [Spec.Md6.zeroPad, List.length_append, List.length_replicate, bitsToBytes_length, Spec.Padding.zeros]
    omega

end Proofs.Lemmas.Md6Bits
