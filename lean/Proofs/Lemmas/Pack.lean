/- serialisation: pack(h) and pack(h, big-endian) of a word are its little-endian and big-endian bytes -/
import Proofs.Lemmas.BitsConv
import Proofs.Lemmas.Parse
namespace Proofs.Lemmas.Pack
open Model Proofs.Lemmas.BitsBitVec Proofs.Lemmas.Parse

theorem pack_le {w : Nat} (x : BitVec w) (hw : w % 8 = 0) :
    (ofBV x).pack false = toNatBytes (Spec.leBytes (w / 8) x.toNat) := by
  rw [toNatBytes_leBytes, Bits.pack_ofBV_le, show (w + 7) / 8 = w / 8 by omega]

theorem pack_be {w : Nat} (x : BitVec w) (hw : w % 8 = 0) :
    (ofBV x).pack true = toNatBytes (Spec.beBytes (w / 8) x.toNat) := by
  rw [toNatBytes_beBytes, Bits.pack_ofBV_be, show (w + 7) / 8 = w / 8 by omega]

end Proofs.Lemmas.Pack
