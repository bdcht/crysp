/-
  Lemmas for Spec.SerpentStd: the bit-level parity tables of the linear transformation and of its inverse are exactly
  IP ∘ (bitslice linear transformation on the four words) ∘ FP.  Method: both sides are xor-linear, so it suffices to
  compare them on the 128 unit vectors (kernel evaluation).
-/
import Proofs.Lemmas.SerpentStdPerm
import Proofs.Lemmas.SerpentLt
namespace Proofs.Lemmas.SerpentStdLin
open Spec.Serpent Proofs.Lemmas.SerpentBits Proofs.Lemmas.SerpentSpec Proofs.Lemmas.SerpentStdPerm

theorem parity_xor (a b : Nat) (l : List Nat) :
    Spec.SerpentStd.parity (a ^^^ b) l = (Spec.SerpentStd.parity a l != Spec.SerpentStd.parity b l) := by
  induction l with
  | nil => rfl
  | cons x xs ih =>
    simp only [Spec.SerpentStd.parity, ih, Nat.testBit_xor]
    cases a.testBit x <;> cases b.testBit x <;> cases Spec.SerpentStd.parity a xs <;>
      cases Spec.SerpentStd.parity b xs <;> rfl

theorem linear_xor (tbl : List (List Nat)) (a b : Nat) :
    Spec.SerpentStd.linear tbl (a ^^^ b) = Spec.SerpentStd.linear tbl a ^^^ Spec.SerpentStd.linear tbl b := by
  apply Nat.eq_of_testBit_eq; intro j
  unfold Spec.SerpentStd.linear
  rw [Nat.testBit_xor, testBit_ofBitFn, testBit_ofBitFn, testBit_ofBitFn, parity_xor]
  cases decide (j < 128) <;> simp

theorem linear_lt (tbl : List (List Nat)) (a : Nat) : Spec.SerpentStd.linear tbl a < 2 ^ 128 := ofBitFn_lt _ _

/-- All columns of a parity table at once, renumbered by `σ`: bit `128 * σ b + σ p` is flipped once for every
    occurrence of input bit `b` in the row of output bit `p`.  One pass over the table with a few operations on one
    16384-bit number per entry: the kernel can evaluate this, whereas tabulating `linear tbl` on the 128 unit vectors
    costs 16384 parity evaluations. -/
def cols (σ : Nat → Nat) : List (List Nat) → Nat → Nat
  | [], _ => 0
  | row :: rest, p => row.foldl (fun x b => x ^^^ 2 ^ (128 * σ b + σ p)) (cols σ rest (p + 1))

def Renum (σ : Nat → Nat) : Prop := ∀ a < 128, σ a < 128 ∧ ∀ b < 128, σ a = σ b → a = b

theorem testBit_cols_row {σ : Nat → Nat} (hσ : Renum σ) (row : List Nat) (hb : ∀ b ∈ row, b < 128) (p x a c : Nat)
    (hp : p < 128) (ha : a < 128) (hc : c < 128) :
    (row.foldl (fun x b => x ^^^ 2 ^ (128 * σ b + σ p)) x).testBit (128 * σ a + σ c) =
      (x.testBit (128 * σ a + σ c) != (decide (p = c) && Spec.SerpentStd.parity (2 ^ a) row)) := by
  induction row generalizing x with
  | nil => simp [Spec.SerpentStd.parity]
  | cons b bs ih =>
    have hb' := hb b List.mem_cons_self
    have e : (128 * σ b + σ p = 128 * σ a + σ c) = (p = c ∧ a = b) := by
      have h1 := (hσ p hp).2 c hc
      have h2 := (hσ a ha).2 b hb'
      have h3 := (hσ p hp).1
      have h4 := (hσ c hc).1
      apply propext
      constructor
      · intro h
        exact ⟨h1 (by omega), h2 (by omega)⟩
      · rintro ⟨rfl, rfl⟩
        rfl
    rw [List.foldl_cons, ih (fun d hd => hb d (List.mem_cons_of_mem _ hd)), Nat.testBit_xor, Nat.testBit_two_pow,
      Spec.SerpentStd.parity, Nat.testBit_two_pow]
    simp only [e, Bool.decide_and]
    cases x.testBit (128 * σ a + σ c) <;> cases decide (p = c) <;> cases decide (a = b) <;>
      cases Spec.SerpentStd.parity (2 ^ a) bs <;> rfl

theorem testBit_cols {σ : Nat → Nat} (hσ : Renum σ) (tbl : List (List Nat)) (hb : ∀ row ∈ tbl, ∀ b ∈ row, b < 128)
    (p a c : Nat) (hp : p + tbl.length ≤ 128) (ha : a < 128) (hc : c < 128) :
    (cols σ tbl p).testBit (128 * σ a + σ c) =
      (decide (p ≤ c) && Spec.SerpentStd.parity (2 ^ a) (tbl.getD (c - p) [])) := by
  induction tbl generalizing p with
  | nil => simp [cols, Spec.SerpentStd.parity]
  | cons row rest ih =>
    rw [List.length_cons] at hp
    rw [cols, testBit_cols_row hσ row (hb row List.mem_cons_self) p _ a c (by omega) ha hc,
      ih (fun r hr => hb r (List.mem_cons_of_mem _ hr)) (p + 1) (by omega)]
    rcases Nat.lt_trichotomy c p with h | rfl | h
    · simp [show ¬ p + 1 ≤ c by omega, show ¬ p ≤ c by omega, show ¬ p = c by omega]
    · simp [Nat.not_succ_le_self]
    · rw [show c - p = (c - (p + 1)) + 1 by omega, List.getD_cons_succ]
      simp [show p + 1 ≤ c by omega, show p ≤ c by omega, show ¬ p = c by omega]

theorem renum_ip : Renum fun j => 32 * (j % 4) + j / 4 := by
  intro a ha
  refine ⟨?_, fun b hb h => ?_⟩
  · show 32 * (a % 4) + a / 4 < 128
    omega
  · simp only at h
    omega

theorem IP_two_pow (k : Nat) (hk : k < 128) : Spec.SerpentStd.IP (2 ^ k) = 2 ^ (4 * (k % 32) + k / 32) := by
  apply Nat.eq_of_testBit_eq; intro j
  rw [testBit_IP, Nat.testBit_two_pow, Nat.testBit_two_pow]
  by_cases hj : j < 128
  · simp only [hj, decide_true, Bool.true_and]
    congr 1
    apply propext
    omega
  · simp [hj, show ¬ 4 * (k % 32) + k / 32 = j by omega]

/-- lane k of `cols` in bitslice numbering is the bitslice image of unit vector k under the table -/
theorem cols_lane (tbl : List (List Nat)) (hl : tbl.length ≤ 128) (hb : ∀ row ∈ tbl, ∀ b ∈ row, b < 128) (k : Nat)
    (hk : k < 128) :
    (cols (fun j => 32 * (j % 4) + j / 4) tbl 0 >>> (128 * k)) % 2 ^ 128 =
      Spec.SerpentStd.FP (Spec.SerpentStd.linear tbl (Spec.SerpentStd.IP (2 ^ k))) := by
  apply Nat.eq_of_testBit_eq; intro j
  rw [Nat.testBit_mod_two_pow, Nat.testBit_shiftRight, testBit_FP, IP_two_pow k hk]
  unfold Spec.SerpentStd.linear
  rw [testBit_ofBitFn]
  by_cases hj : j < 128
  · have h := testBit_cols renum_ip tbl hb 0 (4 * (k % 32) + k / 32) (4 * (j % 32) + j / 32) (by omega) (by omega)
      (by omega)
    simp only [show 32 * ((4 * (k % 32) + k / 32) % 4) + (4 * (k % 32) + k / 32) / 4 = k by omega,
      show 32 * ((4 * (j % 32) + j / 32) % 4) + (4 * (j % 32) + j / 32) / 4 = j by omega] at h
    simp [h, hj, show 4 * (j % 32) + j / 32 < 128 by omega]
  · simp [hj]

theorem linear_T (tbl : List (List Nat)) (f : State → State) (hf : Lin f) (hl : tbl.length ≤ 128)
    (hb : ∀ row ∈ tbl, ∀ b ∈ row, b < 128)
    (hc : ∀ k < 128, (cols (fun j => 32 * (j % 4) + j / 4) tbl 0 >>> (128 * k)) % 2 ^ 128 =
      natOfState (f (stateOfNat (2 ^ k))))
    (s : State) (hs : WS s) : Spec.SerpentStd.linear tbl (T s) = T (f s) := by
  have h := Bits.xorAdd_ext (f := fun x => Spec.SerpentStd.FP (Spec.SerpentStd.linear tbl (Spec.SerpentStd.IP x)))
    (g := fun x => natOfState (f (stateOfNat x)))
    (fun a b => by simp only [IP_xor, linear_xor, FP_xor])
    (fun a b => by
      simp only [stateOfNat_xor]
      rw [hf.2 _ _ (stateOfNat_ws a) (stateOfNat_ws b),
        natOfState_xor _ _ (hf.1 _ (stateOfNat_ws a)) (hf.1 _ (stateOfNat_ws b))])
    128 (fun k hk => by simp only [← cols_lane tbl hl hb k hk, hc k hk]) (natOfState s) (natOfState_lt s hs)
  simp only [stateOfNat_natOfState s hs] at h
  rw [T, ← IP_FP _ (linear_lt tbl _), h]
  rfl

theorem L_T (s : State) (hs : WS s) : Spec.SerpentStd.L (T s) = T (lt s) :=
  linear_T _ lt lin_lt (by decide +kernel) (by decide +kernel) (by decide +kernel) s hs

theorem LInv_T (s : State) (hs : WS s) : Spec.SerpentStd.LInv (T s) = T (ltInv s) :=
  linear_T _ ltInv (lin_lt.inv inv_lt) (by decide +kernel) (by decide +kernel) (by decide +kernel) s hs

end Proofs.Lemmas.SerpentStdLin
