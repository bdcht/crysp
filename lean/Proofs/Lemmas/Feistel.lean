/-
  A generic Feistel network and its inverse: for ANY (possibly failing) round functions, running the network
  with the reversed round order undoes it.  Nothing is asked of the round functions but that they keep a half in its domain.  Where the round functions
  cannot fail the network is a fold (`runP`), and the same holds of it: the form in which the DES model (whose `F`
  succeeds on 32-bit halves) and FIPS 46-3 (whose `f` is total) both use it.
-/
namespace Proofs.Feistel

variable {β ι ε : Type}

def run (x : β → β → β) (f : ι → β → Except ε β) : List ι → β → β → Except ε (β × β)
  | [], L, R => .ok (L, R)
  | r :: rs, L, R =>
    match f r R with
    | .ok y => run x f rs R (x L y)
    | .error e => .error e

theorem run_append (x : β → β → β) (f : ι → β → Except ε β) (as bs : List ι) (L R : β) :
    run x f (as ++ bs) L R =
      match run x f as L R with
      | .ok (L', R') => run x f bs L' R'
      | .error e => .error e := by
  induction as generalizing L R with
  | nil => simp [run]
  | cons a as ih =>
    simp only [List.cons_append, run]
    cases f a R with
    | error e => rfl
    | ok y => exact ih _ _

/-- `P` is the invariant of the half-blocks (e.g. "32 bits wide") under which `⊕` cancels. -/
theorem run_reverse (x : β → β → β) (f : ι → β → Except ε β) (P : β → Prop)
    (hx : ∀ a b, P a → P b → x (x a b) b = a)
    (hP : ∀ a b, P a → P b → P (x a b))
    (hf : ∀ r a b, P a → f r a = .ok b → P b) :
    ∀ (rs : List ι) (L R L' R' : β), P L → P R → run x f rs L R = .ok (L', R') →
      run x f rs.reverse R' L' = .ok (R, L) ∧ P L' ∧ P R' := by
  intro rs
  induction rs with
  | nil =>
    intro L R L' R' hL hR h
    simp only [run, Except.ok.injEq, Prod.mk.injEq] at h
    obtain ⟨rfl, rfl⟩ := h
    exact ⟨rfl, hL, hR⟩
  | cons r rs ih =>
    intro L R L' R' hL hR h
    simp only [run] at h
    cases hfr : f r R with
    | error e => rw [hfr] at h; cases h
    | ok y =>
      rw [hfr] at h
      have hy : P y := hf r R y hR hfr
      obtain ⟨h1, hL', hR'⟩ := ih R (x L y) L' R' hR (hP L y hL hy) h
      refine ⟨?_, hL', hR'⟩
      rw [List.reverse_cons, run_append, h1]
      simp only [run, hfr, hx L y hL hy]

def runP (x : β → β → β) (g : ι → β → β) (rs : List ι) (LR : β × β) : β × β :=
  rs.foldl (fun p r => (p.2, x p.1 (g r p.2))) LR

theorem run_eq (x : β → β → β) (f : ι → β → Except ε β) (g : ι → β → β) (P : β → Prop)
    (hP : ∀ a b, P a → P b → P (x a b)) (hf : ∀ r a, P a → f r a = .ok (g r a) ∧ P (g r a))
    (rs : List ι) (L R : β) (hL : P L) (hR : P R) :
    run x f rs L R = .ok (runP x g rs (L, R)) ∧ P (runP x g rs (L, R)).1 ∧ P (runP x g rs (L, R)).2 := by
  induction rs generalizing L R with
  | nil => exact ⟨rfl, hL, hR⟩
  | cons r rs ih =>
    rw [run, (hf r R hR).1]
    exact ih R _ hR (hP L _ hL (hf r R hR).2)

theorem runP_reverse (x : β → β → β) (g : ι → β → β) (P : β → Prop)
    (hx : ∀ a b, P a → P b → x (x a b) b = a) (hP : ∀ a b, P a → P b → P (x a b)) (hg : ∀ r a, P a → P (g r a))
    (rs : List ι) (L R : β) (hL : P L) (hR : P R) :
    runP x g rs.reverse ((runP x g rs (L, R)).2, (runP x g rs (L, R)).1) = (R, L) ∧
      P (runP x g rs (L, R)).1 ∧ P (runP x g rs (L, R)).2 := by
  have total := run_eq (ε := Empty) x (fun r a => .ok (g r a)) g P hP (fun r a ha => ⟨rfl, hg r a ha⟩)
  obtain ⟨h, hL', hR'⟩ := total rs L R hL hR
  have hrev := (run_reverse x _ P hx hP (fun r a b ha e => by cases e; exact hg r a ha) rs L R
    (runP x g rs (L, R)).1 (runP x g rs (L, R)).2 hL hR h).1
  rw [(total rs.reverse _ _ hR' hL').1] at hrev
  exact ⟨Except.ok.inj hrev, hL', hR'⟩

end Proofs.Feistel
