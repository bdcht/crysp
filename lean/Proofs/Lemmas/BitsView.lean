/-
  A `Bits` as the list of its bits (`Model.Bits.bools`, element i = bit i) and what the operators do to that list.
  `BitsList.bitsOf`, `KeccakBits.bitsOf` and `Padding.bools` are further names of the same term (each `rfl`), so their
  lemmas are the ones proved here.  `bools` is no part of the model (Model/Bits.lean): it is the view the proofs take.
-/
import Proofs.Lemmas.BitsOps
namespace Model.Bits

def bools (b : Bits) : List Bool := (List.range b.size).map fun i => b.ival.testBit i

@[simp] theorem length_bools (b : Bits) : (bools b).length = b.size := by simp [bools]

theorem getElem_bools (b : Bits) (i : Nat) (h : i < (bools b).length) : (bools b)[i] = b.ival.testBit i := by
  simp [bools]

theorem getD_bools' (b : Bits) (i : Nat) : (bools b).getD i false = (decide (i < b.size) && b.ival.testBit i) := by
  by_cases h : i < b.size <;> simp [bools, List.getD_eq_getElem?_getD, h]

theorem getD_bools (b : Bits) (hb : b.WF) (i : Nat) : (bools b)[i]?.getD false = b.ival.testBit i := by
  rw [← List.getD_eq_getElem?_getD, getD_bools']
  by_cases h : i < b.size
  · rw [decide_eq_true h, Bool.true_and]
  · rw [Proofs.Lemmas.Bits.wf_testBit hb (Nat.le_of_not_lt h), Bool.and_false]

theorem getElem?_bools (b : Bits) (i : Nat) :
    (bools b)[i]? = if i < b.size then some (b.ival.testBit i) else none := by
  by_cases h : i < b.size <;> simp [bools, h]

theorem eq_of_bools {a b : Bits} (ha : a.WF) (hb : b.WF) (h : bools a = bools b) : a = b := by
  have hs : a.size = b.size := by simpa using congrArg List.length h
  apply Proofs.Lemmas.Bits.ext_of_wf ha hb hs
  intro i hi
  have := congrArg (fun l => l[i]?) h
  simpa only [getElem?_bools, if_pos hi, if_pos (hs ▸ hi), Option.some.injEq] using this

theorem bools_eq_of_testBit (b : Bits) (l : List Bool) (hl : l.length = b.size)
    (h : ∀ i (hi : i < l.length), b.ival.testBit i = l[i]) : bools b = l := by
  apply List.ext_getElem (by simp [hl])
  intro i h1 h2
  simp [bools, h i h2]

theorem bools_sliceFast (b : Bits) (s e : Nat) (he : e ≤ b.size) :
    bools (sliceFast b s e) = ((bools b).drop s).take (e - s) := by
  apply bools_eq_of_testBit
  · simp [Proofs.Lemmas.Bits.sliceFast_size]; omega
  · intro i hi
    have hi' : i < e - s := by simp at hi; omega
    simp [Proofs.Lemmas.Bits.sliceFast_testBit, hi', bools]

theorem bools_xor (a o : Bits) (h : a.size = o.size) :
    bools (a.xor o) = List.zipWith Bool.xor (bools a) (bools o) := by
  apply bools_eq_of_testBit
  · simp [Proofs.Lemmas.Bits.xor_size a o h, h]
  · intro i hi
    simp [Proofs.Lemmas.Bits.xor_testBit, bools]

theorem bools_concat (a o : Bits) (ha : a.WF) : bools (a.concat o) = bools a ++ bools o := by
  rw [bools, bools, bools, Proofs.Lemmas.Bits.concat_size, List.range_add, List.map_append, List.map_map]
  congr 1
  · apply List.map_congr_left
    intro i hi
    rw [Proofs.Lemmas.Bits.concat_testBit a o ha, if_pos (List.mem_range.1 hi)]
  · apply List.map_congr_left
    intro i hi
    have := List.mem_range.1 hi
    rw [Function.comp, Proofs.Lemmas.Bits.concat_testBit a o ha, if_neg (by omega), Nat.add_sub_cancel_left,
      decide_eq_true (by omega), Bool.true_and]

/-- `reduce(lambda x,y: x//y, xs, x)`: only the first operand needs to be within its size -/
theorem bools_foldl_concat (xs : List Bits) (x : Bits) (hx : x.WF) :
    (xs.foldl concat x).WF ∧ bools (xs.foldl concat x) = bools x ++ xs.flatMap bools := by
  induction xs generalizing x with
  | nil => exact ⟨hx, by simp⟩
  | cons y ys ih =>
    have h := ih (x.concat y) (Proofs.Lemmas.Bits.concat_wf x y)
    rwa [bools_concat x y hx, List.append_assoc] at h

theorem bools_zero (n : Nat) : bools (ofNatSz 0 n) = List.replicate n false := by
  apply List.ext_getElem?
  intro i
  rw [getElem?_bools, Proofs.Lemmas.Bits.ofNatSz_size, Proofs.Lemmas.Bits.ofNatSz_testBit, Nat.zero_testBit, Bool.and_false,
    List.getElem?_replicate]

theorem bools_setSize (b : Bits) (n : Nat) (hn : n ≤ b.size) : bools (b.setSize n) = (bools b).take n := by
  apply bools_eq_of_testBit
  · simp [Proofs.Lemmas.Bits.setSize_size]; omega
  · intro i hi
    have hi' : i < n := by simp at hi; omega
    simp [bools, Nat.testBit_mod_two_pow, hi', Proofs.Lemmas.Bits.setSize_ival]

theorem setSize_concat_of_le {z : Bits} (hz : z.WF) (l : Bits) {r : Nat} (hr : r ≤ z.size) :
    (z.concat l).setSize r = z.setSize r := by
  have hr' : r ≤ (z.concat l).size := Nat.le_trans hr (Nat.le_add_right _ _)
  apply eq_of_bools (Proofs.Lemmas.Bits.setSize_wf _ _) (Proofs.Lemmas.Bits.setSize_wf _ _)
  rw [bools_setSize _ r hr', bools_setSize _ r hr, bools_concat z l hz,
    List.take_append_of_le_length (by rw [length_bools]; exact hr)]

theorem toBitList_length (v : Bits) : v.toBitList.length = v.size := by simp [toBitList]

theorem toBitList_getElem (v : Bits) (t : Nat) (h : t < v.toBitList.length) :
    v.toBitList[t] = (v.ival.testBit t).toNat := by
  simp only [toBitList, List.getElem_map, List.getElem_range, Proofs.Lemmas.Bits.shr_and_one]

theorem toBitList_eq_bools (b : Bits) : b.toBitList = (bools b).map Bool.toNat := by
  rw [toBitList, bools, List.map_map]
  exact List.map_congr_left fun i _ => Proofs.Lemmas.Bits.shr_and_one b.ival i

theorem toBitList_concat (a o : Bits) (ha : a.WF) : (a.concat o).toBitList = a.toBitList ++ o.toBitList := by
  rw [toBitList_eq_bools, bools_concat a o ha, List.map_append, ← toBitList_eq_bools, ← toBitList_eq_bools]

end Model.Bits
