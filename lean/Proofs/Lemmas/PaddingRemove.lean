/-
  For C09: `remove` of PKCS#7 / X9.23 is exactly the Spec's unpadding (`remove_pkcs7`, `remove_x923`).  Then the Spec side:
  the two unpaddings as one `unpadBy`, what they return on a padded string, `padBytes` of the two schemes; `remove_iff_of_unpad`
  carries that back to the model's `remove`.
-/
import Proofs.Lemmas.PaddingBits
namespace Proofs.Lemmas.Padding
open Model Model.Padder Spec.Padding

theorem remove_pkcs7 (p : Padder) (hs : p.scheme = .pkcs7) (st : PadState) (c : List Nat) :
    (p.remove st c).toOption = pkcs7Unpad p.blocklen c := by
  simp only [Padder.remove, hs, pkcs7Unpad]
  cases hq : c.getLast? with
  | none => rfl
  | some q =>
    simp only
    obtain ⟨ys, rfl⟩ := List.getLast?_eq_some_iff.mp hq
    have hiff : ¬ (q > p.blocklen ∨ (if q = 0 then ys ++ [q] else List.drop ((ys ++ [q]).length - q) (ys ++ [q]))
          ≠ List.replicate q q) ↔
        (1 ≤ q ∧ q ≤ p.blocklen ∧ q ≤ (ys ++ [q]).length ∧
          List.drop ((ys ++ [q]).length - q) (ys ++ [q]) = List.replicate q q) := by
      constructor
      · intro h
        have h1 : ¬ q > p.blocklen := fun x => h (Or.inl x)
        have h2 : (if q = 0 then ys ++ [q] else List.drop ((ys ++ [q]).length - q) (ys ++ [q])) = List.replicate q q :=
          Classical.byContradiction fun x => h (Or.inr x)
        by_cases h0 : q = 0
        · rw [if_pos h0, h0] at h2
          simp at h2
        · rw [if_neg h0] at h2
          have := congrArg List.length h2
          simp only [List.length_drop, List.length_replicate] at this
          exact ⟨by omega, by omega, by omega, h2⟩
      · rintro ⟨h1, h2, h3, h4⟩ h
        rcases h with h | h
        · omega
        · rw [if_neg (by omega)] at h
          exact h h4
    by_cases hP : (1 ≤ q ∧ q ≤ p.blocklen ∧ q ≤ (ys ++ [q]).length ∧
          List.drop ((ys ++ [q]).length - q) (ys ++ [q]) = List.replicate q q)
    · rw [if_pos hP, if_neg (hiff.mpr hP)]
      rfl
    · rw [if_neg hP, if_pos (Classical.byContradiction fun x => hP (hiff.mp x))]
      rfl

/-- left: what the code and Spec.ModePad test of a string whose last byte is q; right: its last q bytes are the X9.23 pad -/
theorem x923_cond (X : List Nat) (q : Nat) (hlast : X.getLast? = some q) (h1 : 1 ≤ q) (h3 : q ≤ X.length) :
    (X.drop (X.length - q)).take (q - 1) = List.replicate (q - 1) 0 ↔
      X.drop (X.length - q) = List.replicate (q - 1) 0 ++ [q] := by
  have hdl : (X.drop (X.length - q)).length = q := by
    rw [List.length_drop]
    omega
  have hne : X.drop (X.length - q) ≠ [] := by
    intro h
    rw [h, List.length_nil] at hdl
    omega
  have hl2 : (X.drop (X.length - q)).getLast? = some q := by
    rw [List.getLast?_drop, if_neg (by omega)]
    exact hlast
  have hsplit : X.drop (X.length - q) = (X.drop (X.length - q)).take (q - 1) ++ [q] := by
    have h := List.dropLast_concat_getLast hne
    have hq : (X.drop (X.length - q)).getLast hne = q := by
      rw [List.getLast?_eq_some_getLast hne] at hl2
      exact Option.some.inj hl2
    rw [hq, List.dropLast_eq_take, hdl] at h
    exact h.symm
  constructor
  · intro h
    rw [hsplit, h]
  · intro h
    rw [h]
    simp

theorem remove_x923 (p : Padder) (hs : p.scheme = .x923) (st : PadState) (c : List Nat) :
    (p.remove st c).toOption = x923Unpad p.blocklen c := by
  simp only [Padder.remove, hs, x923Unpad]
  cases hq : c.getLast? with
  | none => rfl
  | some q =>
    simp only
    by_cases h0 : q = 0 ∨ q > p.blocklen
    · rw [if_pos h0, if_neg (fun h => by omega)]
      rfl
    · have h1 : 1 ≤ q ∧ q ≤ p.blocklen := by omega
      rw [if_neg h0]
      by_cases hlen : q ≤ c.length
      · have hc := x923_cond c q hq h1.1 hlen
        rw [Nat.min_eq_left hlen]
        by_cases he : (c.drop (c.length - q)).take (q - 1) = List.replicate (q - 1) 0
        · rw [if_neg (fun x => x he), if_pos ⟨h1.1, h1.2, hlen, hc.mp he⟩]
          rfl
        · rw [if_pos he, if_neg (fun h => he (hc.mpr h.2.2.2))]
          rfl
      · -- `c[-q:]` is all of c, too short to hold q − 1 zeros before the last byte
        have hd : (c.drop (c.length - q)).take (min q c.length - 1) ≠ List.replicate (q - 1) 0 := by
          intro h
          have hpos : 0 < c.length := List.length_pos_iff.mpr (fun hn => by simp [hn] at hq)
          have := congrArg List.length h
          simp only [List.length_take, List.length_drop, List.length_replicate] at this
          omega
        rw [if_pos hd, if_neg (fun h => hlen h.2.2.1)]
        rfl

/-- `pkcs7Unpad` and `x923Unpad` are this, by definition, at the pad bytes `T q` that a last byte q announces:
    q times q, and q − 1 zeros then q -/
def unpadBy (T : Nat → List Nat) (k : Nat) (c : List Nat) : Option (List Nat) :=
  match c.getLast? with
  | none => none
  | some q =>
    if 1 ≤ q ∧ q ≤ k ∧ q ≤ c.length ∧ c.drop (c.length - q) = T q
    then some (c.take (c.length - q)) else none

theorem unpadBy_isSome_iff (T : Nat → List Nat) (k : Nat) (c : List Nat) :
    (unpadBy T k c).isSome ↔
      ∃ q, c.getLast? = some q ∧ 1 ≤ q ∧ q ≤ k ∧ q ≤ c.length ∧ c.drop (c.length - q) = T q := by
  unfold unpadBy
  cases hq : c.getLast? with
  | none => simp
  | some q =>
    simp only [Option.some.injEq, exists_eq_left']
    split <;> simp_all

theorem unpadBy_some {T : Nat → List Nat} {k : Nat} {c r : List Nat} (h : unpadBy T k c = some r) :
    ∃ q, c.getLast? = some q ∧ r = c.take (c.length - q) := by
  unfold unpadBy at h
  cases hq : c.getLast? with
  | none => simp [hq] at h
  | some q =>
    rw [hq] at h
    simp only at h
    split at h
    · exact ⟨q, rfl, by simpa using h.symm⟩
    · simp at h

theorem remove_iff_of_unpad {T : Nat → List Nat} {p : Padder} {st : PadState} {c : List Nat}
    (h : (p.remove st c).toOption = unpadBy T p.blocklen c) :
    ((∃ r, p.remove st c = .ok r) ↔
      ∃ q, c.getLast? = some q ∧ 1 ≤ q ∧ q ≤ p.blocklen ∧ q ≤ c.length ∧ c.drop (c.length - q) = T q) ∧
    (∀ r, p.remove st c = .ok r → ∃ q, c.getLast? = some q ∧ r = c.take (c.length - q)) := by
  refine ⟨?_, fun r hr => unpadBy_some (h ▸ congrArg Except.toOption hr)⟩
  rw [← unpadBy_isSome_iff, ← h]
  cases p.remove st c <;> simp [Except.toOption]

theorem padLen_range (k n : Nat) (hk : 0 < k) : 1 ≤ padLen k n ∧ padLen k n ≤ k := by
  have := Nat.mod_lt n hk
  unfold padLen
  omega

theorem unpadBy_append (T : Nat → List Nat) (k q : Nat) (h1 : 1 ≤ q) (h2 : q ≤ k) (hT : (T q).length = q)
    (hl : (T q).getLast? = some q) (m : List Nat) : unpadBy T k (m ++ T q) = some m := by
  have hlast : (m ++ T q).getLast? = some q := by
    rw [List.getLast?_append, hl]
    rfl
  have hlen : (m ++ T q).length - q = m.length := by simp [hT]
  simp only [unpadBy, hlast, hlen, List.drop_left, List.take_left]
  rw [if_pos ⟨h1, h2, by simp [hT], trivial⟩]

theorem pkcs7Unpad_append (k q : Nat) (h1 : 1 ≤ q) (h2 : q ≤ k) (m : List Nat) :
    pkcs7Unpad k (m ++ List.replicate q q) = some m :=
  unpadBy_append (fun q => List.replicate q q) k q h1 h2 (by simp)
    (by rw [List.getLast?_replicate, if_neg (by omega)]) m

theorem x923Unpad_append (k q : Nat) (h1 : 1 ≤ q) (h2 : q ≤ k) (m : List Nat) :
    x923Unpad k (m ++ List.replicate (q - 1) 0 ++ [q]) = some m := by
  rw [List.append_assoc]
  exact unpadBy_append (fun q => List.replicate (q - 1) 0 ++ [q]) k q h1 h2 (by simp; omega) List.getLast?_concat m

theorem padBytes_pkcs7 (l : Nat) (hl : 0 < l) (hq : l < 256) (m : List Nat) (hm : Bytes m) :
    padBytes .pkcs7 (8 * l) m (8 * m.length) = pkcs7Pad l m := by
  obtain ⟨h1, h2⟩ := padLen_range l m.length hl
  have hb : Bytes (pkcs7Pad l m) := Bytes.AllBytes.append hm (Bytes.AllBytes.replicate (by omega) _)
  simp only [padBytes, Spec.Padding.pad, takeBits_whole, Nat.mul_div_cancel_left l (by decide : 0 < 8),
    bitsToBytes_bytesToBits m hm, bitsToBytes_bytesToBits _ hb]

theorem padBytes_x923 (l : Nat) (hl : 0 < l) (hq : l < 256) (m : List Nat) (hm : Bytes m) :
    padBytes .x923 (8 * l) m (8 * m.length) = x923Pad l m := by
  obtain ⟨h1, h2⟩ := padLen_range l m.length hl
  have hb : Bytes (x923Pad l m) :=
    Bytes.AllBytes.append (Bytes.AllBytes.append hm (Bytes.AllBytes.replicate (by decide) _))
      (Bytes.AllBytes.replicate (by omega) 1)
  simp only [padBytes, Spec.Padding.pad, takeBits_whole, Nat.mul_div_cancel_left l (by decide : 0 < 8),
    bitsToBytes_bytesToBits m hm, bitsToBytes_bytesToBits _ hb]

theorem msgBytes_whole (m : List Nat) (hm : Bytes m) : msgBytes m (8 * m.length) = m := by
  rw [msgBytes, takeBits_whole, bitsToBytes_bytesToBits m hm]

end Proofs.Lemmas.Padding
