/-
  For C18: the key-independent tables.  The generators are closed terms and are evaluated
  in the kernel against the values extracted from the running code; the extracted tables then satisfy the index
  identities (also kernel-checked) that make one round of the network one round of DES on the state layout below.

  A state is 96 bits = 12 bytes.  For halves L, R (32 bits each, bit 0 = the standard's bit 1):
    byte b < 8 : the six bits of E(R) that feed S-box b, then L[2b], L[2b+1]
    byte 8+c   : L[16+4c .. 19+4c], then R[t] for the four t = rbits[16+4c .. 19+4c] (the R bits E does not duplicate as outer bits)
-/
import Model.Wb
import Model.Gen.Wb
import Proofs.Lemmas.DesLemmas
import Proofs.Lemmas.WbBits
import Proofs.Lemmas.WbFX
namespace Proofs.Lemmas.Wb
open Model Model.Wb Model.Bits

/-! `SRLRformat` / `ERLRformat` and `getrbits_T_in` are evaluated once, as the `Poly` values the generators pass around;
`table_M2` / `table_M3` start from those results. -/

theorem rbitsZ_gen : getrbitsTinZ = .ok (natIdx Gen.Wb.rbits) := Fold.toOption_eq_some.mp (by decide +kernel)

theorem tableM1_gen : tableM1 = .ok Gen.Wb.m1 := Fold.toOption_eq_some.mp (by decide +kernel)

theorem srlrP_gen : srlrFormatP =
    .ok (Poly.ofList (natIdx Gen.Wb.srlrSR), Poly.ofList (natIdx Gen.Wb.srlrL), Poly.ofList (natIdx Gen.Wb.srlrR)) := by
  rw [srlrFormatP, rbitsZ_gen]
  exact Fold.toOption_eq_some.mp (by decide +kernel)

theorem erlrP_gen : erlrFormatP =
    .ok (Poly.ofList (natIdx Gen.Wb.erlrER), Poly.ofList (natIdx Gen.Wb.erlrL), Poly.ofList (natIdx Gen.Wb.erlrR)) := by
  rw [erlrFormatP, rbitsZ_gen]
  exact Fold.toOption_eq_some.mp (by decide +kernel)

theorem tableM2_gen : tableM2 = .ok (Gen.Wb.m2mat, Gen.Wb.m2m) := by
  rw [tableM2, srlrP_gen, rbitsZ_gen]
  exact Fold.toOption_eq_some.mp (by decide +kernel)

theorem tableM3_gen : tableM3 = .ok Gen.Wb.m3 := by
  rw [tableM3, erlrP_gen]
  exact Fold.toOption_eq_some.mp (by decide +kernel)

/-- index into `L // R` (64 bits) of every state bit -/
def encIdx : List Nat :=
  ((List.range 8).flatMap fun b => ((List.range 6).map fun j => 32 + Gen.Des.e.getD (6 * b + j) 0) ++ [2 * b, 2 * b + 1]) ++
  ((List.range 4).flatMap fun c => [16 + 4 * c, 17 + 4 * c, 18 + 4 * c, 19 + 4 * c] ++
      ((List.range 4).map fun j => 32 + Gen.Wb.rbits.getD (16 + 4 * c + j) 0))

def enc (L R : Bits) : Bits := (L.concat R).pick encIdx

/-- index into `Z // L // R` (96 bits: S-box outputs, then the halves) of every state bit after the T-boxes -/
def postIdx (i : Nat) : Nat :=
  if i < 64 then
    (if i % 8 < 4 then 4 * (i / 8) + i % 8 else 32 + encIdx.getD (8 * (i / 8) + [0, 5, 6, 7].getD (i % 8 - 4) 0) 0)
  else 32 + encIdx.getD i 0

def swapIdx : List Nat := (List.range 32).map (· + 32) ++ List.range 32

theorem encIdx_length : encIdx.length = 96 := by decide +kernel
theorem encIdx_mem_lt : ∀ x ∈ encIdx, x < 64 := by decide +kernel
theorem encIdx_E : ∀ n < 8, ∀ j < 6, encIdx.getD (8 * n + j) 0 = 32 + Gen.Des.e.getD (6 * n + j) 0 := by decide +kernel
theorem e_lt : ∀ k < 48, Gen.Des.e.getD k 0 < 32 := by decide +kernel
theorem p_lt : ∀ k < 32, Gen.Des.p.getD k 0 < 32 := by decide +kernel
theorem m2mat_length : Gen.Wb.m2mat.length = 96 := by decide +kernel
theorem ipinv_length : Gen.Des.ipinv.length = 64 := Des.len_ipinv
theorem m3_lt : ∀ x ∈ Gen.Wb.m3, x < 96 := by decide +kernel
theorem ipinv_lt : ∀ x ∈ Gen.Des.ipinv, x < 64 := by decide +kernel

theorem encIdx_lt (i : Nat) : encIdx.getD i 0 < 64 := by
  rw [List.getD_eq_getElem?_getD]
  cases h : encIdx[i]? with
  | none => decide
  | some x => exact encIdx_mem_lt x (List.mem_of_getElem? h)

theorem m1_eq : Gen.Wb.m1 = encIdx.map fun x => Gen.Des.ip.getD x 0 := by decide +kernel

theorem m3_eq : (Gen.Wb.m3.map fun x => encIdx.getD x 0) = Gen.Des.ipinv.map fun x => swapIdx.getD x 0 := by decide +kernel

/-- every row of M2 is the mask of the one or two columns listed in `m`, and gathers from the post-T-box state exactly
    what the next state needs at that position: the R bit (new L = R), or `L_j` and `S_{P(j)}` (new R = L xor P(S)) -/
theorem round_table : ∀ b < 96,
    Gen.Wb.m2mat.getD b 0 = rowMask (Gen.Wb.m2m.getD b []) ∧
    (encIdx.getD b 0 < 32 →
      Gen.Wb.m2m.getD b [] = [(Gen.Wb.m2m.getD b []).getD 0 0] ∧ (Gen.Wb.m2m.getD b []).getD 0 0 < 96 ∧
      postIdx ((Gen.Wb.m2m.getD b []).getD 0 0) = 64 + encIdx.getD b 0) ∧
    (32 ≤ encIdx.getD b 0 →
      Gen.Wb.m2m.getD b [] = [(Gen.Wb.m2m.getD b []).getD 0 0, (Gen.Wb.m2m.getD b []).getD 1 0] ∧
      (Gen.Wb.m2m.getD b []).getD 0 0 < 96 ∧ (Gen.Wb.m2m.getD b []).getD 1 0 < 96 ∧
      (Gen.Wb.m2m.getD b []).getD 0 0 ≠ (Gen.Wb.m2m.getD b []).getD 1 0 ∧
      postIdx ((Gen.Wb.m2m.getD b []).getD 0 0) = Gen.Des.p.getD (encIdx.getD b 0 - 32) 0 ∧
      postIdx ((Gen.Wb.m2m.getD b []).getD 1 0) = encIdx.getD b 0) := by
  decide +kernel

end Proofs.Lemmas.Wb
