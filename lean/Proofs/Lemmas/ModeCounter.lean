/-
  Helper lemmas for C05: the default counter through pack/unpack (big-endian), CTR.enc = SP 800-38A CTR.
-/
import Proofs.Lemmas.BitsConv
import Proofs.Lemmas.ModeCtr
namespace Proofs.Lemmas.ModeL
open Model Model.Py Model.Mode Proofs.Lemmas.Bytes
variable {c : BlockCipher} {k : Spec.Mode.Cipher}

theorem specBeVal_eq (s : List Nat) : Spec.Mode.beVal s = beInt s := by
  unfold Spec.Mode.beVal beInt
  congr 1
  funext a b
  rw [Nat.mul_comm]

theorem specBeBytes_eq : ∀ (w v : Nat), Spec.Mode.beBytes w v = beBytes w v
  | 0, _ => rfl
  | w+1, v => by rw [Spec.Mode.beBytes, specBeBytes_eq w, beBytes, beBytes, leBytes, List.reverse_cons]

theorem pack_be (w v : Nat) : Bits.pack ⟨v, 8 * w⟩ true = Spec.Mode.beBytes w v := by
  rw [specBeBytes_eq, Bits.pack_be_bytes _ w rfl]

theorem beBytes_isBlock (w v : Nat) : IsBlock w (Spec.Mode.beBytes w v) := by
  rw [specBeBytes_eq]
  exact ⟨by rw [beBytes, List.length_reverse, leBytes_length], (leBytes_allBytes w v).reverse⟩

theorem counterBlockOf_isBlock {l : Nat} {nonce count : List Nat} (h : IsBlock l (nonce ++ count)) (i : Nat) :
    IsBlock l (Spec.Mode.counterBlockOf nonce count i) := by
  obtain ⟨h1, h2⟩ := beBytes_isBlock count.length ((Spec.Mode.beVal count + i) % 2 ^ (8 * count.length))
  exact ⟨by rw [Spec.Mode.counterBlockOf, List.length_append, h1, ← List.length_append, h.1],
    (AllBytes.append_iff.1 h.2).1.append h2⟩

theorem counterBlock_eq_of (l : Nat) (iv : List Nat) (hiv : iv.length = l) :
    Spec.Mode.counterBlock l iv = Spec.Mode.counterBlockOf (iv.take (l / 2)) (iv.drop (l / 2)) := by
  funext j
  simp [Spec.Mode.counterBlock, Spec.Mode.counterBlockOf, hiv]

/-- the counter object's `count` after i calls -/
def cntAt (d : DefaultCounter) (i : Nat) : Bits :=
  ⟨(Spec.Mode.beVal d.count0 + i) % 2 ^ (8 * d.count0.length), 8 * d.count0.length⟩

theorem reset_eq (d : DefaultCounter) (hc : Bytes d.count0) : d.reset = cntAt d 0 := by
  unfold DefaultCounter.reset cntAt
  rw [Bits.unpack_be d.count0 hc, specBeVal_eq]
  rfl

theorem call_snd (d : DefaultCounter) (hd : d.count0 ≠ []) (i : Nat) : (d.call (cntAt d i)).2 = cntAt d (i + 1) := by
  have hlen : 0 < d.count0.length := List.length_pos_iff.2 hd
  have h1 : Py.bitLength 1 = 1 := by decide
  unfold DefaultCounter.call cntAt Bits.add Bits.wsize Bits.ofNat
  simp only [h1]
  rw [if_pos (by omega), Nat.mod_add_mod, Nat.add_assoc]

theorem call_fst (d : DefaultCounter) (i : Nat) :
    (d.call (cntAt d i)).1 = Spec.Mode.counterBlockOf d.nonce d.count0 i := by
  unfold DefaultCounter.call cntAt Spec.Mode.counterBlockOf
  rw [pack_be]

theorem ctrBlocks_eq (h : Implements c k) (d : DefaultCounter) (hd : d.count0 ≠ [])
    (hT : ∀ i, IsBlock c.len (Spec.Mode.counterBlockOf d.nonce d.count0 i)) : ∀ (bs : List (List Nat)) (j : Nat),
    ctrBlocks c d (cntAt d j) bs = .ok (Spec.Mode.ctrFrom k (Spec.Mode.counterBlockOf d.nonce d.count0) j bs)
  | [], _ => rfl
  | b :: bs, j => by
    simp only [ctrBlocks, call_fst, h.enc_ok _ (hT j), call_snd d hd j, ctrBlocks_eq h d hd hT bs (j + 1), Spec.Mode.ctrFrom,
      xorstr_eq_spec]

def encWith (c : BlockCipher) (d : DefaultCounter) (M : List Nat) : Except Err (List Nat) :=
  match mkPad c .no with
  | .error e => .error e
  | .ok p =>
    match forBlocks (iter p M) (ctrBlocks c d d.reset) with
    | .error e => .error e
    | .ok C => .ok (join C)

theorem encWith_new (c : BlockCipher) (iv : Option (List Nat)) (d : DefaultCounter) (hd : DefaultCounter.new c.len iv = .ok d)
    (M : List Nat) : encWith c d M = CTR.enc c iv M := by
  unfold encWith CTR.enc
  rw [hd]
  cases mkPad c .no <;> rfl

theorem encWith_spec (h : Implements c k) (d : DefaultCounter) (hne : d.count0 ≠ []) (hd : IsBlock c.len (d.nonce ++ d.count0))
    (M : List Nat) : encWith c d M = .ok (Spec.Mode.ctrOf k d.nonce d.count0 M) := by
  have hcb : Bytes d.count0 := (AllBytes.append_iff.1 hd.2).2
  unfold encWith Spec.Mode.ctrOf
  rw [mkPad_ok c _ h.len_pos, h.len_eq]
  by_cases hM : M = []
  · -- the generator's one empty block against the Spec's no block: the empty string on both sides
    subst hM
    simp only [iter_no_nil, reset_eq d hcb]
    rw [forBlocks_none, ctrBlocks_eq h d hne (counterBlockOf_isBlock hd) _ 0]
    rw [blocks_eq_chunks c.len h.len_pos, chunks_nil]
    rfl
  · simp only [iter_no c.len h.len_pos M (List.length_pos_iff.2 hM), reset_eq d hcb]
    rw [forBlocks_none, ctrBlocks_eq h d hne (counterBlockOf_isBlock hd) _ 0]
    rfl

def CtrDom (l : Nat) (iv : Option (List Nat)) : Prop :=
  match iv with | some v => IsBlock l v | none => l % 2 = 0

theorem counter_new (l : Nat) (iv : Option (List Nat)) (hiv : CtrDom l iv) :
    DefaultCounter.new l iv
      = .ok ⟨l, (iv.getD (List.replicate l 0)).take (l / 2), (iv.getD (List.replicate l 0)).drop (l / 2)⟩ := by
  cases iv with
  | none =>
    have hiv : l % 2 = 0 := hiv
    simp only [DefaultCounter.new, Option.getD_none, List.take_replicate, List.drop_replicate]
    rw [Nat.min_eq_left (Nat.div_le_self l 2), show l - l / 2 = l / 2 by omega]
  | some v =>
    have hiv : IsBlock l v := hiv
    simp [DefaultCounter.new, hiv.1]

theorem ctrDom_block {l : Nat} {iv : Option (List Nat)} (hiv : CtrDom l iv) : IsBlock l (iv.getD (List.replicate l 0)) := by
  cases iv with
  | none => exact ⟨by simp, AllBytes.replicate (by decide) _⟩
  | some v => exact hiv

theorem ctr_enc_spec (h : Implements c k) (iv : Option (List Nat)) (hiv : CtrDom c.len iv) (M : List Nat) :
    CTR.enc c iv M = .ok (Spec.Mode.ctr k (iv.getD (List.replicate c.len 0)) M) := by
  have hv := ctrDom_block hiv
  have hne : (iv.getD (List.replicate c.len 0)).drop (c.len / 2) ≠ [] := fun h0 => by
    have := congrArg List.length h0
    rw [List.length_drop, hv.1, List.length_nil] at this
    have := h.len_pos
    omega
  rw [← encWith_new c iv _ (counter_new c.len iv hiv) M,
    encWith_spec h ⟨c.len, _, _⟩ hne ((List.take_append_drop _ _).symm ▸ hv) M]
  unfold Spec.Mode.ctr Spec.Mode.ctrOf
  rw [h.len_eq, counterBlock_eq_of c.len _ hv.1]

theorem ctrOf_length_invol (h : Implements c k) {nonce count : List Nat} (hd : IsBlock c.len (nonce ++ count)) (M : List Nat) :
    (Spec.Mode.ctrOf k nonce count M).length = M.length ∧
    Spec.Mode.ctrOf k nonce count (Spec.Mode.ctrOf k nonce count M) = M :=
  ctrSpec_length_invol k _ (h.len_eq ▸ h.len_pos) (fun i => h.len_eq ▸ (h.E_block _ (counterBlockOf_isBlock hd i)).1) M

theorem ctr_length_invol (h : Implements c k) (iv : List Nat) (hiv : IsBlock c.len iv) (M : List Nat) :
    (Spec.Mode.ctr k iv M).length = M.length ∧ Spec.Mode.ctr k iv (Spec.Mode.ctr k iv M) = M := by
  unfold Spec.Mode.ctr
  rw [counterBlock_eq_of k.len iv (h.len_eq ▸ hiv.1)]
  exact ctrOf_length_invol h ((List.take_append_drop _ iv).symm ▸ hiv) M

theorem ctr_dec_spec (h : Implements c k) (iv : Option (List Nat)) (hiv : CtrDom c.len iv) (C : List Nat) :
    CTR.dec c iv C = .ok (Spec.Mode.ctr k (iv.getD (List.replicate c.len 0)) C) := by
  unfold CTR.dec
  rw [ctr_enc_spec h iv hiv C]
  simp only
  rw [if_neg (not_not_intro (ctr_length_invol h _ (ctrDom_block hiv) C).1)]

end Proofs.Lemmas.ModeL
