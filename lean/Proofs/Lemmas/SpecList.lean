/- List-level facts about the bit, byte and group functions of Spec.Bytes (bytes are `BitVec 8`), and from them the byte
   form of the Merkle–Damgård padding of Spec.MDHash (`padFrom_bytes`).  No statement mentions the model; the file imports
   Lemmas/BitsList, and with it the `Bits` lemmas, for the bridge to the `Nat` codec of Lemmas/BitCodec
   (`natBits_toNatBytes`, `byte_roundtrip`). -/
import Spec.MerkleDamgard
import Proofs.Lemmas.BitsList
import Proofs.Lemmas.Fold
namespace Proofs.Lemmas.SpecList
open Proofs.Lemmas.Parse Proofs.Lemmas.BitsList

theorem byteBits_length (b : Spec.Byte) : (Spec.byteBits b).length = 8 := by simp [Spec.byteBits]

theorem bytesToBits_length (M : List Spec.Byte) : (Spec.bytesToBits M).length = 8 * M.length := by
  rw [Spec.bytesToBits, Fold.length_flatMap_const _ 8 M fun b _ => byteBits_length b, Nat.mul_comm]

theorem bytesToBits_append (A B : List Spec.Byte) :
    Spec.bytesToBits (A ++ B) = Spec.bytesToBits A ++ Spec.bytesToBits B := by
  simp [Spec.bytesToBits]

theorem natBits_toNatBytes (M : List Spec.Byte) : Spec.Padding.bytesToBits (toNatBytes M) = Spec.bytesToBits M := by
  simp only [Spec.Padding.bytesToBits, toNatBytes, Spec.bytesToBits, List.flatMap_map]
  congr 1

theorem groups_length {α} (n : Nat) (l : List α) : ∀ g ∈ Spec.groups n l, g.length = n := by
  intro g hg
  simp only [Spec.groups, List.mem_map, List.mem_range] at hg
  obtain ⟨i, hi, rfl⟩ := hg
  rw [List.length_take, List.length_drop]
  by_cases hn : n = 0
  · subst hn; simp
  · have : (i + 1) * n ≤ l.length := by
      have h1 : i + 1 ≤ l.length / n := hi
      calc (i + 1) * n ≤ (l.length / n) * n := Nat.mul_le_mul_right n h1
        _ ≤ l.length := Nat.div_mul_le_self _ _
    rw [Nat.add_mul] at this
    omega

theorem groups_cons {α} (n : Nat) (hn : 0 < n) (g r : List α) (hg : g.length = n) :
    Spec.groups n (g ++ r) = g :: Spec.groups n r := by
  have h1 : (g ++ r).length / n = r.length / n + 1 := by
    rw [List.length_append, hg, Nat.add_comm, Nat.add_div_right _ hn]
  rw [Spec.groups, h1, Fold.pieces_succ, List.take_left' hg, List.drop_left' hg]
  rfl

theorem groups_append {α} (n : Nat) (hn : 0 < n) (k : Nat) (a b : List α) (ha : a.length = k * n) :
    Spec.groups n (a ++ b) = Spec.groups n a ++ Spec.groups n b := by
  induction k generalizing a with
  | zero =>
    have : a = [] := List.eq_nil_of_length_eq_zero (by simpa using ha)
    subst this
    simp [Spec.groups, Nat.zero_div]
  | succ k ih =>
    have hl : n ≤ a.length := by rw [ha, Nat.add_mul]; omega
    have e : a = a.take n ++ a.drop n := (List.take_append_drop n a).symm
    have h1 : (a.take n).length = n := by rw [List.length_take]; omega
    have h2 : (a.drop n).length = k * n := by rw [List.length_drop, ha, Nat.add_mul]; omega
    rw [e, List.append_assoc, groups_cons n hn _ _ h1, groups_cons n hn _ _ h1, ih _ h2]
    rfl

theorem byte_roundtrip (y : Spec.Byte) : BitVec.ofNat 8 (Spec.bitsVal (Spec.byteBits y)) = y := by
  have h : Spec.bitsVal (Spec.byteBits y) = y.toNat :=
    (BitCodec.bitsVal_eq_byteOfBits _ (byteBits_length y)).trans (Padding.byteOfBits_byteBits y.toNat y.isLt)
  rw [h, BitVec.ofNat_toNat, BitVec.setWidth_eq]

theorem bitsToBytes_bytes (Y : List Spec.Byte) (rest : List Bool) :
    Spec.bitsToBytes (Spec.bytesToBits Y ++ rest) = Y ++ Spec.bitsToBytes rest := by
  induction Y with
  | nil => rfl
  | cons y ys ih =>
    simp only [Spec.bytesToBits, List.flatMap_cons, List.append_assoc] at ih ⊢
    simp only [Spec.bitsToBytes] at ih ⊢
    rw [groups_cons 8 (by decide) _ _ (byteBits_length y), List.map_cons, ih, byte_roundtrip, List.cons_append]

theorem bytesToBits_zeros (k : Nat) : Spec.bytesToBits (List.replicate k 0#8) = List.replicate (8 * k) false := by
  induction k with
  | zero => rfl
  | succ k ih =>
    rw [List.replicate_succ, Spec.bytesToBits, List.flatMap_cons, ← Spec.bytesToBits, ih, Nat.mul_succ, Nat.add_comm,
      ← List.replicate_append_replicate]
    rfl

/-- evaluating a known answer from this form spares the kernel the detour of every block through single bits -/
theorem padFrom_bytes {σ : Type} (h : Spec.MDHash σ) (done : Nat) (M : List Spec.Byte)
    (hz : h.zeros (done + 8 * M.length) % 8 = 7) :
    h.padFrom done (Spec.bytesToBits M)
      = M ++ 0x80#8 :: List.replicate (h.zeros (done + 8 * M.length) / 8) 0#8 ++ h.encLen (done + 8 * M.length) := by
  have hk := Nat.div_add_mod (h.zeros (done + 8 * M.length)) 8
  rw [hz] at hk
  generalize h.zeros (done + 8 * M.length) / 8 = k at hk ⊢
  have e : Spec.bytesToBits M ++ [true] ++ List.replicate (8 * k + 7) false
      = Spec.bytesToBits (M ++ 0x80#8 :: List.replicate k 0#8) ++ [] := by
    rw [bytesToBits_append, List.append_nil, ← List.singleton_append (l := List.replicate k 0#8), bytesToBits_append,
      bytesToBits_zeros, Nat.add_comm, ← List.replicate_append_replicate, List.append_assoc]
    rfl
  rw [Spec.MDHash.padFrom, bytesToBits_length, ← hk, e, bitsToBytes_bytes, List.append_assoc, List.append_assoc]
  simp [Spec.bitsToBytes, Spec.groups]

theorem takeBits_split (M : List Spec.Byte) (L a : Nat) (ha : 8 * a ≤ L) (haM : a ≤ M.length) :
    (Spec.bytesToBits M).take L = Spec.bytesToBits (M.take a) ++ (Spec.bytesToBits (M.drop a)).take (L - 8 * a) := by
  conv => lhs; rw [← List.take_append_drop a M, bytesToBits_append]
  rw [List.take_append, bytesToBits_length, List.length_take, Nat.min_eq_left haM,
    List.take_of_length_le (by rw [bytesToBits_length, List.length_take]; omega)]

end Proofs.Lemmas.SpecList
