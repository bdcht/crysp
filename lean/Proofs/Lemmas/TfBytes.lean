/-
  Byte strings <-> 64-bit words: `Bits(bytes,bitorder=1)`, `B[i:i+64]`, `pack` versus ToInt / BytesToWords / WordsToBytes.
-/
import Proofs.Lemmas.TfRefine
import Proofs.Lemmas.BitsConv
namespace Proofs.Lemmas.TfBytes
open Model Proofs.Lemmas.Bytes Proofs.Lemmas.BitsBitVec
open Spec.Threefish (W toInt toBytes bytesToWords wordsToBytes)

/-- `Bytes.AllBytes` by definition: its lemmas apply as they stand -/
def IsBytes (s : List Nat) : Prop := ∀ b ∈ s, b < 256

structure NBytes (n : Nat) (s : List Nat) : Prop where
  bytes : AllBytes s
  len : s.length = n

theorem toInt_eq : toInt = Py.leInt := by
  funext s
  induction s with
  | nil => rfl
  | cons b s ih => rw [toInt, Py.leInt, ih]

theorem toBytes_eq : toBytes = Py.leBytes := by
  funext n v
  induction n generalizing v with
  | zero => rfl
  | succ n ih => rw [toBytes, Py.leBytes, ih]

/-- `Bits(s,bitorder=1)` -/
theorem loadLE_eq (s : List Nat) (h : AllBytes s) : Threefish.loadLE s = .ok ⟨toInt s, 8 * s.length⟩ := by
  rw [toInt_eq]
  exact Bits.ofBytes_le_eq s h

/-- `[B[i:i+64] for i in range(0,B.size,64)]` of a loaded byte string = BytesToWords -/
theorem words_eq (s : List Nat) (h : AllBytes s) :
    Threefish.words ⟨toInt s, 8 * s.length⟩ = (bytesToWords s).map ofBV := by
  unfold Threefish.words bytesToWords
  rw [List.map_map, show (8 * s.length) / 64 = s.length / 8 by omega]
  apply List.map_congr_left
  intro j _
  rw [toInt_eq]
  exact Bits.sliceFast_leInt s h _ 8 j

/-- `pack(x)` of a whole number of bytes = ToBytes(x,n), whatever lies above bit 8n -/
theorem pack_eq_toBytes (v n : Nat) : (⟨v, 8 * n⟩ : Bits).pack = toBytes n v := by
  rw [toBytes_eq]
  exact Bits.pack_le_bytes _ n rfl

theorem pack_ofBV (w : W) : (ofBV w).pack = toBytes 8 w.toNat := pack_eq_toBytes w.toNat 8

theorem join_eq (ws : List W) : Threefish.join (ws.map ofBV) = wordsToBytes ws := by
  rw [Threefish.join, List.flatMap_map]
  exact Fold.flatMap_congr_mem fun w _ => pack_ofBV w

theorem toBytes_length (n v : Nat) : (toBytes n v).length = n := by
  rw [toBytes_eq]
  exact leBytes_length n v

theorem allBytes_toBytes (n v : Nat) : AllBytes (toBytes n v) := by
  rw [toBytes_eq]
  exact leBytes_allBytes n v

theorem wordsToBytes_length (ws : List W) : (wordsToBytes ws).length = 8 * ws.length := by
  rw [wordsToBytes, Fold.length_flatMap_const _ 8 ws fun _ _ => toBytes_length _ _, Nat.mul_comm]

theorem allBytes_wordsToBytes (ws : List W) : AllBytes (wordsToBytes ws) :=
  AllBytes.flatMap fun _ _ => allBytes_toBytes _ _

theorem bytesToWords_append (a rest : List Nat) (ha : a.length = 8) :
    bytesToWords (a ++ rest) = BitVec.ofNat 64 (toInt a) :: bytesToWords rest := by
  unfold bytesToWords
  rw [List.length_append, ha, show (8 + rest.length) / 8 = rest.length / 8 + 1 by omega, List.range_succ_eq_map,
      List.map_cons, List.map_map]
  congr 1
  · simp [ha]
  · apply List.map_congr_left
    intro i _
    simp only [Function.comp, Nat.succ_eq_add_one]
    rw [show 8 * (i + 1) = a.length + 8 * i by omega, List.drop_append, List.drop_eq_nil_of_le (by omega),
        List.nil_append, Nat.add_sub_cancel_left]

theorem toBytes_mod (n v : Nat) : toBytes n (v % 256 ^ n) = toBytes n v := by
  rw [toBytes_eq]
  exact leBytes_mod n v

theorem bytesToWords_wordsToBytes (ws : List W) : bytesToWords (wordsToBytes ws) = ws := by
  induction ws with
  | nil => rfl
  | cons w ws ih =>
    have : wordsToBytes (w :: ws) = toBytes 8 w.toNat ++ wordsToBytes ws := rfl
    rw [this, bytesToWords_append _ _ (toBytes_length _ _), ih, toInt_eq, toBytes_eq, leInt_leBytes]
    congr 1
    apply BitVec.eq_of_toNat_eq
    rw [BitVec.toNat_ofNat, Nat.mod_mod]
    exact Nat.mod_eq_of_lt w.isLt

theorem wordsToBytes_bytesToWords (n : Nat) (s : List Nat) (h : AllBytes s) (hl : s.length = 8 * n) :
    wordsToBytes (bytesToWords s) = s := by
  induction n generalizing s with
  | zero =>
    have : s = [] := List.eq_nil_of_length_eq_zero (by omega)
    subst this; rfl
  | succ n ih =>
    have e : s = s.take 8 ++ s.drop 8 := (List.take_append_drop 8 s).symm
    have l1 : (s.take 8).length = 8 := by rw [List.length_take]; omega
    have l2 : (s.drop 8).length = 8 * n := by rw [List.length_drop]; omega
    conv => lhs; rw [e]
    rw [bytesToWords_append _ _ l1]
    have : ∀ (x : W) (l : List W), wordsToBytes (x :: l) = toBytes 8 x.toNat ++ wordsToBytes l := fun _ _ => rfl
    have ht := leBytes_leInt _ (h.take 8)
    rw [l1, ← toBytes_eq, ← toInt_eq] at ht
    rw [this, ih _ (h.drop 8) l2, BitVec.toNat_ofNat, toBytes_mod 8, ht, List.take_append_drop]

theorem bytesToWords_length (s : List Nat) : (bytesToWords s).length = s.length / 8 := by
  simp [bytesToWords]

end Proofs.Lemmas.TfBytes
