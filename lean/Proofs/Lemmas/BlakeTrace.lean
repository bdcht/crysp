/-
  What a consumer of the block iterator observes for BLAKE's own padding and the null padding of BLAKE2: how many blocks,
  and the `bitcnt` seen at each yield, for lists of any numbers, not only bytes (the counter and length rules of C11 do
  not ask for bytes).  Read off `Padding.padded_yields`.
-/
import Model.Blake
import Proofs.Lemmas.PaddingRun
namespace Proofs.Lemmas.BlakeTrace
open Model Model.Py Proofs.Lemmas.Padding

theorem concat_size (a o : Bits) : (a.concat o).size = a.size + o.size := rfl

/-- `Valid` asks of a BLAKE padder that its block size be the one its digest size selects; said here through the word
    size `blakeW h`, which makes the same case split -/
theorem valid_blake {h B w : Nat} (hgeo : (B = 512 ∧ w = 32) ∨ (B = 1024 ∧ w = 64)) (hw : Padder.blakeW h = w) :
    Valid ⟨.blake h, B⟩ := by
  unfold Padder.blakeW at hw
  rcases hgeo with ⟨rfl, rfl⟩ | ⟨rfl, rfl⟩
  all_goals
    refine ⟨by simp, Nat.succ_pos _, ?_⟩
    show _ = ite _ _ _
    split at hw <;> simp_all

theorem blake_yields_core (h B w : Nat) (hgeo : (B = 512 ∧ w = 32) ∨ (B = 1024 ∧ w = 64)) (hw : Padder.blakeW h = w)
    (st : PadState) (hpf : st.padflag = false)
    (m : List Nat) (kw : Option Nat) (L : Nat) (hLdef : kw.getD (8 * m.length) = L) (hL : L ≤ 8 * m.length) :
    (Padder.iterblocks ⟨.blake h, B⟩ st m kw true).err = none ∧
    (Padder.iterblocks ⟨.blake h, B⟩ st m kw true).yields.map (·.2.bitcnt) =
      (List.range ((L + 2 * w + 1 + B) / B)).map
        (fun i => if i * B < L then st.bitcnt + min L ((i + 1) * B) else 0) := by
  subst hLdef
  obtain ⟨he, hc, _⟩ := padded_yields _ (valid_blake hgeo hw) trivial st hpf m kw hL
  refine ⟨he, hc.trans ?_⟩
  have : 1 ≤ (effLen m kw + 2 * w + 1 + B) / B := Nat.div_pos (by omega) (by omega)
  simp only [minPad, hw, effLen] at this ⊢
  rw [show kw.getD (8 * m.length) + (2 + 2 * w) + B - 1 = kw.getD (8 * m.length) + 2 * w + 1 + B by omega,
    Nat.max_eq_right this]
  rfl

theorem blake_yields_blocklen (h B w : Nat) (hgeo : (B = 512 ∧ w = 32) ∨ (B = 1024 ∧ w = 64)) (hw : Padder.blakeW h = w)
    (st : PadState) (hpf : st.padflag = false)
    (m : List Nat) (kw : Option Nat) (L : Nat) (hLdef : kw.getD (8 * m.length) = L) (hL : L ≤ 8 * m.length) :
    ∀ y ∈ (Padder.iterblocks ⟨.blake h, B⟩ st m kw true).yields, y.1.length = B / 8 :=
  (padded_yields _ (valid_blake hgeo hw) trivial st hpf m kw (by rw [effLen, hLdef]; exact hL)).2.2

theorem trace_shape (padding : Bool) (L : List (List Nat × PadState)) (y : List Nat × PadState) :
    (L ++ [y]).zipIdx.map (fun (x : (List Nat × PadState) × Nat) =>
        (x.1.1, x.1.2.bitcnt / 8, padding && x.2 + 1 == (L ++ [y]).length)) =
      L.map (fun a => (a.1, a.2.bitcnt / 8, false)) ++ [(y.1, y.2.bitcnt / 8, padding)] := by
  apply List.ext_getElem
  · simp
  · intro i h1 h2
    simp only [List.length_map, List.length_zipIdx, List.length_append, List.length_cons, List.length_nil] at h1
    simp only [List.getElem_map, List.getElem_zipIdx, List.getElem_append, List.length_map, List.length_append,
      List.length_cons, List.length_nil, Nat.zero_add]
    by_cases hlt : i < L.length
    · simp only [hlt, dite_true]
      congr 2
      rw [Bool.and_eq_false_iff]
      right
      simp only [beq_eq_false_iff_ne, ne_eq]
      omega
    · have : i = L.length := by omega
      subst this
      simp

theorem trace_counters (c : Blake.Cfg) (pad : PadState) (M : List Nat) (padding : Bool) :
    (Blake2.trace c pad M padding).map (·.2.1) =
      ((Padder.mk .null c.blocksize).iterblocks pad M none padding).yields.map (·.2.bitcnt / 8) := by
  apply List.ext_getElem
  · simp [Blake2.trace]
  · intro i h1 h2
    simp [Blake2.trace]

theorem trace_length (c : Blake.Cfg) (pad : PadState) (M : List Nat) (padding : Bool) :
    (Blake2.trace c pad M padding).length =
      ((Padder.mk .null c.blocksize).iterblocks pad M none padding).yields.length := by
  simp [Blake2.trace]

theorem trace_flags (c : Blake.Cfg) (pad : PadState) (M : List Nat) (padding : Bool) :
    (Blake2.trace c pad M padding).map (·.2.2) =
      (List.range (Blake2.trace c pad M padding).length).map
        (fun i => padding && i + 1 == (Blake2.trace c pad M padding).length) := by
  apply List.ext_getElem
  · simp
  · intro i h1 h2
    simp [Blake2.trace]

end Proofs.Lemmas.BlakeTrace
