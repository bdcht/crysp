/-
  The nineteen key / plaintext / ciphertext triples of the "substitution table (S-box) test" of the NBS DES validation
  suite (NBS Special Publication 500-20, Validating the Correctness of Hardware Implementations of the NBS Data
  Encryption Standard, 1977/1980), typed from the publication, and an instrumented enciphering that lists the inputs
  presented to the eight S-boxes.
-/
import Proofs.Lemmas.DesEval
namespace Proofs.Lemmas.DesSboxVectors
open Spec.Des Proofs.Lemmas.DesEval

/-- (key, plaintext, ciphertext) as 64-bit numbers -/
def vectors : List (Nat × Nat × Nat) :=
  [(0x7CA110454A1A6E57, 0x01A1D6D039776742, 0x690F5B0D9A26939B),
   (0x0131D9619DC1376E, 0x5CD54CA83DEF57DA, 0x7A389D10354BD271),
   (0x07A1133E4A0B2686, 0x0248D43806F67172, 0x868EBB51CAB4599A),
   (0x3849674C2602319E, 0x51454B582DDF440A, 0x7178876E01F19B2A),
   (0x04B915BA43FEB5B6, 0x42FD443059577FA2, 0xAF37FB421F8C4095),
   (0x0113B970FD34F2CE, 0x059B5E0851CF143A, 0x86A560F10EC6D85B),
   (0x0170F175468FB5E6, 0x0756D8E0774761D2, 0x0CD3DA020021DC09),
   (0x43297FAD38E373FE, 0x762514B829BF486A, 0xEA676B2CB7DB2B7A),
   (0x07A7137045DA2A16, 0x3BDD119049372802, 0xDFD64A815CAF1A0F),
   (0x04689104C2FD3B2F, 0x26955F6835AF609A, 0x5C513C9C4886C088),
   (0x37D06BB516CB7546, 0x164D5E404F275232, 0x0A2AEEAE3FF4AB77),
   (0x1F08260D1AC2465E, 0x6B056E18759F5CCA, 0xEF1BF03E5DFA575A),
   (0x584023641ABA6176, 0x004BD6EF09176062, 0x88BF0DB6D70DEE56),
   (0x025816164629B007, 0x480D39006EE762F2, 0xA1F9915541020B56),
   (0x49793EBC79B3258F, 0x437540C8698F3CFA, 0x6FBF1CAFCFFD0556),
   (0x4FB05E1515AB73A7, 0x072D43A077075292, 0x2F22E49BAB7CA1AC),
   (0x49E95D6D4CA229BF, 0x02FE55778117F12A, 0x5A6B612CC26CCE4A),
   (0x018310DC409B26D6, 0x1D9D5C5018F728C2, 0x5F4C038ED12B2E41),
   (0x1C587F1C13924FEF, 0x305532286D6F295A, 0x63FAC0D034D9F793)]

def bytes8 (x : Nat) : List Nat := (List.range 8).map fun i => (x >>> (8 * (7 - i))) % 256

/-- for each of the sixteen rounds and each n < 8 the code 64·n + (the 6-bit block B_{n+1} of K ⊕ E(R) read in base 2),
    the argument `Spec.Des.f` hands to `Spec.Des.sbox n` -/
def sboxInputs (key blk : List Nat) : List Nat :=
  let x := permute IP (bytesToBits blk)
  ((keySchedule (bytesToBits key)).foldl
    (fun (st : (Bitstr × Bitstr) × List Nat) K =>
      let B := xor K (permute E st.1.2)
      (round st.1 K, st.2 ++ (List.range 8).map fun n => 64 * n + natOfBits ((B.drop (6 * n)).take 6)))
    ((x.take 32, x.drop 32), [])).2

def inputsOf (vs : List (Nat × Nat × Nat)) : List Nat := vs.flatMap fun t => sboxInputs (bytes8 t.1) (bytes8 t.2.1)

def part (k : Nat) : List (Nat × Nat × Nat) := (vectors.drop (5 * k)).take 5

theorem vectors_parts : vectors = part 0 ++ part 1 ++ part 2 ++ part 3 := by decide

theorem inputsOf_append (a b : List (Nat × Nat × Nat)) : inputsOf (a ++ b) = inputsOf a ++ inputsOf b :=
  List.flatMap_append

theorem sboxInputs_eq (key blk : List Nat) (hk : key.length = 8) (hb : blk.length = 8) :
    sboxInputs key blk = (roundsN (keyScheduleN (packBytes key)) (packBytes blk)).2 := by
  rw [sboxInputs, keySchedule_bytes key hk, bytesToBits_eq blk hb, rounds_bits]

theorem length_bytes8 (x : Nat) : (bytes8 x).length = 8 := by
  simp [bytes8]

theorem enc_bytes8 (k p : Nat) :
    enc (bytes8 k) (bytes8 p) = some (unpackBytes (cryptN (keyScheduleN (packBytes (bytes8 k))) (packBytes (bytes8 p)))) := by
  simp only [enc_eq, length_bytes8, and_self, if_true]

def mask (l : List Nat) : Nat := l.foldl (fun m c => m ||| (1 <<< c)) 0

theorem testBit_mask (l : List Nat) (c : Nat) : (mask l).testBit c = decide (c ∈ l) := by
  rw [mask, Fold.mask_testBit, Nat.zero_testBit, Bool.false_or]

theorem mask_append (a b : List Nat) : mask (a ++ b) = mask a ||| mask b :=
  Nat.eq_of_testBit_eq fun c => by
    rw [Nat.testBit_or, testBit_mask, testBit_mask, testBit_mask]
    simp only [List.mem_append, Bool.decide_or]

theorem mem_of_mask_testBit {l : List Nat} {c : Nat} (h : (mask l).testBit c = true) : c ∈ l :=
  of_decide_eq_true ((testBit_mask l c).symm.trans h)

end Proofs.Lemmas.DesSboxVectors
