/-
  Lemmas for Spec.SerpentStd (standard formulation of Serpent): the literal IP/FP tables are the 4×32 / 32×4 bit
  transposes; as maps that gather bit `σ j` into bit `j` (`Gather`) they are xor-linear, mutually inverse and equal to the
  maps given by the generating rule; the standard image `T` of a bitslice state.
-/
import Proofs.Lemmas.SerpentSpec
import Spec.SerpentStd
namespace Proofs.Lemmas.SerpentStdPerm
open Spec.Serpent Proofs.Lemmas.SerpentBits Proofs.Lemmas.SerpentSpec

theorem ipTable_getD (j : Nat) (hj : j < 128) : Spec.SerpentStd.ipTable.getD j 0 = 32 * (j % 4) + j / 4 := by
  rw [show Spec.SerpentStd.ipTable = (List.range 128).map fun j => 32 * (j % 4) + j / 4 by decide +kernel,
    Fold.getD_map_range _ _ _ _ hj]
theorem fpTable_getD (j : Nat) (hj : j < 128) : Spec.SerpentStd.fpTable.getD j 0 = 4 * (j % 32) + j / 32 := by
  rw [show Spec.SerpentStd.fpTable = (List.range 128).map fun j => 4 * (j % 32) + j / 32 by decide +kernel,
    Fold.getD_map_range _ _ _ _ hj]

/-- below 128 the rules 32·j mod 127 and 4·j mod 127 are the 4×32 and 32×4 transposes -/
theorem ipSrc_eq (j : Nat) (hj : j < 128) : ipSrc j = 32 * (j % 4) + j / 4 := by
  unfold ipSrc
  split <;> omega
theorem fpSrc_eq (j : Nat) (hj : j < 128) : fpSrc j = 4 * (j % 32) + j / 32 := by
  unfold fpSrc
  split <;> omega

theorem ipTable_length : Spec.SerpentStd.ipTable.length = 128 := by decide +kernel
theorem fpTable_length : Spec.SerpentStd.fpTable.length = 128 := by decide +kernel

abbrev Gather (F : Nat → Nat) (σ : Nat → Nat) : Prop := ∀ x j, (F x).testBit j = (decide (j < 128) && x.testBit (σ j))

theorem gather_permute (tbl : List Nat) (σ : Nat → Nat) (h : ∀ j < 128, tbl.getD j 0 = σ j) :
    Gather (Spec.SerpentStd.permute tbl) σ := fun x j => by
  rw [Spec.SerpentStd.permute, testBit_ofBitFn]
  by_cases hj : j < 128
  · rw [h j hj]
  · simp [hj]

theorem testBit_IP (x j : Nat) :
    (Spec.SerpentStd.IP x).testBit j = (decide (j < 128) && x.testBit (32 * (j % 4) + j / 4)) :=
  gather_permute _ _ ipTable_getD x j

theorem testBit_FP (x j : Nat) :
    (Spec.SerpentStd.FP x).testBit j = (decide (j < 128) && x.testBit (4 * (j % 32) + j / 32)) :=
  gather_permute _ _ fpTable_getD x j

theorem IP_lt (x : Nat) : Spec.SerpentStd.IP x < 2 ^ 128 := ofBitFn_lt _ _
theorem FP_lt (x : Nat) : Spec.SerpentStd.FP x < 2 ^ 128 := ofBitFn_lt _ _

theorem Gather.xor {F : Nat → Nat} {σ : Nat → Nat} (h : Gather F σ) (a b : Nat) : F (a ^^^ b) = F a ^^^ F b := by
  apply Nat.eq_of_testBit_eq; intro j
  rw [Nat.testBit_xor, h, h, h, Nat.testBit_xor]
  cases decide (j < 128) <;> simp

theorem Gather.cancel {F G : Nat → Nat} {σ τ : Nat → Nat} (hF : Gather F σ) (hG : Gather G τ)
    (h : ∀ j < 128, τ j < 128 ∧ σ (τ j) = j) (x : Nat) (hx : x < 2 ^ 128) : G (F x) = x := by
  apply Nat.eq_of_testBit_eq; intro j
  rw [hG, hF]
  by_cases hj : j < 128
  · simp [hj, h j hj]
  · simp [hj, Bits.testBit_of_lt hx (Nat.le_of_not_lt hj)]

theorem FP_IP (x : Nat) (hx : x < 2 ^ 128) : Spec.SerpentStd.FP (Spec.SerpentStd.IP x) = x :=
  Gather.cancel testBit_IP testBit_FP (fun j hj => by omega) x hx

theorem IP_FP (x : Nat) (hx : x < 2 ^ 128) : Spec.SerpentStd.IP (Spec.SerpentStd.FP x) = x :=
  Gather.cancel testBit_FP testBit_IP (fun j hj => by omega) x hx

theorem IP_xor (a b : Nat) : Spec.SerpentStd.IP (a ^^^ b) = Spec.SerpentStd.IP a ^^^ Spec.SerpentStd.IP b :=
  Gather.xor testBit_IP a b

theorem FP_xor (a b : Nat) : Spec.SerpentStd.FP (a ^^^ b) = Spec.SerpentStd.FP a ^^^ Spec.SerpentStd.FP b :=
  Gather.xor testBit_FP a b

theorem IP_mod (x : Nat) : Spec.SerpentStd.IP (x % 2 ^ 128) = Spec.SerpentStd.IP x := by
  apply Nat.eq_of_testBit_eq; intro j
  rw [testBit_IP, testBit_IP, Nat.testBit_mod_two_pow]
  by_cases hj : j < 128
  · have h1 : 32 * (j % 4) + j / 4 < 128 := by omega
    simp [h1]
  · simp [hj]

theorem Gather.ext {F G : Nat → Nat} {σ τ : Nat → Nat} (hF : Gather F σ) (hG : Gather G τ) (h : ∀ j < 128, σ j = τ j)
    (x : Nat) : F x = G x := by
  apply Nat.eq_of_testBit_eq; intro j
  rw [hF, hG]
  by_cases hj : j < 128
  · rw [h j hj]
  · simp [hj]

theorem IP_eq_spec (x : Nat) : Spec.SerpentStd.IP x = Spec.Serpent.IP x :=
  Gather.ext testBit_IP (fun _ _ => testBit_ofBitFn _ _ _) (fun j hj => (ipSrc_eq j hj).symm) x

theorem FP_eq_spec (x : Nat) : Spec.SerpentStd.FP x = Spec.Serpent.FP x :=
  Gather.ext testBit_FP (fun _ _ => testBit_ofBitFn _ _ _) (fun j hj => (fpSrc_eq j hj).symm) x

/-! ### the standard image of a bitslice state -/
def T (s : State) : Nat := Spec.SerpentStd.IP (natOfState s)

theorem testBit_T (s : State) (hs : WS s) (j : Nat) :
    (T s).testBit j = (decide (j < 128) && (word s (j % 4)).testBit (j / 4)) := by
  unfold T
  rw [testBit_IP]
  by_cases hj : j < 128
  · rw [testBit_natOfState_word s hs (j % 4) (j / 4) (by omega) (by omega)]
  · simp [hj]

theorem FP_T (s : State) (hs : WS s) : Spec.SerpentStd.FP (T s) = natOfState s :=
  FP_IP _ (natOfState_lt s hs)

theorem T_xor (s t : State) (hs : WS s) (ht : WS t) : T (s.xor t) = T s ^^^ T t := by
  unfold T
  rw [natOfState_xor s t hs ht, IP_xor]

theorem T_zero : T ⟨0, 0, 0, 0⟩ = 0 := by
  apply Nat.eq_of_testBit_eq; intro j
  rw [T, testBit_IP]
  simp [natOfState]

/-- for every `P`: both sides look at the low 128 bits only -/
theorem T_stateOfNat (P : Nat) : T (stateOfNat P) = Spec.SerpentStd.IP P := by
  unfold T
  have h : stateOfNat P = stateOfNat (P % 2 ^ 128) := by
    simp only [stateOfNat, Nat.shiftRight_eq_div_pow, State.mk.injEq]
    refine ⟨?_, ?_, ?_, ?_⟩ <;> omega
  rw [h, natOfState_stateOfNat _ (Nat.mod_lt _ (Nat.two_pow_pos _)), IP_mod]

end Proofs.Lemmas.SerpentStdPerm
