/- MD5: tables, schedule, rounds, compression of the model equal RFC 1321 -/
import Proofs.Lemmas.Md
namespace Proofs.Lemmas.Md5
open Model Model.Py Model.Md Model.Gen.Hashes Proofs.Lemmas.BitsBitVec Proofs.Lemmas.Fold Proofs.Lemmas.Parse
  Proofs.Lemmas.RoundFns Proofs.Lemmas.Md

theorem K_table : md5K = Spec.Md5.T.map (·.toNat) := by decide +kernel
theorem K_eq (i : Nat) : md5K.getD i 0 = (Spec.Md5.T.getD i 0).toNat := by
  rw [K_table]
  exact getD_map _ _ i 0
theorem shift_table : (List.range 64).map (shiftOf md5st) = Spec.Md5.sTable := by decide +kernel
theorem shift_eq (i : Nat) (hi : i < 64) : shiftOf md5st i = Spec.Md5.sTable.getD i 0 := by
  rw [← shift_table, getD_map_range _ _ _ _ hi]
theorem shift_le : ∀ i, i < 64 → Spec.Md5.sTable.getD i 0 ≤ 32 := by decide +kernel
theorem iv_eq : md5H.map (fun v => Bits.ofNatSz v 32) = embH Spec.Md5.iv := by decide +kernel
theorem tables_ok : tablesOk 4 md5ft.length md5K 64 md5st md5Idx = true := by decide +kernel

/-- the three `W.extend([W[i] for i in (…)])` produce exactly the RFC's X[k] sequence of the 64 operations -/
theorem extend_eq (X : List (BitVec 32)) (hX : X.length = 16) :
    extend (X.map ofBV) md5Idx = ((List.range 64).map fun i => X.getD (Spec.Md5.kTable.getD i 0) 0).map ofBV := by
  obtain ⟨x0, x1, x2, x3, x4, x5, x6, x7, x8, x9, x10, x11, x12, x13, x14, x15, rfl⟩ := exists_of_length_16 hX
  rfl

theorem word_eq (X : List (BitVec 32)) (hX : X.length = 16) (i : Nat) (hi : i < 64) :
    (extend (X.map ofBV) md5Idx).getD i dflt = ofBV (X.getD (Spec.Md5.kTable.getD i 0) 0) := by
  rw [extend_eq X hX, dflt, getD_map_ofBV, getD_map_range _ _ _ _ hi]

theorem ft_ofBV (i : Nat) (hi : i < 64) (b c d : BitVec 32) :
    md5ft.getD (i / 16) (fun _ _ z => z) (ofBV b) (ofBV c) (ofBV d) = ofBV (Spec.Md5.roundFn i b c d) := by
  unfold Spec.Md5.roundFn
  by_cases h1 : i < 16
  · have : i / 16 = 0 := by omega
    simp only [h1, if_true, this]; exact md5_f_ofBV b c d
  · by_cases h2 : i < 32
    · have : i / 16 = 1 := by omega
      simp only [h1, h2, if_true, if_false, this]; exact md5_g_ofBV b c d
    · by_cases h3 : i < 48
      · have : i / 16 = 2 := by omega
        simp only [h1, h2, h3, if_true, if_false, this]; exact md5_h_ofBV b c d
      · have : i / 16 = 3 := by omega
        simp only [h1, h2, h3, if_false, this]; exact md5_i_ofBV b c d

theorem round_refines (X : List (BitVec 32)) (hX : X.length = 16) (i : Nat) (hi : i < 64) (a b c d : BitVec 32) :
    md5Round (extend (X.map ofBV) md5Idx) (emb4 (a, b, c, d)) i = emb4 (d, Spec.Md5.op X i a b c d, b, c) := by
  simp only [md5Round, emb4, Spec.Md5.op, word_eq X hX i hi, ft_ofBV i hi, K_eq, shift_eq i hi, add_ofBV,
    addConst_ofBV, rol_ofBV _ _ (shift_le i hi)]

theorem step_eq (X : List (BitVec 32)) : Spec.Md5.step X = stepOf (Spec.Md5.op X) := by
  funext ⟨A, B, C, D⟩ i
  rfl

theorem rounds_refines (X : List (BitVec 32)) (hX : X.length = 16) (s : State) :
    (List.range 64).foldl (md5Round (extend (X.map ofBV) md5Idx)) (emb4 s)
      = emb4 ((List.range 64).foldl (Spec.Md5.step X) s) := by
  rw [step_eq]
  exact loop_refines (Spec.Md5.op X) _ 64 (by decide) (fun i hi a b c d => round_refines X hX i hi a b c d) s

theorem block_refines (H : State) (X : List (BitVec 32)) (hX : X.length = 16) :
    md5Block (embH H) (X.map ofBV) = .ok (embH (Spec.Md5.compressWords H X)) := by
  obtain ⟨h0, h1, h2, h3⟩ := H
  have hr := rounds_refines X hX (h0, h1, h2, h3)
  simp only [Spec.Md5.compressWords]
  generalize (List.range 64).foldl (Spec.Md5.step X) (h0, h1, h2, h3) = R at hr ⊢
  obtain ⟨a, b, c, d⟩ := R
  simp only [emb4] at hr
  simp only [md5Block, embH, List.length_map, hX, ne_eq, not_true_eq_false, if_false, tables_ok, Bool.not_true,
    Bool.false_eq_true, show (4 * 16 = 64) by decide, hr, add_ofBV, BitVec.add_comm]

theorem compress_refines (H : State) (blk : List Spec.Byte) (hb : blk.length = 64) :
    md5Compress (embH H) (toNatBytes blk) = .ok (embH (Spec.Md5.compress H blk)) :=
  (bind_eq_of_ok (parseLE_refines blk hb) _).trans (block_refines H _ (by rw [wordsLE_length, hb]))

end Proofs.Lemmas.Md5
