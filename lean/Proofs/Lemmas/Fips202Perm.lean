/-
  C04 / FIPS 202: rc(t), the bits of the round constants, the string ⇔ state-array conversions
  and the round indices of KECCAK-p[b,nr] of Spec.Fips202, for the comparison with Spec.Keccak.
-/
import Proofs.Lemmas.Fips202Step
import Proofs.Lemmas.KeccakEval
namespace Proofs.Lemmas.Fips202Perm
open Spec.Fips202 Proofs.Lemmas.KeccakString Proofs.Lemmas.Fips202Step
open Proofs.Lemmas.KeccakEval (lfsrN bits8 bits8_eq lfsrStep8 lfsrStep_bits8)

/-- the loop of Algorithm 5 keeps the register in the form the byte LFSR of Proofs.Lemmas.KeccakEval reads -/
theorem rc_fold : ∀ (n b : Nat),
    (List.range n).foldl
      (fun (R : Str) (_ : Nat) =>
        let R := [false] ++ R
        let R := R.set 0 (R.getD 0 false ^^ R.getD 8 false)
        let R := R.set 4 (R.getD 4 false ^^ R.getD 8 false)
        let R := R.set 5 (R.getD 5 false ^^ R.getD 8 false)
        let R := R.set 6 (R.getD 6 false ^^ R.getD 8 false)
        Trunc 8 R)
      (bits8 b) = bits8 (Spec.Keccak.iter lfsrN n b) := by
  intro n
  induction n with
  | zero => intro b; rfl
  | succ n ih =>
    intro b
    rw [List.range_succ_eq_map, List.foldl_cons, List.foldl_map, Spec.Keccak.iter, ← ih, ← lfsrStep_bits8, bits8_eq,
      lfsrStep8]
    rfl

/-- "for j from 0 to n−1: RC[2^j − 1] = c(j)" from RC = 0^w, and the same loop or-ing bit 2^j − 1 into a lane: side by
    side the two hold the same bits, since position 2^n − 1 and all beyond it are still 0 after n steps -/
theorem rcLoops_agree (w : Nat) (c : Nat → Bool) (n : Nat) :
    ((List.range n).foldl (fun (R : Str) (j : Nat) => R.set (2 ^ j - 1) (c j)) (zeros w)).length = w ∧
    ∀ z, bit ((List.range n).foldl (fun (R : Str) (j : Nat) => R.set (2 ^ j - 1) (c j)) (zeros w)) z
          = ((List.range n).foldl (fun (acc : BitVec w) (j : Nat) =>
              if c j then acc ||| BitVec.twoPow w (2 ^ j - 1) else acc) 0).getLsbD z ∧
        (2 ^ n - 1 ≤ z → ((List.range n).foldl (fun (acc : BitVec w) (j : Nat) =>
              if c j then acc ||| BitVec.twoPow w (2 ^ j - 1) else acc) 0).getLsbD z = false) := by
  refine Fold.foldl_range_rel (fun n (R : Str) (a : BitVec w) =>
    R.length = w ∧ ∀ z, bit R z = a.getLsbD z ∧ (2 ^ n - 1 ≤ z → a.getLsbD z = false)) _ _ n _ _ ?_
    fun n _ R a ⟨hl, h⟩ => ?_
  · exact ⟨by simp [zeros], fun z => ⟨by simp [zeros, bit_replicate_false], fun _ => by simp⟩⟩
  · refine ⟨by rw [List.length_set]; exact hl, fun z => ?_⟩
    have hp : 2 ^ n - 1 < 2 ^ (n + 1) - 1 := by
      have := Nat.two_pow_pos n
      rw [Nat.pow_succ]; omega
    rw [bit_set, hl, (h z).1]
    by_cases hz : 2 ^ n - 1 = z
    · subst hz
      have h0 := (h (2 ^ n - 1)).2 (Nat.le_refl _)
      refine ⟨?_, fun hge => absurd hge (by omega)⟩
      by_cases hc : c n
      · by_cases hw : 2 ^ n - 1 < w <;> simp [hc, hw, h0, BitVec.getLsbD_or, BitVec.getLsbD_twoPow]
      · simp only [hc, Bool.false_eq_true, if_false, h0, ite_self]
    · refine ⟨?_, fun hge => ?_⟩
      · by_cases hc : c n <;> simp [hc, hz, BitVec.getLsbD_or, BitVec.getLsbD_twoPow]
      · have h0 := (h z).2 (by omega)
        by_cases hc : c n <;> simp [hc, hz, h0, BitVec.getLsbD_or, BitVec.getLsbD_twoPow]

theorem RC_length (w : Nat) (ir : Int) : (RC w ir).length = w := (rcLoops_agree w _ _).1

theorem map_getLsbD_laneOf (w : Nat) (A : StateArray) (x y : Nat) :
    (List.range w).map (laneOf w A x y).getLsbD = Lane w A x y := by
  apply List.map_congr_left
  intro z hz
  rw [getLsbD_laneOf]; simp [List.mem_range.mp hz]

/-- §3.1.3 (planes of lanes of bits) is the string of the 25 lanes -/
theorem toStr_eq (w : Nat) (A : StateArray) : toStr w A = Spec.Keccak.stringOfState (lanes w A) := by
  simp only [Spec.Keccak.stringOfState, lanes, Spec.Keccak.mkState, Vector.toList_ofFn, List.ofFn_succ,
    List.ofFn_zero, List.flatMap_cons, List.flatMap_nil, List.append_nil]
  simp only [Fin.val_zero, Fin.val_succ, Nat.reduceAdd, Nat.reduceMod, Nat.reduceDiv, Nat.zero_mod, Nat.zero_div,
    map_getLsbD_laneOf, toStr, Plane, List.append_assoc]

theorem toStr_length (w : Nat) (A : StateArray) : (toStr w A).length = 25 * w := by
  rw [toStr_eq, stringOfState_length]

theorem toStateArray_toStr {w : Nat} (A : StateArray) (x y z : Nat) (hx : x < 5) (hy : y < 5) (hz : z < w) :
    toStateArray w (toStr w A) x y z = A x y z := by
  have h3 := bit_stringOfState (lanes w A) (5 * y + x) (by omega) z hz
  simp only [toStateArray, toStr_eq]
  simp only [bit] at h3
  rw [h3, lanes_getElem w A _ (by omega), getLsbD_laneOf]
  have e1 : (5 * y + x) % 5 = x := by omega
  have e2 : (5 * y + x) / 5 = y := by omega
  simp [e1, e2, hz]

theorem roundIndex_cast {w nr : Nat} (hnr : nr ≤ 12 + 2 * Nat.log2 w) (k : Nat) :
    ((12 : Int) + 2 * (Nat.log2 w : Int) - (nr : Int) + (k : Int)) = ((12 + 2 * Nat.log2 w - nr + k : Nat) : Int) := by
  omega

theorem KECCAK_p_length {w : Nat} (nr : Nat) (S : Str) : (KECCAK_p (25 * w) nr S).length = 25 * w := by
  have hb : 25 * w / 25 = w := Nat.mul_div_cancel_left w (by decide)
  simp only [KECCAK_p, hb, toStr_length]

end Proofs.Lemmas.Fips202Perm
