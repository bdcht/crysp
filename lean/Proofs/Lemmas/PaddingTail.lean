/-
  What `lastblock` returns, scheme by scheme, as a bit string: the first r bits of the last piece followed by the
  scheme's pad bits `modelTail` (the "tail contract").  First `modelTail` and how long it is, then `lastblock` itself.
-/
import Proofs.Lemmas.PaddingBits
namespace Proofs.Lemmas.Padding
open Model Model.Py Model.Padder Spec.Padding

/-- configurations the property quantifies over (and the code supports): whole bytes, non-empty blocks; a pad
    length that fits a byte for PKCS#7 / X9.23; for MD/SHA strengthening a length field of whole bytes that fits,
    with the 1 bit, into one block (B < 2w+1 is the known finding C09-md-small-block); BLAKE's own block size -/
structure Valid (p : Padder) : Prop where
  mul8 : p.blocksize % 8 = 0
  pos : 0 < p.blocksize
  scheme_ok : match p.scheme with
    | .pkcs7 | .x923 => p.blocklen < 256
    | .md w | .sha w => w % 4 = 0 ∧ 2 * w + 1 ≤ p.blocksize
    | .blake h => p.blocksize = (if h > 256 then 1024 else 512)
    | _ => True

def BitGranular : Model.Scheme → Prop
  | .no | .pkcs7 | .x923 => False
  | _ => True

theorem byteScheme {s : Model.Scheme} (hb : ¬ BitGranular s) (hno : s ≠ .no) : s = .pkcs7 ∨ s = .x923 := by
  cases s <;> simp_all [BitGranular]

theorem Valid.size_eq {p : Padder} (hv : Valid p) : p.blocksize = 8 * p.blocklen := by
  have := hv.mul8
  unfold Padder.blocklen
  omega

theorem Valid.blocklen_pos {p : Padder} (hv : Valid p) : 0 < p.blocklen := by
  have := hv.size_eq
  have := hv.pos
  omega

/-- the fewest pad bits the scheme ever adds -/
def minPad : Model.Scheme → Nat
  | .no => 0 | .null => 0 | .bit => 1 | .pkcs7 => 8 | .x923 => 8
  | .md w => 1 + 2 * w | .sha w => 1 + 2 * w | .blake h => 2 + 2 * Padder.blakeW h

/-- zero run behind r message bits and mp fixed pad bits: up to the end of this block if they fit behind the r bits,
    else of the next one (for MD/SHA/BLAKE `2 * B` is the code's `n0 + blocksize` for a negative
    `n0 = B - e - cs - r`, Model/Padding.lean:66-67) -/
def gap (B mp r : Nat) : Nat := if r + mp ≤ B then B - (r + mp) else 2 * B - (r + mp)

theorem gap_total (B mp r : Nat) (h1 : mp ≤ B) (h2 : r ≤ B) :
    r + mp + gap B mp r = if r + mp ≤ B then B else 2 * B := by
  unfold gap
  split <;> omega

theorem gap_full (B mp : Nat) (h1 : 1 ≤ mp) (h2 : mp ≤ B) : gap B mp B = gap B mp 0 := by
  unfold gap
  split <;> split <;> omega

def preBits : Model.Scheme → List Bool
  | .bit | .md _ | .sha _ | .blake _ => [true]
  | _ => []

def sufBits : Model.Scheme → Nat → List Bool
  | .md w, n => lenLE (2 * w) n
  | .sha w, n => lenBE (2 * w) n
  | .blake h, n => decide (h = 256 ∨ h = 512) :: lenBE (2 * Padder.blakeW h) n
  | _, _ => []

theorem shape_length (s : Model.Scheme) (hbg : BitGranular s) (n : Nat) :
    (preBits s).length + (sufBits s n).length = minPad s := by
  cases s <;> simp [preBits, sufBits, minPad, BitGranular] at hbg ⊢
  omega

/-- number of pad bytes of PKCS#7 / X9.23 after a last piece of j bytes -/
def padQ (bl j : Nat) : Nat := if bl - j = 0 then bl else bl - j

theorem padQ_range (bl j : Nat) (hbl : 0 < bl) : 0 < padQ bl j ∧ padQ bl j ≤ bl := by
  unfold padQ
  split <;> omega

/-- PKCS#7 / X9.23 as the same arithmetic, in bytes: the q pad bytes are the zero run behind 8 fixed bits, and those 8 -/
theorem padQ_gap (bl j : Nat) (hj : j ≤ bl) (hbl : 0 < bl) : 8 * padQ bl j = gap (8 * bl) 8 (8 * j) + 8 := by
  unfold padQ gap
  split <;> split <;> omega

/-- the pad bits `lastblock` appends after r message bits of the last piece when `base` bits were counted before.  Every
    bit-granular pad is fixed bits, a zero run, a field of fixed length, so that what is to be known of its length is
    arithmetic on `gap`. -/
def modelTail (p : Padder) (base r : Nat) : List Bool :=
  match p.scheme with
  | .no => []
  | .pkcs7 => bytesToBits (List.replicate (padQ p.blocklen (r / 8)) (padQ p.blocklen (r / 8)))
  | .x923 => bytesToBits (List.replicate (padQ p.blocklen (r / 8) - 1) 0 ++ [padQ p.blocklen (r / 8)])
  | s => preBits s ++ zeros (gap p.blocksize (minPad s) r) ++ sufBits s (base + r)

theorem modelTail_shape (p : Padder) (hbg : BitGranular p.scheme) (base r : Nat) :
    modelTail p base r
      = preBits p.scheme ++ zeros (gap p.blocksize (minPad p.scheme) r) ++ sufBits p.scheme (base + r) := by
  unfold modelTail
  cases hs : p.scheme <;> first | rfl | simp [hs, BitGranular] at hbg

theorem modelTail_null (p : Padder) (hs : p.scheme = .null) (base r : Nat) (hr : r ≤ p.blocksize) :
    modelTail p base r = zeros (p.blocksize - r) := by
  simp only [modelTail, hs, preBits, sufBits, minPad, gap, Nat.add_zero, hr, if_true, List.nil_append, List.append_nil]

/-- `padcnt` after `lastblock` -/
def tailPadcnt (p : Padder) (old r : Nat) : Nat :=
  match p.scheme with
  | .null | .bit | .pkcs7 | .x923 => (modelTail p 0 r).length
  | _ => old

theorem minPad_le (p : Padder) (hv : Valid p) : minPad p.scheme ≤ p.blocksize := by
  have h8 := hv.mul8
  have hp := hv.pos
  have hw := hv.scheme_ok
  cases hs : p.scheme with
  | blake h =>
    rw [hs] at hw
    simp only at hw
    simp only [minPad, Padder.blakeW]
    by_cases hb : h > 256 <;> simp only [hb, if_true, if_false] at hw ⊢ <;> omega
  | _ =>
    rw [hs] at hw
    simp only [minPad] at hw ⊢
    omega

theorem modelTail_total (p : Padder) (hv : Valid p) (base r : Nat) (hr : r ≤ p.blocksize)
    (hbyte : ¬ BitGranular p.scheme → r % 8 = 0) (hno : p.scheme ≠ .no) :
    r + (modelTail p base r).length = if r + minPad p.scheme ≤ p.blocksize then p.blocksize else 2 * p.blocksize := by
  have hB := hv.size_eq
  have hmp := minPad_le p hv
  by_cases hbg : BitGranular p.scheme
  · have hl := shape_length p.scheme hbg (base + r)
    rw [modelTail_shape p hbg base r, ← gap_total _ _ r hmp hr]
    simp only [List.length_append, zeros, List.length_replicate]
    omega
  · have h8 := hbyte hbg
    have hq0 := (padQ_range p.blocklen (r / 8) hv.blocklen_pos).1
    have hq := padQ_gap p.blocklen (r / 8) (by omega) hv.blocklen_pos
    have hl : (modelTail p base r).length = 8 * padQ p.blocklen (r / 8) ∧ minPad p.scheme = 8 := by
      rcases byteScheme hbg hno with hs | hs <;>
        simp only [modelTail, minPad, hs, bytesToBits_length, List.length_append, List.length_replicate,
          List.length_singleton, and_true]
      omega
    rw [hl.1, hl.2, ← gap_total _ 8 r (by omega) hr, hq, ← hB, show 8 * (r / 8) = r by omega]
    omega

theorem modelTail_full (p : Padder) (hv : Valid p) (h1 : 1 ≤ minPad p.scheme) (base : Nat) :
    modelTail p base p.blocksize = modelTail p (base + p.blocksize) 0 := by
  by_cases hbg : BitGranular p.scheme
  · rw [modelTail_shape p hbg, modelTail_shape p hbg, gap_full _ _ h1 (minPad_le p hv), Nat.add_zero]
  · have hbl : p.blocksize / 8 = p.blocklen := rfl
    rcases byteScheme hbg (fun h => by rw [h] at h1; exact absurd h1 (by decide)) with hs | hs <;>
      simp [modelTail, hs, padQ, hbl]

theorem modelTail_length_base (p : Padder) (b1 b2 r : Nat) :
    (modelTail p b1 r).length = (modelTail p b2 r).length := by
  cases hs : p.scheme <;> simp [modelTail, hs, sufBits]

theorem tailPadcnt_full (p : Padder) (hv : Valid p) (h1 : 1 ≤ minPad p.scheme) (old : Nat) :
    tailPadcnt p old p.blocksize = tailPadcnt p old 0 := by
  have h := modelTail_full p hv h1 0
  have h2 := modelTail_length_base p (0 + p.blocksize) 0 0
  cases hs : p.scheme <;> simp only [tailPadcnt, hs] <;> rw [h, h2]

theorem bitsToBytes_whole (a b : List Nat) (ha : Bytes a) (hb : Bytes b) :
    bitsToBytes ((bytesToBits a).take (8 * a.length) ++ bytesToBits b) = a ++ b := by
  rw [List.take_of_length_le (by simp), bitsToBytes_bytesToBits_append a ha, bitsToBytes_bytesToBits b hb]

theorem lastblock_bytes (p : Padder) (hv : Valid p) (hb : ¬ BitGranular p.scheme) (st : PadState) (pi : List Nat)
    (hpi : Bytes pi) (kw : Option Nat) :
    p.lastblock st pi kw = .ok (bitsToBytes ((bytesToBits pi).take (8 * pi.length) ++ modelTail p st.bitcnt (8 * pi.length)),
      { padflag := true, bitcnt := st.bitcnt + 8 * pi.length, padcnt := tailPadcnt p st.padcnt (8 * pi.length) }) := by
  have hw := hv.scheme_ok
  obtain ⟨hq0, hq⟩ := padQ_range p.blocklen pi.length hv.blocklen_pos
  have e8 : 8 * pi.length / 8 = pi.length := by omega
  have hq' : (if p.blocklen - pi.length = 0 then p.blocklen else p.blocklen - pi.length)
      = padQ p.blocklen pi.length := rfl
  cases hs : p.scheme with
  | no =>
    have := bitsToBytes_whole pi [] hpi (by intro x hx; cases hx)
    simp only [bytesToBits_nil, List.append_nil] at this
    simp only [Padder.lastblock, hs, modelTail, tailPadcnt, List.append_nil, this]
  | pkcs7 =>
    rw [hs] at hw
    simp only at hw
    have hbq : Bytes (List.replicate (padQ p.blocklen pi.length) (padQ p.blocklen pi.length)) :=
      Bytes.AllBytes.replicate (by omega) _
    simp only [Padder.lastblock, hs, hq']
    rw [if_neg (by omega)]
    simp only [modelTail, tailPadcnt, hs, e8, bitsToBytes_whole pi _ hpi hbq, bytesToBits_length, List.length_replicate]
  | x923 =>
    rw [hs] at hw
    simp only at hw
    have hbq : Bytes (List.replicate (padQ p.blocklen pi.length - 1) 0 ++ [padQ p.blocklen pi.length]) :=
      Bytes.AllBytes.append (Bytes.AllBytes.replicate (by decide) _) (Bytes.AllBytes.replicate (by omega) 1)
    simp only [Padder.lastblock, hs, hq']
    rw [if_neg (by omega)]
    simp only [modelTail, tailPadcnt, hs, e8, bitsToBytes_whole pi _ hpi hbq, bytesToBits_length, List.length_append,
      List.length_replicate, List.length_singleton, List.append_assoc, Nat.sub_add_cancel hq0]
  | _ => simp [hs, BitGranular] at hb

/-- the keyword argument `lastblock` sees: absent (then the piece is used whole) or the absolute bit length -/
def KwOK (st : PadState) (pi : List Nat) (kw : Option Nat) (r : Nat) : Prop :=
  (kw = none ∧ r = 8 * pi.length) ∨ kw = some (st.bitcnt + r)

theorem lastblock_kw_none (p : Padder) (hbg : BitGranular p.scheme) (st : PadState) (pi : List Nat) :
    p.lastblock st pi none = p.lastblock st pi (some (st.bitcnt + 8 * pi.length)) := by
  have hlt : ¬ st.bitcnt + 8 * pi.length < st.bitcnt := by omega
  cases hs : p.scheme <;> simp [Padder.lastblock, Padder.mdLike, hs, BitGranular, hlt] at hbg ⊢

/-- the first r bits `lastblock` takes from the piece, whatever numbers it holds (`Bits(m,size=r)`) -/
def pieceBits (pi : List Nat) (r : Nat) : List Bool := bools (Padder.bitsOfBytes pi r)

@[simp] theorem pieceBits_length (pi : List Nat) (r : Nat) : (pieceBits pi r).length = r := by
  simp [pieceBits, bools]

theorem pieceBits_zero (pi : List Nat) : pieceBits pi 0 = [] := List.eq_nil_of_length_eq_zero (pieceBits_length pi 0)

/-- the one place where the piece has to hold bytes -/
theorem pieceBits_bytes (pi : List Nat) (hpi : Bytes pi) (r : Nat) (hr : r ≤ 8 * pi.length) :
    pieceBits pi r = (bytesToBits pi).take r := bools_bitsOfBytes pi hpi r hr

theorem toBytes_piece_concat (pi : List Nat) (r : Nat) (o : Model.Bits) :
    ((Padder.bitsOfBytes pi r).concat o).toBytes = bitsToBytes (pieceBits pi r ++ bools o) := by
  rw [toBytes_eq, bools_concat _ _ (bitsOfBytes_WF _ _), pieceBits]

theorem lastblock_null_bit (p : Padder) (hv : Valid p) (hs : p.scheme = .null ∨ p.scheme = .bit) (st : PadState)
    (pi : List Nat) (hlen : pi.length ≤ p.blocklen) (r : Nat) (hr : r ≤ 8 * pi.length) :
    p.lastblock st pi (some (st.bitcnt + r)) = .ok (bitsToBytes (pieceBits pi r ++ modelTail p st.bitcnt r),
      { padflag := true, bitcnt := st.bitcnt + r, padcnt := tailPadcnt p st.padcnt r }) := by
  have hB := hv.size_eq
  have hpos := hv.pos
  have hlt : ¬ st.bitcnt + r < st.bitcnt := by omega
  have hrB : r ≤ p.blocksize := by omega
  rcases hs with hs | hs
  · simp only [Padder.lastblock, hs, hlt, if_false, Nat.add_sub_cancel_left, toBytes_piece_concat pi r,
      bools_ofNatSz_zero, bitsToBytes_length, List.length_append, pieceBits_length, zeros,
      List.length_replicate]
    rw [if_neg (by omega), if_neg (by omega)]
    simp only [tailPadcnt, hs, modelTail_null p hs _ r hrB, zeros, List.length_replicate]
  · -- the code's pad length q (a whole block when nothing is missing) is the 1 bit and the zero run
    have hq : (if p.blocksize - r = 0 then p.blocksize else p.blocksize - r) = gap p.blocksize 1 r + 1 := by
      unfold gap
      split <;> split <;> omega
    simp only [Padder.lastblock, hs, hlt, if_false, Nat.add_sub_cancel_left, hq]
    rw [if_neg (by omega)]
    simp only [toBytes_piece_concat pi r, bools_ofNatSz_one, modelTail, tailPadcnt, hs, preBits, sufBits, minPad,
      List.length_cons, zeros, List.length_replicate, List.singleton_append, List.append_nil]

theorem toBytes_append_pack (pad : Model.Bits) (bits : List Bool) (hp : bools pad = bits) (hal : bits.length % 8 = 0)
    (v c : Nat) (be : Bool) :
    pad.toBytes ++ (Bits.ofNatSz v (8 * c)).pack be =
      bitsToBytes (bits ++ (if be then lenBE (8 * c) v else lenLE (8 * c) v)) := by
  rw [toBytes_eq, hp, bitsToBytes_append _ _ hal]
  cases be
  · rw [pack_le]
    rfl
  · rw [pack_be]
    rfl

def flagBits : Option Nat → List Bool
  | none => []
  | some v => [v.testBit 0]

/-- `mdLike` on a piece with r message bits.  The word size is taken as `4 * c` (`Valid.scheme_ok` has it a multiple of 4), so the
    length field of `2 * wsize = 8 * c` bits is c whole bytes and `pack` is the codec (`pack_le` / `pack_be`); `extra` is the 1 bit
    plus BLAKE's flag bit where there is one.  `hN`: the zero run the code computes over Int with one wrap-around is `gap`. -/
theorem mdLike_ok (p : Padder) (st : PadState) (pi : List Nat)
    (r : Nat) (hrB : r ≤ p.blocksize)
    (c : Nat) (flag : Option Nat) (be : Bool) (hB8 : p.blocksize % 8 = 0)
    (hfit : 1 + (flagBits flag).length + 8 * c ≤ p.blocksize) :
    Padder.mdLike p st pi (some (st.bitcnt + r)) (4 * c) (1 + (flagBits flag).length) flag be =
      .ok (bitsToBytes (pieceBits pi r ++ true :: zeros (gap p.blocksize (1 + (flagBits flag).length + 8 * c) r)
              ++ flagBits flag ++ (if be then lenBE (8 * c) (st.bitcnt + r) else lenLE (8 * c) (st.bitcnt + r))),
           { st with padflag := true, bitcnt := st.bitcnt + r }) := by
  have hcs : 4 * c * 2 = 8 * c := by omega
  have hgt : ¬ st.bitcnt > st.bitcnt + r := by omega
  have ht := gap_total p.blocksize (1 + (flagBits flag).length + 8 * c) r hfit hrB
  have hN : (if (p.blocksize : Int) - ((1 + (flagBits flag).length : Nat) : Int) - ((8 * c : Nat) : Int) - (r : Nat) < 0
      then (p.blocksize : Int) - ((1 + (flagBits flag).length : Nat) : Int) - ((8 * c : Nat) : Int) - (r : Nat) + p.blocksize
      else (p.blocksize : Int) - ((1 + (flagBits flag).length : Nat) : Int) - ((8 * c : Nat) : Int) - (r : Nat))
      = (gap p.blocksize (1 + (flagBits flag).length + 8 * c) r : Nat) := by
    simp only [gap]
    split <;> split <;> omega
  generalize gap p.blocksize (1 + (flagBits flag).length + 8 * c) r = N at ht hN
  have h0 : bools (((Padder.bitsOfBytes pi r).concat (Bits.ofNatSz 1 1)).concat (Bits.ofNatSz 0 N))
      = pieceBits pi r ++ true :: zeros N := by
    rw [bools_concat _ _ (Bits.concat_wf _ _), bools_concat _ _ (bitsOfBytes_WF _ _), ← pieceBits,
      bools_ofNatSz_zero, bools_ofNatSz_one 0, List.append_assoc]
    rfl
  have hal : (pieceBits pi r ++ true :: zeros N ++ flagBits flag).length % 8 = 0 := by
    simp only [List.length_append, pieceBits_length, List.length_cons, zeros, List.length_replicate]
    split at ht <;> omega
  cases flag with
  | none =>
    simp only [Padder.mdLike, hcs, hgt, Nat.add_sub_cancel_left, if_false, hN, Int.toNat_natCast, Int.natCast_nonneg,
      Int.not_lt.mpr]
    rw [toBytes_append_pack _ _ (by rw [h0, flagBits, List.append_nil]) hal]
  | some v =>
    simp only [Padder.mdLike, hcs, hgt, Nat.add_sub_cancel_left, if_false, hN, Int.toNat_natCast, Int.natCast_nonneg,
      Int.not_lt.mpr]
    rw [toBytes_append_pack _ _ (by rw [bools_concat _ _ (Bits.concat_wf _ _), h0, bools_ofNatSz_bit, flagBits]) hal]

theorem lastblock_ok (p : Padder) (hv : Valid p) (st : PadState) (pi : List Nat)
    (hpi : ¬ BitGranular p.scheme → Bytes pi)
    (hlen : pi.length ≤ p.blocklen) (kw : Option Nat) (r : Nat) (hr : r ≤ 8 * pi.length) (hkw : KwOK st pi kw r)
    (hbg : kw ≠ none → BitGranular p.scheme) :
    p.lastblock st pi kw = .ok (bitsToBytes (pieceBits pi r ++ modelTail p st.bitcnt r),
      { padflag := true, bitcnt := st.bitcnt + r, padcnt := tailPadcnt p st.padcnt r }) := by
  have hB := hv.size_eq
  have hrB : r ≤ p.blocksize := by omega
  have hw := hv.scheme_ok
  by_cases hb : ¬ BitGranular p.scheme
  · rcases hkw with ⟨_, rfl⟩ | h2
    · rw [pieceBits_bytes pi (hpi hb) _ (Nat.le_refl _)]
      exact lastblock_bytes p hv hb st pi (hpi hb) kw
    · exact absurd (hbg (by simp [h2])) hb
  rw [Classical.not_not] at hb
  have hsome : p.lastblock st pi kw = p.lastblock st pi (some (st.bitcnt + r)) := by
    rcases hkw with ⟨rfl, rfl⟩ | rfl
    · exact lastblock_kw_none p hb st pi
    · rfl
  rw [hsome]
  cases hs : p.scheme with
  | no | pkcs7 | x923 => simp [hs, BitGranular] at hb
  | null => exact lastblock_null_bit p hv (Or.inl hs) st pi hlen r hr
  | bit => exact lastblock_null_bit p hv (Or.inr hs) st pi hlen r hr
  | md w | sha w =>
    rw [hs] at hw
    obtain ⟨c, rfl⟩ : ∃ c, w = 4 * c := ⟨w / 4, by omega⟩
    have h := fun be => mdLike_ok p st pi r hrB c none be hv.mul8 (by simp only [flagBits, List.length_nil]; omega)
    simp only [flagBits, List.length_nil, Nat.add_zero, List.append_nil] at h
    simp only [Padder.lastblock, hs, h, modelTail, tailPadcnt, preBits, sufBits, minPad, show 2 * (4 * c) = 8 * c by omega,
      List.append_assoc, List.singleton_append, Bool.false_eq_true, if_false, if_true]
  | blake hh =>
    rw [hs] at hw
    simp only at hw
    -- `blakeW` is 64 or 32 bits: the `4 * c` of `mdLike_ok` with c = 16 or 8
    have hW : Padder.blakeW hh = 4 * (if hh > 256 then 16 else 8) := by
      unfold Padder.blakeW
      split <;> rfl
    have h := mdLike_ok p st pi r hrB (if hh > 256 then 16 else 8) (some (if hh = 256 ∨ hh = 512 then 1 else 0))
      true hv.mul8 (by
        simp only [flagBits, List.length_singleton]
        by_cases hbig : hh > 256 <;> simp only [hbig, if_true, if_false] at hw ⊢ <;> omega)
    have hf : (if hh = 256 ∨ hh = 512 then 1 else 0 : Nat).testBit 0 = decide (hh = 256 ∨ hh = 512) := by
      by_cases h5 : hh = 256 ∨ hh = 512 <;> simp [h5]
    simp only [flagBits, List.length_singleton, if_true, hf] at h
    simp only [Padder.lastblock, hs, hW, h, modelTail, tailPadcnt, preBits, sufBits, minPad,
      show ∀ c, 2 * (4 * c) = 8 * c by omega, List.append_assoc, List.cons_append, List.nil_append]

end Proofs.Lemmas.Padding
