/-
  Spec-level facts about Serpent's bitslice state: the four words of a 128-bit block, their embeddings into
  `Model.Bits` (`B` a state, `W` a word) with the word operations of the model, and the S-box layer with its inverse.
-/
import Proofs.Lemmas.SerpentBits
import Proofs.Lemmas.Pair
namespace Proofs.Lemmas.SerpentSpec
open Model Model.Bits Proofs.Lemmas.SerpentBits Spec.Serpent

def WS (s : State) : Prop := s.x0 < 2 ^ 32 ∧ s.x1 < 2 ^ 32 ∧ s.x2 < 2 ^ 32 ∧ s.x3 < 2 ^ 32
/-- a state as the 128-bit `Bits` the model's round functions pass around (`x0` lowest) -/
def B (s : State) : Bits := ⟨natOfState s, 128⟩
def W (w : Nat) : Bits := ⟨w, 32⟩

theorem rotl_lt (a n : Nat) : rotl a n < 2 ^ 32 := Nat.mod_lt _ (Nat.two_pow_pos _)
theorem rotr_lt (a n : Nat) : rotr a n < 2 ^ 32 := Nat.mod_lt _ (Nat.two_pow_pos _)
theorem shl_lt (a n : Nat) : Spec.Serpent.shl a n < 2 ^ 32 := Nat.mod_lt _ (Nat.two_pow_pos _)

theorem stateOfNat_ws (x : Nat) : WS (stateOfNat x) :=
  ⟨Nat.mod_lt _ (Nat.two_pow_pos _), Nat.mod_lt _ (Nat.two_pow_pos _), Nat.mod_lt _ (Nat.two_pow_pos _), Nat.mod_lt _ (Nat.two_pow_pos _)⟩

theorem natOfState_add (s : State) (hs : WS s) :
    natOfState s = s.x0 + s.x1 * 2 ^ 32 + s.x2 * 2 ^ 64 + s.x3 * 2 ^ 96 := by
  obtain ⟨h0, h1, h2, h3⟩ := hs
  unfold natOfState
  have a1 : s.x0 ||| s.x1 <<< 32 = s.x1 <<< 32 + s.x0 := by
    rw [Nat.or_comm, Nat.shiftLeft_add_eq_or_of_lt h0]
  have b1 : s.x1 <<< 32 + s.x0 < 2 ^ 64 := by rw [Nat.shiftLeft_eq]; omega
  have a2 : (s.x1 <<< 32 + s.x0) ||| s.x2 <<< 64 = s.x2 <<< 64 + (s.x1 <<< 32 + s.x0) := by
    rw [Nat.or_comm, Nat.shiftLeft_add_eq_or_of_lt b1]
  have b2 : s.x2 <<< 64 + (s.x1 <<< 32 + s.x0) < 2 ^ 96 := by rw [Nat.shiftLeft_eq, Nat.shiftLeft_eq]; omega
  have a3 : (s.x2 <<< 64 + (s.x1 <<< 32 + s.x0)) ||| s.x3 <<< 96 = s.x3 <<< 96 + (s.x2 <<< 64 + (s.x1 <<< 32 + s.x0)) := by
    rw [Nat.or_comm, Nat.shiftLeft_add_eq_or_of_lt b2]
  rw [a1, a2, a3, Nat.shiftLeft_eq, Nat.shiftLeft_eq, Nat.shiftLeft_eq]
  omega

theorem natOfState_lt (s : State) (hs : WS s) : natOfState s < 2 ^ 128 := by
  rw [natOfState_add s hs]
  obtain ⟨h0, h1, h2, h3⟩ := hs
  omega

theorem stateOfNat_natOfState (s : State) (hs : WS s) : stateOfNat (natOfState s) = s := by
  rw [natOfState_add s hs]
  obtain ⟨h0, h1, h2, h3⟩ := hs
  cases s with | mk a b c d =>
  simp only at h0 h1 h2 h3
  simp only [stateOfNat, Nat.shiftRight_eq_div_pow, State.mk.injEq]
  refine ⟨?_, ?_, ?_, ?_⟩ <;> omega

theorem natOfState_stateOfNat (x : Nat) (hx : x < 2 ^ 128) : natOfState (stateOfNat x) = x := by
  rw [natOfState_add _ (stateOfNat_ws x)]
  simp only [stateOfNat, Nat.shiftRight_eq_div_pow]
  omega

theorem stateOfNat_xor (a b : Nat) : stateOfNat (a ^^^ b) = (stateOfNat a).xor (stateOfNat b) := by
  simp only [stateOfNat, State.xor, Nat.shiftRight_xor_distrib, Nat.xor_mod_two_pow]

theorem xor_ws (s t : State) (hs : WS s) (ht : WS t) : WS (s.xor t) :=
  ⟨Nat.xor_lt_two_pow hs.1 ht.1, Nat.xor_lt_two_pow hs.2.1 ht.2.1, Nat.xor_lt_two_pow hs.2.2.1 ht.2.2.1,
   Nat.xor_lt_two_pow hs.2.2.2 ht.2.2.2⟩

theorem natOfState_xor (s t : State) (hs : WS s) (ht : WS t) :
    natOfState (s.xor t) = natOfState s ^^^ natOfState t := by
  have h := stateOfNat_xor (natOfState s) (natOfState t)
  rw [stateOfNat_natOfState s hs, stateOfNat_natOfState t ht] at h
  rw [← h, natOfState_stateOfNat]
  exact Nat.xor_lt_two_pow (natOfState_lt s hs) (natOfState_lt t ht)

/-- word `m` of a state (`x3` from 3 on), so that a statement can range over the four words -/
def word (s : State) (m : Nat) : Nat :=
  match m with
  | 0 => s.x0
  | 1 => s.x1
  | 2 => s.x2
  | _ => s.x3

theorem testBit_natOfState_word (s : State) (hs : WS s) (m k : Nat) (hm : m < 4) (hk : k < 32) :
    (natOfState s).testBit (32 * m + k) = (word s m).testBit k := by
  have h : word s m = (natOfState s >>> (32 * m)) % 2 ^ 32 := by
    conv => lhs; rw [← stateOfNat_natOfState s hs]
    rcases (show m = 0 ∨ m = 1 ∨ m = 2 ∨ m = 3 by omega) with h | h | h | h <;> subst h <;> rfl
  rw [h, Nat.testBit_mod_two_pow, Nat.testBit_shiftRight]
  simp [hk]

theorem B_size (s : State) : (B s).size = 128 := rfl

theorem B_wf (s : State) (hs : WS s) : (B s).WF := natOfState_lt s hs

theorem B_stateOfNat (X : Bits) (hX : X.size = 128) (hwf : X.WF) : B (stateOfNat X.ival) = X := by
  cases X with | mk v sz =>
  simp only at hX
  subst hX
  unfold B
  congr 1
  exact natOfState_stateOfNat v hwf

theorem xor_B (s t : State) (hs : WS s) (ht : WS t) : (B s).xor (B t) = B (s.xor t) := by
  rw [Bits.xor_same (B s) (B t) rfl]
  unfold B
  rw [natOfState_xor s t hs ht]

theorem W_xor (a b : Nat) : (W a).xor (W b) = W (a ^^^ b) := by
  simp [W, Bits.xor, wsize]

theorem W_shl (a n : Nat) : (W a).shl n = W (Spec.Serpent.shl a n) := by
  simp only [W, Bits.shl, Spec.Serpent.shl, mask]
  rw [Nat.and_two_pow_sub_one_eq_mod]

theorem W_rol! (a n : Nat) : (W a).rol! n = W (rotl a n) := by
  simp only [rol!, W, Bits.or, Bits.shl, Bits.shr, mask, wsize, rotl, Nat.and_two_pow_sub_one_eq_mod,
    Nat.or_mod_two_pow]
  rfl

theorem W_ror! (a n : Nat) : (W a).ror! n = W (rotr a n) := by
  simp only [ror!, W, Bits.or, Bits.shl, Bits.shr, mask, wsize, rotr, Nat.and_two_pow_sub_one_eq_mod,
    Nat.or_mod_two_pow]
  rfl

theorem rol_bind {β : Type} (a n : Nat) (hn : n ≤ 32) (f : Bits → Except Err β) :
    ((W a).rol n >>= f) = f (W (rotl a n)) := by
  rw [Fold.bind_eq_of_ok (Bits.rol_ok hn), W_rol!]

theorem ror_bind {β : Type} (a n : Nat) (hn : n ≤ 32) (f : Bits → Except Err β) :
    ((W a).ror n >>= f) = f (W (rotr a n)) := by
  rw [Fold.bind_eq_of_ok (Bits.ror_ok hn), W_ror!]

theorem sbox_perm : ∀ i < 8, ∀ x < 16,
    (sbox i x < 16 ∧ sboxInv i (sbox i x) = x) ∧ (sboxInv i x < 16 ∧ sbox i (sboxInv i x) = x) := by decide +kernel

theorem column_lt (s : State) (k : Nat) : column s k < 16 := by
  unfold column
  cases s.x0.testBit k <;> cases s.x1.testBit k <;> cases s.x2.testBit k <;> cases s.x3.testBit k <;> decide

theorem testBit_column (s : State) (k : Nat) :
    (column s k).testBit 0 = s.x0.testBit k ∧ (column s k).testBit 1 = s.x1.testBit k ∧
    (column s k).testBit 2 = s.x2.testBit k ∧ (column s k).testBit 3 = s.x3.testBit k := by
  unfold column
  cases s.x0.testBit k <;> cases s.x1.testBit k <;> cases s.x2.testBit k <;> cases s.x3.testBit k <;> decide

theorem applyBox_ws (f : Nat → Nat) (s : State) : WS (applyBox f s) :=
  ⟨ofBitFn_lt _ _, ofBitFn_lt _ _, ofBitFn_lt _ _, ofBitFn_lt _ _⟩

theorem applyBox_congr (f g : Nat → Nat) (s : State) (h : ∀ x < 16, f x = g x) : applyBox f s = applyBox g s := by
  unfold applyBox
  simp only [h _ (column_lt s _)]

theorem testBit_word_applyBox (f : Nat → Nat) (s : State) (m k : Nat) (hm : m < 4) :
    (word (applyBox f s) m).testBit k = (decide (k < 32) && (f (column s k)).testBit m) := by
  rcases (show m = 0 ∨ m = 1 ∨ m = 2 ∨ m = 3 by omega) with h | h | h | h <;> subst h <;>
    simp only [word, applyBox, testBit_ofBitFn]

theorem column_applyBox (f : Nat → Nat) (s : State) (k : Nat) (hk : k < 32) (hf : ∀ x < 16, f x < 16) :
    column (applyBox f s) k = f (column s k) := by
  have h := hf _ (column_lt s k)
  conv => rhs; rw [Bits.nibble_eq _ h]
  simp only [column, applyBox, testBit_ofBitFn, hk, decide_true, Bool.true_and]

theorem applyBox_comp (f g : Nat → Nat) (s : State) (hf : ∀ x < 16, f x < 16) :
    applyBox g (applyBox f s) = applyBox (fun x => g (f x)) s := by
  unfold applyBox
  simp only [State.mk.injEq]
  refine ⟨?_, ?_, ?_, ?_⟩ <;>
  · apply ofBitFn_congr
    intro k hk
    have := column_applyBox f s k hk hf
    unfold applyBox at this
    rw [this]

theorem applyBox_id (s : State) (hs : WS s) : applyBox (fun x => x) s = s := by
  unfold applyBox
  simp only [(testBit_column s _).1, (testBit_column s _).2.1, (testBit_column s _).2.2.1, (testBit_column s _).2.2.2,
    ofBitFn_testBit 32 _ hs.1, ofBitFn_testBit 32 _ hs.2.1, ofBitFn_testBit 32 _ hs.2.2.1, ofBitFn_testBit 32 _ hs.2.2.2]

theorem state_xor_cancel (a k : State) : (a.xor k).xor k = a := by
  simp only [State.xor, Bits.xor_cancel_right]

/-- The round components come in such pairs; rounds and the cipher are compositions and folds of them (`Pair.comp`,
    `Pair.foldl`), so both directions of every inverse theorem and every "stays well-sized" fact are read off one composite. -/
abbrev Inv (f g : State → State) : Prop := Pair WS f g f g

theorem inv_xor (k : State) (hk : WS k) : Inv (·.xor k) (·.xor k) :=
  .involution (xor_ws _ k · hk) (fun _ => state_xor_cancel _ k) fun _ => rfl

theorem applyBox_cancel (f g : Nat → Nat) (h : ∀ x < 16, f x < 16 ∧ g (f x) = x) (s : State) (hs : WS s) :
    applyBox g (applyBox f s) = s := by
  rw [applyBox_comp _ _ _ (fun x hx => (h x hx).1), applyBox_congr _ (fun x => x) s (fun x hx => (h x hx).2),
    applyBox_id s hs]

theorem inv_box (i : Nat) (hi : i < 8) : Inv (applyBox (sbox i)) (applyBox (sboxInv i)) :=
  .self (fun _ => ⟨applyBox_ws _ _, applyBox_ws _ _⟩)
   fun hs => ⟨applyBox_cancel _ _ (fun x hx => (sbox_perm i hi x hx).1) _ hs,
     applyBox_cancel _ _ (fun x hx => (sbox_perm i hi x hx).2) _ hs⟩

theorem rotr_rotl (a n : Nat) (hn : n ≤ 32) (ha : a < 2 ^ 32) : rotr (rotl a n) n = a := by
  have h := Bits.ror!_rol! (W a) ha n hn
  rw [W_rol!, W_ror!] at h
  exact congrArg Bits.ival h

theorem rotl_rotr (a n : Nat) (hn : n ≤ 32) (ha : a < 2 ^ 32) : rotl (rotr a n) n = a := by
  have h := Bits.rol!_ror! (W a) ha n hn
  rw [W_ror!, W_rol!] at h
  exact congrArg Bits.ival h

end Proofs.Lemmas.SerpentSpec
