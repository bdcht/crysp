/-
  The loops of `nextperm` on lists given by their parts: the swap of two positions, the
  in-place reversal of a segment, the pivot scan and the successor scan; every list is either descending (result: the
  reversed list) or in the pivot form of NextpermOrderL.  Core Lean only.
-/
import Model.Perms
namespace Proofs.Lemmas.NextpermL
open Model Model.Perms

theorem swap_eq (pre mid post : List Int) (a b : Int) :
    swap (pre ++ a :: (mid ++ b :: post)) pre.length (pre.length + (mid.length + 1)) = pre ++ b :: (mid ++ a :: post) := by
  have ha : (pre ++ a :: (mid ++ b :: post))[pre.length]? = some a := by simp
  have hb : (pre ++ a :: (mid ++ b :: post))[pre.length + (mid.length + 1)]? = some b := by simp
  unfold swap
  rw [ha, hb]
  simp

theorem swap_comm (l : List Int) (i j : Nat) : swap l i j = swap l j i := by
  unfold swap
  by_cases h : i = j
  · rw [h]
  · cases l[i]? with
    | none => cases l[j]? <;> rfl
    | some a =>
      cases l[j]? with
      | none => rfl
      | some b => exact List.set_comm _ _ h

theorem revLoop_eq : ∀ (fuel : Nat) (pre mid post : List Int) (lo hi : Nat), lo = pre.length → hi + 1 = lo + mid.length →
    mid.length ≤ 2 * fuel → revLoop fuel (pre ++ (mid ++ post)) lo hi = pre ++ (mid.reverse ++ post) := by
  intro fuel
  induction fuel with
  | zero =>
    intro pre mid post lo hi _ _ h
    rw [List.length_eq_zero_iff.1 (Nat.le_zero.1 h)]
    rfl
  | succ fuel ih =>
    intro pre mid post lo hi hlo hhi h
    unfold revLoop
    cases mid with
    | nil =>
      rw [List.length_nil] at hhi
      rw [if_neg (by omega)]
      rfl
    | cons a mid =>
      rcases List.eq_nil_or_concat mid with rfl | ⟨mid, b, rfl⟩
      · rw [List.length_singleton] at hhi
        rw [if_neg (by omega)]
        rfl
      · simp only [List.length_cons, List.concat_eq_append, List.length_append, List.length_nil] at hhi h
        have e : hi = pre.length + (mid.length + 1) := by omega
        rw [if_pos (by omega), hlo, e]
        simp only [List.concat_eq_append, List.cons_append, List.append_assoc, List.nil_append]
        rw [swap_eq, List.append_cons pre b, ih (pre ++ [b]) mid (a :: post) _ _ (by simp) (by simp; omega) (by omega)]
        simp

/-- the pivot scan, downwards from position j: either the whole list is descending, or it stops at the last ascent -/
theorem findK_spec (l : List Int) : ∀ j, j < l.length → (l.drop j).Pairwise (· ≥ ·) →
    (findK l j = none ∧ l.Pairwise (· ≥ ·)) ∨
    ∃ pre a b suf, l = pre ++ a :: b :: suf ∧ findK l j = some pre.length ∧ a < b ∧ (b :: suf).Pairwise (· ≥ ·) := by
  intro j
  induction j with
  | zero =>
    intro _ h
    exact Or.inl ⟨rfl, h⟩
  | succ k ih =>
    intro hj hd
    have hk : k < l.length := by omega
    unfold findK
    rw [List.getElem?_eq_getElem hk, List.getElem?_eq_getElem hj]
    rw [List.drop_eq_getElem_cons hj] at hd
    by_cases hge : l[k] ≥ l[k + 1]
    · simp only [hge, if_true]
      apply ih hk
      rw [List.drop_eq_getElem_cons hk, List.drop_eq_getElem_cons hj, List.pairwise_cons]
      refine ⟨fun x hx => ?_, hd⟩
      rcases List.mem_cons.1 hx with rfl | hx
      · exact hge
      · exact Int.le_trans ((List.pairwise_cons.1 hd).1 x hx) hge
    · simp only [hge, if_false]
      refine Or.inr ⟨l.take k, l[k], l[k + 1], l.drop (k + 1 + 1), ?_, ?_, by omega, hd⟩
      · rw [← List.drop_eq_getElem_cons hj, ← List.drop_eq_getElem_cons hk, List.take_append_drop]
      · rw [List.length_take, Nat.min_eq_left (by omega)]

/-- the successor scan, upwards through a segment `s` that holds an element above the pivot: it stops at the first one -/
theorem findI_spec (pivot : Int) : ∀ (s pre : List Int) (fuel : Nat), (∃ y ∈ s, pivot < y) → s.length ≤ fuel →
    ∃ lo c hi, s = lo ++ c :: hi ∧ (∀ x ∈ lo, x ≤ pivot) ∧ pivot < c ∧
      findI (pre ++ s) pivot fuel pre.length = some (pre.length + lo.length) := by
  intro s
  induction s with
  | nil =>
    rintro _ _ ⟨y, hy, _⟩
    cases hy
  | cons x s ih =>
    rintro pre fuel ⟨y, hy, hpy⟩ hf
    obtain ⟨fuel, rfl⟩ : ∃ f, fuel = f + 1 := ⟨fuel - 1, by simp at hf; omega⟩
    unfold findI
    have hx : (pre ++ x :: s)[pre.length]? = some x := by simp
    rw [hx]
    by_cases hle : x ≤ pivot
    · have hys : y ∈ s := by
        rcases List.mem_cons.1 hy with rfl | h
        · omega
        · exact h
      obtain ⟨lo, c, hi, rfl, hlo, hc, hfind⟩ := ih (pre ++ [x]) fuel ⟨y, hys, hpy⟩ (by simp at hf; omega)
      refine ⟨x :: lo, c, hi, rfl, ?_, hc, ?_⟩
      · intro z hz
        rcases List.mem_cons.1 hz with rfl | hz
        · exact hle
        · exact hlo z hz
      · simp only [hle, if_true]
        rw [List.append_cons pre x]
        simpa [Nat.add_assoc, Nat.add_comm 1] using hfind
    · simp only [hle, if_false]
      exact ⟨[], x, s, rfl, by simp, by omega, rfl⟩

/-- Either l is descending and comes back reversed, or l = pre ++ a :: suf with suf
    descending and a below some element of it (the pivot found by `findK`); then the successor scan finds, from the
    right, the first c > a (`lo` are the elements passed over, all ≤ a), swaps the two and reverses the suffix -/
theorem nextperm_cases (l : List Int) :
    (l.Pairwise (· ≥ ·) ∧ nextperm l = .ok l.reverse) ∨
    ∃ pre a suf lo c hi, l = pre ++ a :: suf ∧ suf.Pairwise (· ≥ ·) ∧ suf.reverse = lo ++ c :: hi ∧ (∀ x ∈ lo, x ≤ a)
      ∧ a < c ∧ nextperm l = .ok (pre ++ c :: (lo ++ a :: hi)) := by
  cases hl : l with
  | nil => exact Or.inl ⟨List.Pairwise.nil, rfl⟩
  | cons x t =>
    rw [← hl]
    have hn : 0 < l.length := by simp [hl]
    have hlast : (l.drop (l.length - 1)).Pairwise (· ≥ ·) := by
      rw [List.drop_eq_getElem_cons (by omega), List.drop_eq_nil_of_le (by omega)]
      exact List.pairwise_singleton _ _
    unfold nextperm
    rcases findK_spec l (l.length - 1) (by omega) hlast with ⟨hk, hd⟩ | ⟨pre, a, b, suf, rfl, hk, hab, hd⟩
    · refine Or.inl ⟨hd, ?_⟩
      simp only [hk]
      have := revLoop_eq l.length [] l [] 0 (l.length - 1) rfl (by omega) (by omega)
      simp only [List.nil_append, List.append_nil] at this
      rw [this]
    · obtain ⟨lo, c, hi, hsplit, hlo, hc, hfind⟩ := findI_spec a (b :: suf).reverse (pre ++ [a])
        (pre ++ a :: b :: suf).length ⟨b, by simp, hab⟩ (by simp; omega)
      refine Or.inr ⟨pre, a, b :: suf, lo, c, hi, rfl, hd, hsplit, hlo, hc, ?_⟩
      have hrev := revLoop_eq (pre ++ a :: b :: suf).length (pre ++ [a]) (b :: suf) [] (pre.length + 1)
        ((pre ++ a :: b :: suf).length - 1) (by simp) (by simp; omega) (by simp; omega)
      rw [List.append_nil, List.append_nil, hsplit, ← List.append_cons, ← List.append_cons] at hrev
      have e : (pre ++ [a]).length = pre.length + 1 := by simp
      rw [hsplit, e, ← List.append_cons] at hfind
      have hget : (pre ++ a :: (lo ++ c :: hi))[pre.length]? = some a := by simp
      simp only [hk, hrev, hget, hfind]
      rw [swap_comm, Nat.add_assoc, Nat.add_comm 1, swap_eq]

end Proofs.Lemmas.NextpermL
