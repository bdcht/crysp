/-
  For C18: sixteen rounds, the input map M1 and the output map M3; the generated network in closed form;
  the network of a key encrypts like the `DES` object with those key bits.
-/
import Proofs.Lemmas.WbRound
namespace Proofs.Lemmas.Wb
open Model Model.Wb Model.Bits

def netOf (b : Bits) : WhiteDES := ⟨ktTab b, Gen.Wb.m1, Gen.Wb.m2mat, Gen.Wb.m3⟩

/-- `Bits(K,64)` of any byte string -/
def keyBits (K : List Nat) : Bits := (ofByteStr K).setSize 64

theorem ofBytes64_eq (K : List Nat) : Bits.ofBytes K (some 64) = .ok (keyBits K) := by
  simp [Bits.ofBytes, load_bitstream, keyBits, bind, Except.bind, pure, Except.pure]

theorem mkWhiteDES_eq (K : List Nat) : mkWhiteDES K = .ok (netOf (keyBits K)) := by
  rw [mkWhiteDES, ofBytes64_eq, tableM1_gen, tableM2_gen, tableM3_gen]
  simp only [bind, Except.bind, KT_eq]
  rfl

theorem encLoop_eq (K : Bits) (w : WhiteDES) (hw : w.tM2 = Gen.Wb.m2mat) (hkt : w.KT = ktTab K) :
    ∀ (rs : List Nat) (L R : Bits), (∀ r ∈ rs, r < 16) → Des.Half L → Des.Half R →
      encLoop w rs (enc L R) = .ok (enc (Des.roundsP (Des.PC1 K) rs (L, R)).1 (Des.roundsP (Des.PC1 K) rs (L, R)).2) := by
  intro rs
  induction rs with
  | nil =>
    intro L R _ _ _
    rfl
  | cons r rs ih =>
    intro L R hrs hL hR
    have hr : r < 16 := hrs r List.mem_cons_self
    rw [encLoop, hkt, ktTab, pyIdx_map_range _ hr, Fold.ok_bind, ← bind_assoc, round_ok K r L R hL hR w hw, Fold.ok_bind]
    exact ih R _ (fun x hx => hrs x (List.mem_cons_of_mem _ hx)) hR (Des.half_xor _ _ hL (Des.half_FP _ _ _))

theorem init_ok (Mb : Bits) :
    Mb.pick Gen.Wb.m1 = enc ((Mb.pick Gen.Des.ip).sliceFast 0 32) ((Mb.pick Gen.Des.ip).sliceFast 32 64) := by
  rw [enc, Des.concat_slices (Mb.pick Gen.Des.ip) (WF_pick _ _) Des.len_ip,
    pick_pick _ _ _ (by rw [Des.len_ip]; exact encIdx_mem_lt), ← m1_eq]

theorem pick_swapIdx (L R : Bits) (hL : Des.Half L) (hR : Des.Half R) : (L.concat R).pick swapIdx = R.concat L := by
  apply eq_of_bools (WF_pick _ _) (Bits.concat_wf R L)
  rw [bools_pick, bools_concat R L hR.2, swapIdx, List.map_append, List.map_map, bools, bools, hR.1, hL.1]
  congr 1
  · apply List.map_congr_left
    intro x hx
    have := List.mem_range.mp hx
    rw [Function.comp, testBit_LR L R hL hR.2, if_neg (by omega), Nat.add_sub_cancel]
  · apply List.map_congr_left
    intro x hx
    rw [testBit_LR L R hL hR.2, if_pos (List.mem_range.mp hx)]

theorem final_ok (L R : Bits) (hL : Des.Half L) (hR : Des.Half R) :
    (enc L R).pick Gen.Wb.m3 = (R.concat L).pick Gen.Des.ipinv := by
  rw [enc, pick_pick _ _ _ (by rw [encIdx_length]; exact m3_lt), m3_eq, ← pick_swapIdx L R hL hR,
    pick_pick _ _ _ (by simpa [swapIdx] using ipinv_lt)]

theorem netOf_enc (b : Bits) (M : List Nat) : (netOf b).enc M = (Des.DES.mk b).enc M := by
  by_cases h8 : M.length = 8
  · obtain ⟨hL0, hR0⟩ := Des.half_slices ((ofByteStr M).pick Gen.Des.ip)
    obtain ⟨hL', hR'⟩ := Des.half_roundsP (Des.PC1 b) Des.encOrder _ _ hL0 hR0
    have e := encLoop_eq b (netOf b) rfl rfl Des.encOrder _ _ (fun r hr => List.mem_range.mp hr) hL0 hR0
    rw [netOf] at e
    simp only [Des.DES.enc, Des.crypt_eq _ _ M h8, WhiteDES.enc, netOf, h8, ne_eq, not_true_eq_false, if_false,
      ofBytes_bitstream, bind, Except.bind, pure, Except.pure, init_ok]
    rw [show List.range 16 = Des.encOrder from rfl, e]
    simp only [final_ok _ _ hL' hR', Des.cryptP]
  · rw [Des.DES.enc, Des.crypt_badlen _ _ M h8]
    simp [WhiteDES.enc, h8, bind, Except.bind, throw, throwThe, MonadExceptOf.throw]

end Proofs.Lemmas.Wb
