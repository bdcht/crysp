/-
  The exposed operations of Model.Aes (with the code's failure behaviour) on well-sized inputs are their pure cores;
  on other sizes `enc`/`dec`/`keyscheduleE` fail.
-/
import Proofs.Lemmas.AesEnc
namespace Proofs.Aes
open Model Model.Aes Model.Gen.Aes

theorem init_ok {K : List Nat} (h : K.length = 16 ∨ K.length = 24 ∨ K.length = 32) :
    init K = .ok (K.length / 4, K.length / 4 + 6) := by
  rcases h with e | e | e <;> simp [init, e, nrOf]

theorem init_err {K : List Nat} (h : ¬ (K.length = 16 ∨ K.length = 24 ∨ K.length = 32)) :
    init K = .error "AssertionError" := by
  unfold init
  simp only []
  rw [if_neg]
  intro h'
  apply h
  omega

theorem enc_ok {K M : List Nat} (hK : K.length = 16 ∨ K.length = 24 ∨ K.length = 32) (hM : M.length = 16) :
    enc K M = .ok (encCore K M) := by
  unfold enc
  rw [init_ok hK]
  simp [hM, encCore, bind, Except.bind, pure, Except.pure]

theorem dec_ok {K C : List Nat} (hK : K.length = 16 ∨ K.length = 24 ∨ K.length = 32) (hC : C.length = 16) :
    dec K C = .ok (decCore K C) := by
  unfold dec
  rw [init_ok hK]
  simp [hC, decCore, bind, Except.bind, pure, Except.pure]

theorem keyscheduleE_ok {K : List Nat} (hK : K.length = 16 ∨ K.length = 24 ∨ K.length = 32) :
    keyscheduleE K = .ok (keySchedule K) := by
  unfold keyscheduleE
  rw [init_ok hK]
  rfl

theorem enc_err_key {K M : List Nat} (h : ¬ (K.length = 16 ∨ K.length = 24 ∨ K.length = 32)) :
    enc K M = .error "AssertionError" := by
  unfold enc
  rw [init_err h]
  rfl
theorem dec_err_key {K M : List Nat} (h : ¬ (K.length = 16 ∨ K.length = 24 ∨ K.length = 32)) :
    dec K M = .error "AssertionError" := by
  unfold dec
  rw [init_err h]
  rfl
theorem keyscheduleE_err {K : List Nat} (h : ¬ (K.length = 16 ∨ K.length = 24 ∨ K.length = 32)) :
    keyscheduleE K = .error "AssertionError" := by
  unfold keyscheduleE
  rw [init_err h]
  rfl

theorem enc_err_block {K M : List Nat} (h : M.length ≠ 16) : ∃ e, enc K M = .error e := by
  unfold enc
  cases hi : init K with
  | error e => exact ⟨e, rfl⟩
  | ok p => exact ⟨"AssertionError", by simp [h, bind, Except.bind]⟩
theorem dec_err_block {K M : List Nat} (h : M.length ≠ 16) : ∃ e, dec K M = .error e := by
  unfold dec
  cases hi : init K with
  | error e => exact ⟨e, rfl⟩
  | ok p => exact ⟨"AssertionError", by simp [h, bind, Except.bind]⟩

theorem gatherE_ok {tbl idx : List Nat} (h : ∀ j ∈ idx, j < tbl.length) :
    gatherE tbl idx = .ok (idx.map fun j => tbl.getD j 0) :=
  Lemmas.Fold.mapM_ok _ _ idx fun j hj => by
    rw [List.getElem?_eq_getElem (h j hj), List.getD_eq_getElem?_getD, List.getElem?_eq_getElem (h j hj)]
    rfl

theorem SboxE_ok {s : List Nat} (h : IsBytes s) : SboxE s = .ok (subBytes s) := by
  unfold SboxE
  rw [gatherE_ok (by rw [sboxtable_length]; exact h)]
  rfl
theorem SboxInvE_ok {s : List Nat} (h : IsBytes s) : SboxInvE s = .ok (invSubBytes s) := by
  unfold SboxInvE
  rw [gatherE_ok (by rw [sboxinvtable_length]; exact h)]
  rfl

theorem assignAll_same {s v : List Nat} (h : v.length = s.length) : assignAll s v = v := by
  unfold assignAll
  rw [h, Nat.sub_self]
  simp [← h]

theorem ShiftRowsE_ok {s : List Nat} (h : s.length = 16) : ShiftRowsE s = .ok (shiftRows s) := by
  unfold ShiftRowsE
  rw [gatherE_ok (by rw [shiftRowsIdx_eq, h]; decide)]
  show Except.ok (assignAll s (shiftRows s)) = _
  rw [assignAll_same (by rw [shiftRows_length, h])]
theorem InvShiftRowsE_ok {s : List Nat} (h : s.length = 16) : InvShiftRowsE s = .ok (invShiftRows s) := by
  unfold InvShiftRowsE
  rw [gatherE_ok (by rw [invShiftRowsIdx_eq, h]; decide)]
  show Except.ok (assignAll s (invShiftRows s)) = _
  rw [assignAll_same (by rw [invShiftRows_length, h])]

theorem MixColumnsE_ok {s : List Nat} (h : s.length = 16) : MixColumnsE s = .ok (mixColumns s) := by
  unfold MixColumnsE
  rw [if_neg (by omega), List.drop_of_length_le (by omega), List.append_nil]
theorem InvMixColumnsE_ok {s : List Nat} (h : s.length = 16) : InvMixColumnsE s = .ok (invMixColumns s) := by
  unfold InvMixColumnsE
  rw [if_neg (by omega), List.drop_of_length_le (by omega), List.append_nil]

end Proofs.Aes
