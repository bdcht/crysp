/- MD4: tables, schedule, rounds, compression of the model equal RFC 1320 -/
import Proofs.Lemmas.Md
namespace Proofs.Lemmas.Md4
open Model Model.Py Model.Md Model.Gen.Hashes Proofs.Lemmas.BitsBitVec Proofs.Lemmas.Fold Proofs.Lemmas.Parse
  Proofs.Lemmas.RoundFns Proofs.Lemmas.Md

/-- the additive constant RFC 1320 §3.4 uses in round ⌊i/16⌋ (none in round 1) -/
def specK (r : Nat) : BitVec 32 := if r = 0 then 0#32 else if r = 1 then 0x5A827999#32 else 0x6ED9EBA1#32

theorem K_eq : ∀ r, r < 3 → md4K.getD r 0 = (specK r).toNat := by decide +kernel
theorem shift_table : (List.range 48).map (shiftOf md4st) = Spec.Md4.sTable := by decide +kernel
theorem shift_eq (i : Nat) (hi : i < 48) : shiftOf md4st i = Spec.Md4.sTable.getD i 0 := by
  rw [← shift_table, getD_map_range _ _ _ _ hi]
theorem shift_le : ∀ i, i < 48 → Spec.Md4.sTable.getD i 0 ≤ 32 := by decide +kernel
theorem iv_eq : md4H.map (fun v => Bits.ofNatSz v 32) = embH Spec.Md4.iv := by decide +kernel
theorem tables_ok : tablesOk 3 md4ft.length md4K 3 md4st md4Idx = true := by decide +kernel

/-- the two `W.extend([W[i] for i in (…)])` produce exactly the RFC's X[k] sequence of the 48 operations -/
theorem extend_eq (X : List (BitVec 32)) (hX : X.length = 16) :
    extend (X.map ofBV) md4Idx = ((List.range 48).map fun i => X.getD (Spec.Md4.kTable.getD i 0) 0).map ofBV := by
  obtain ⟨x0, x1, x2, x3, x4, x5, x6, x7, x8, x9, x10, x11, x12, x13, x14, x15, rfl⟩ := exists_of_length_16 hX
  rfl

theorem word_eq (X : List (BitVec 32)) (hX : X.length = 16) (i : Nat) (hi : i < 48) :
    (extend (X.map ofBV) md4Idx).getD i dflt = ofBV (X.getD (Spec.Md4.kTable.getD i 0) 0) := by
  rw [extend_eq X hX, dflt, getD_map_ofBV, getD_map_range _ _ _ _ hi]

theorem round_refines (X : List (BitVec 32)) (hX : X.length = 16) (i : Nat) (hi : i < 48) (a b c d : BitVec 32) :
    md4Round (extend (X.map ofBV) md4Idx) (emb4 (a, b, c, d)) i = emb4 (d, Spec.Md4.op X i a b c d, b, c) := by
  have hr : i / 16 < 3 := by omega
  simp only [md4Round, emb4, Spec.Md4.op, word_eq X hX i hi, K_eq _ hr, shift_eq i hi]
  by_cases h1 : i < 16
  · have e : i / 16 = 0 := by omega
    simp only [h1, if_true, e, specK, List.getD_cons_zero, md4ft, md4_f_ofBV, add_ofBV, addConst_ofBV,
      rol_ofBV _ _ (shift_le i hi), BitVec.add_zero]
  · by_cases h2 : i < 32
    · have e : i / 16 = 1 := by omega
      simp only [h1, h2, if_true, if_false, e, specK, Nat.one_ne_zero, md4ft, List.getD_cons_succ, List.getD_cons_zero,
        md4_g_ofBV, add_ofBV, addConst_ofBV, rol_ofBV _ _ (shift_le i hi)]
    · have e : i / 16 = 2 := by omega
      simp only [h1, h2, if_false, e, specK, show ¬ (2 = 0) by decide, show ¬ (2 = 1) by decide, md4ft,
        List.getD_cons_succ, List.getD_cons_zero, md4_h_ofBV, add_ofBV, addConst_ofBV, rol_ofBV _ _ (shift_le i hi)]

theorem step_eq (X : List (BitVec 32)) : Spec.Md4.step X = stepOf (Spec.Md4.op X) := by
  funext ⟨A, B, C, D⟩ i
  rfl

theorem rounds_refines (X : List (BitVec 32)) (hX : X.length = 16) (s : State) :
    (List.range 48).foldl (md4Round (extend (X.map ofBV) md4Idx)) (emb4 s)
      = emb4 ((List.range 48).foldl (Spec.Md4.step X) s) := by
  rw [step_eq]
  exact loop_refines (Spec.Md4.op X) _ 48 (by decide) (fun i hi a b c d => round_refines X hX i hi a b c d) s

theorem block_refines (H : State) (X : List (BitVec 32)) (hX : X.length = 16) :
    md4Block (embH H) (X.map ofBV) = .ok (embH (Spec.Md4.compressWords H X)) := by
  obtain ⟨h0, h1, h2, h3⟩ := H
  have hr := rounds_refines X hX (h0, h1, h2, h3)
  simp only [Spec.Md4.compressWords]
  generalize (List.range 48).foldl (Spec.Md4.step X) (h0, h1, h2, h3) = R at hr ⊢
  obtain ⟨a, b, c, d⟩ := R
  simp only [emb4] at hr
  simp only [md4Block, embH, List.length_map, hX, ne_eq, not_true_eq_false, if_false, tables_ok, Bool.not_true,
    Bool.false_eq_true, show (3 * 16 = 48) by decide, hr, add_ofBV, BitVec.add_comm]

theorem compress_refines (H : State) (blk : List Spec.Byte) (hb : blk.length = 64) :
    md4Compress (embH H) (toNatBytes blk) = .ok (embH (Spec.Md4.compress H blk)) :=
  (bind_eq_of_ok (parseLE_refines blk hb) _).trans (block_refines H _ (by rw [wordsLE_length, hb]))

end Proofs.Lemmas.Md4
