/-
  Lemmas for C04: one `Keccak.duplex` call versus one duplexing call of the reference construction,
  and sequences of calls.
-/
import Proofs.Lemmas.KeccakSponge
namespace Proofs.Lemmas.KeccakDuplex
open Model Model.Keccak Model.Py Proofs.Lemmas.KeccakBits Proofs.Lemmas.KeccakLane Proofs.Lemmas.KeccakPad
open Proofs.Lemmas.KeccakSponge Proofs.Lemmas.KeccakString
open Spec.Keccak (fString absorbBlock keccakF stringOfState pad101)

theorem single_block_iff {r : Nat} (hr : 0 < r) {blocks : List Bits} (hg : Good r blocks) {σ : List Bool}
    (hb : (blocks.map bitsOf).flatten = σ ++ pad101 r σ.length) : blocks.length = 1 ↔ σ.length + 2 ≤ r := by
  have ht := congrArg List.length hb
  rw [flatten_length_of_Good hg, List.length_append] at ht
  constructor
  · intro h1
    rw [h1, pad101_length] at ht
    omega
  · intro hfit
    rw [pad101_length_fit r σ.length hfit] at ht
    exact Nat.eq_of_mul_eq_mul_left hr (by omega : r * blocks.length = r * 1)

/-- core's `Except.toOption`, under the name the statement of `Proofs.C04.duplex_refines` uses -/
def resOpt {α} : Except Err α → Option α
  | .ok v => some v
  | .error _ => none

/-- The object is given by its fields so that the object afterwards has visibly the same b, w, n, r. -/
theorem duplex_step (b w n r : Nat) (outlen : Option Nat) (dup : Bool) (S : Option Lanes)
    (hr : 0 < r) (hr25 : r ≤ 25 * w)
    (hf : ∀ A : Spec.Keccak.State w, f w n (toLanes A) = toLanes (keccakF w A))
    (A : Spec.Keccak.State w) (hS : S.getD (zero w) = toLanes A)
    (m : List Nat) (hm : ∀ x ∈ m, x < 256) (bl : Option Nat) (hL : ∀ L, bl = some L → L ≤ 8 * m.length)
    (ol : Option Nat) (hol : ol.getD r ≤ r) :
    match Spec.Keccak.duplexing (fString w) (25 * w) r (stringOfState A) (msgBits true m bl) (ol.getD r) with
    | some (s', z) =>
        ∃ A' : Spec.Keccak.State w,
          duplex ⟨⟨b, w, n, r, outlen, dup⟩, S⟩ m bl ol
            = (⟨⟨b, w, n, r, outlen, true⟩, some (toLanes A')⟩, .ok (Spec.Keccak.bytesOfBits z)) ∧
          stringOfState A' = s'
    | none =>
        ∃ e, duplex ⟨⟨b, w, n, r, outlen, dup⟩, S⟩ m bl ol = (⟨⟨b, w, n, r, outlen, true⟩, S⟩, .error e) := by
  have hw : 0 < w := by omega
  obtain ⟨blocks, hb1, hb2, hb3⟩ := iterblocks_spec_aux r hr true m hm bl hL
  by_cases hfit : (msgBits true m bl).length + 2 ≤ r
  · obtain ⟨P, rfl⟩ := List.length_eq_one_iff.mp ((single_block_iff hr hb2 hb3).mpr hfit)
    have hPbits : bitsOf P = msgBits true m bl ++ pad101 r (msgBits true m bl).length := by
      simpa only [List.map_cons, List.map_nil, List.flatten_cons, List.flatten_nil, List.append_nil] using hb3
    -- a duplex call is the absorbing phase on its one block
    have e1 : f w n (xorState (toLanes A) (load w P)) = toLanes (absorbS A [P]) :=
      absorb_toLanes ⟨b, w, n, r, outlen, true⟩ hf [P] A
    have e2 : stringOfState (absorbS A [P]) = absorbBlock (fString w) (25 * w) r (stringOfState A) (bitsOf P) :=
      stringOfState_absorbS hw r hr25 [P] hb2 A
    obtain ⟨X, hx1, hx2, hx3, hx4⟩ := dump_spec (absorbS A [P]) (ol.getD r) (by omega)
    simp only [Spec.Keccak.duplexing, hfit, hol, and_self, if_true]
    refine ⟨absorbS A [P], ?_, by rw [← hPbits, e2]⟩
    simp only [duplex, hb1, hS, e1, hx1, Except.map]
    rw [pack_spec X hx2, hx4, ← hPbits, e2]
  · have hns : blocks.length ≠ 1 := mt (single_block_iff hr hb2 hb3).mp hfit
    simp only [Spec.Keccak.duplexing, hfit, false_and, if_false]
    simp only [duplex, hb1]
    match blocks, hns with
    | [], _ => exact ⟨_, rfl⟩
    | [P], h => exact absurd rfl h
    | _ :: _ :: _, _ => exact ⟨_, rfl⟩

/-- a call inside the reference's domain of definition -/
def validStep (r : Nat) (st : List Nat × Option Nat × Option Nat) : Prop :=
  (∀ x ∈ st.1, x < 256) ∧ (∀ L, st.2.1 = some L → L ≤ 8 * st.1.length) ∧ st.2.2.getD r ≤ r

/-- the reference's inputs for a list of calls `(m, bitlen, outlen)`: σ = the message bits (native order), ℓ -/
def specSteps (r : Nat) (steps : List (List Nat × Option Nat × Option Nat)) : List (List Bool × Nat) :=
  steps.map fun st => (msgBits true st.1 st.2.1, st.2.2.getD r)

theorem duplexSeq_refines (b w n r : Nat) (outlen : Option Nat)
    (hr : 0 < r) (hr25 : r ≤ 25 * w)
    (hf : ∀ A : Spec.Keccak.State w, f w n (toLanes A) = toLanes (keccakF w A)) :
    ∀ (steps : List (List Nat × Option Nat × Option Nat)), (∀ st ∈ steps, validStep r st) →
      ∀ (dup : Bool) (S : Option Lanes) (A : Spec.Keccak.State w), S.getD (zero w) = toLanes A →
        (duplexSeq ⟨⟨b, w, n, r, outlen, dup⟩, S⟩ steps).map resOpt
          = (Spec.Keccak.duplexSeq (fString w) (25 * w) r (stringOfState A) (specSteps r steps)).map
              (Option.map Spec.Keccak.bytesOfBits) := by
  intro steps
  induction steps with
  | nil => intro _ dup S A _; rfl
  | cons st rest ih =>
    intro hv dup S A hS
    obtain ⟨m, bl, ol⟩ := st
    have hst := hv (m, bl, ol) (by simp)
    have hrest : ∀ st ∈ rest, validStep r st := fun x hx => hv x (List.mem_cons_of_mem _ hx)
    have hstep := duplex_step b w n r outlen dup S hr hr25 hf A hS m hst.1 bl hst.2.1 ol hst.2.2
    simp only [specSteps, List.map_cons, Spec.Keccak.duplexSeq, Model.Keccak.duplexSeq]
    cases hd : Spec.Keccak.duplexing (fString w) (25 * w) r (stringOfState A) (msgBits true m bl) (ol.getD r) with
    | none =>
      rw [hd] at hstep
      obtain ⟨e, he⟩ := hstep
      simp only [he, List.map_cons, resOpt, Option.map_none]
      exact congrArg _ (ih hrest true S A hS)
    | some p =>
      obtain ⟨s', z⟩ := p
      rw [hd] at hstep
      obtain ⟨A', h1, h2⟩ := hstep
      simp only [h1, List.map_cons, resOpt, Option.map_some]
      rw [← h2]
      exact congrArg _ (ih hrest true (some (toLanes A')) A' rfl)

end Proofs.Lemmas.KeccakDuplex
