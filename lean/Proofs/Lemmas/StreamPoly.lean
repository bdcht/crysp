/-
  Bridge between Model.Poly (lists of Int coefficients reduced modulo 2^w) and lists of `BitVec w`:
  `ofBV ws` is the Poly whose coefficients are the words `ws`.  Every Poly operation the stream ciphers use is
  shown to act on `ofBV` as the corresponding word operation: what the operation does to a Poly is taken from PolyL,
  what is added here is the passage from coefficients to words (`e_ofBV`, `eq_ofBV`, `ofList_gather`, `map_ofBV`).
-/
import Model.Salsa
import Proofs.Lemmas.PolyL
namespace Proofs.Lemmas.StreamPoly
open Model Model.Poly Proofs.PolyL

def ofBV {w : Nat} (l : List (BitVec w)) : Poly := ⟨l.map fun x => Int.ofNat x.toNat, w⟩

@[simp] theorem ofBV_size {w} (l : List (BitVec w)) : (ofBV l).size = w := rfl
@[simp] theorem ofBV_ival {w} (l : List (BitVec w)) : (ofBV l).ival = l.map fun x => Int.ofNat x.toNat := rfl
@[simp] theorem ofBV_dim {w} (l : List (BitVec w)) : (ofBV l).dim = l.length := by simp [dim]

theorem red_ofNat_toNat {w} (x : BitVec w) : red w (Int.ofNat x.toNat) = Int.ofNat x.toNat := by
  by_cases hw : w = 0
  · subst hw
    rfl
  · exact Nat.mod_eq_of_lt x.isLt ▸ red_natCast_mod (Nat.pos_of_ne_zero hw) x.toNat

theorem red_natCast {w} (hw : w ≠ 0) (n : Nat) : red w (n : Int) = Int.ofNat (BitVec.ofNat w n).toNat := by
  rw [red_pos (Nat.pos_of_ne_zero hw), BitVec.toNat_ofNat]
  norm_cast

theorem ofBV_WF {w} (l : List (BitVec w)) : (ofBV l).WF := WF_map fun b _ => red_ofNat_toNat b

/-- beyond the end both sides are 0 -/
theorem e_ofBV {w} (l : List (BitVec w)) (j : Nat) : (ofBV l).e j = Int.ofNat (l.getD j 0).toNat := by
  exact Fold.getD_map (fun x : BitVec w => Int.ofNat x.toNat) l j 0

theorem e_ofBV_lt {w} (l : List (BitVec w)) {j : Nat} (h : j < l.length) : (ofBV l).e j = Int.ofNat l[j].toNat := by
  rw [e_ofBV, List.getD_eq_getElem?_getD, List.getElem?_eq_getElem h]
  rfl

theorem eq_ofBV {w} {a : Poly} {l : List (BitVec w)} (hs : a.size = w) (hd : a.dim = l.length)
    (h : ∀ i (hi : i < l.length), a.e i = Int.ofNat l[i].toNat) : a = ofBV l :=
  ext_e hs (hd.trans (ofBV_dim l).symm) fun i hi => (h i (hd ▸ hi)).trans (e_ofBV_lt l (hd ▸ hi)).symm

/-- `a + b` is `BitVec.ofNat w (a.toNat + b.toNat)` by definition -/
theorem coeff_add {w} (hw : w ≠ 0) (a b : BitVec w) :
    coeffOp .add w (Int.ofNat a.toNat) (Int.ofNat b.toNat) = Int.ofNat (a + b).toNat :=
  red_natCast hw (a.toNat + b.toNat)

theorem coeff_xor {w} (hw : w ≠ 0) (a b : BitVec w) :
    coeffOp .xor w (Int.ofNat a.toNat) (Int.ofNat b.toNat) = Int.ofNat (a ^^^ b).toNat := by
  simp [coeffOp, hw]

theorem coeff_or {w} (hw : w ≠ 0) (a b : BitVec w) :
    coeffOp .or w (Int.ofNat a.toNat) (Int.ofNat b.toNat) = Int.ofNat (a ||| b).toNat := by
  simp [coeffOp, hw]

theorem binop_ofBV {w} (op : BinOp) (f : BitVec w → BitVec w → BitVec w)
    (hf : ∀ a b, coeffOp op w (Int.ofNat a.toNat) (Int.ofNat b.toNat) = Int.ofNat (f a b).toNat)
    (as bs : List (BitVec w)) (h : as.length = bs.length) :
    binop op (ofBV as) (ofBV bs) = .ok (ofBV (List.zipWith f as bs)) := by
  have hr := binop_ok (op := op) (a := ofBV as) (b := ofBV bs) rfl
  refine hr.trans (congrArg _ (eq_ofBV rfl (by simp [dim, Spec.Poly.pointwise, h]) fun i hi => ?_))
  simp only [List.length_zipWith, ← h, Nat.min_self] at hi
  rw [binop_coeff hr, e_ofBV_lt as hi, e_ofBV_lt bs (h ▸ hi), ofBV_size, hf, List.getElem_zipWith]

theorem add_ofBV {w} (hw : w ≠ 0) (as bs : List (BitVec w)) (h : as.length = bs.length) :
    binop .add (ofBV as) (ofBV bs) = .ok (ofBV (List.zipWith (· + ·) as bs)) :=
  binop_ofBV .add _ (coeff_add hw) as bs h

theorem xor_ofBV {w} (hw : w ≠ 0) (as bs : List (BitVec w)) (h : as.length = bs.length) :
    binop .xor (ofBV as) (ofBV bs) = .ok (ofBV (List.zipWith (· ^^^ ·) as bs)) :=
  binop_ofBV .xor _ (coeff_xor hw) as bs h

theorem or_ofBV {w} (hw : w ≠ 0) (as bs : List (BitVec w)) (h : as.length = bs.length) :
    binop .or (ofBV as) (ofBV bs) = .ok (ofBV (List.zipWith (· ||| ·) as bs)) :=
  binop_ofBV .or _ (coeff_or hw) as bs h

theorem map_ofBV {w} {F : Int → Int} {g : BitVec w → BitVec w} (h : ∀ a : BitVec w, F (Int.ofNat a.toNat) = Int.ofNat (g a).toNat)
    (as : List (BitVec w)) : (⟨(ofBV as).ival.map F, w⟩ : Poly) = ofBV (as.map g) := by
  simp only [ofBV, List.map_map, Function.comp_def, h]

theorem shl_ofBV {w} (hw : w ≠ 0) (as : List (BitVec w)) (n : Nat) :
    (ofBV as).shl n = ofBV (as.map fun (a : BitVec w) => a <<< n) :=
  map_ofBV (as := as) fun a => by
    rw [ofBV_size, red_pos (Nat.pos_of_ne_zero hw), BitVec.toNat_shiftLeft, Nat.shiftLeft_eq]
    norm_cast

theorem shr_ofBV {w} (as : List (BitVec w)) (n : Nat) :
    (ofBV as).shr n = ofBV (as.map fun (a : BitVec w) => a >>> n) :=
  map_ofBV (as := as) fun a => by
    have : Int.shiftRight (Int.ofNat a.toNat) n = Int.ofNat (a >>> n).toNat := by
      simp [Int.shiftRight, BitVec.toNat_ushiftRight]
    rw [this]
    exact red_ofNat_toNat _

theorem concat_ofBV {w} (as bs : List (BitVec w)) : (ofBV as).concat (ofBV bs) = ofBV (as ++ bs) := by
  simp [Poly.concat, ofBV]

theorem ofList_ofBV {w} (ws : List (BitVec w)) : Poly.ofList (ws.map fun b => (b.toNat : Int)) w = ofBV ws :=
  ofList_WF_eq (ofBV_WF ws)

theorem ofBytes_ofBV (m : List (BitVec 8)) : Poly.ofBytes (m.map (·.toNat)) = ofBV m := by
  rw [← ofList_ofBV, Poly.ofBytes, List.map_map]
  rfl

theorem pyGet_ofBV {w} (ws : List (BitVec w)) (i : Nat) (h : i < ws.length) :
    pyGet (ofBV ws).ival (i : Int) = .ok ((ws.getD i 0).toNat : Int) := by
  rw [pyGet_ok _ (by rw [ofBV_dim]; omega), pos_natCast, e_ofBV]
  rfl

/-- the words a Python index list selects -/
def gather {w} (idx : List Nat) (ws : List (BitVec w)) : List (BitVec w) := idx.map fun i => ws.getD i 0

theorem gather_length {w} (idx : List Nat) (ws : List (BitVec w)) : (gather idx ws).length = idx.length :=
  List.length_map _

theorem gather_gather (f g : List Nat) {d d' : Nat} {w} (ws : List (BitVec w)) (hl : g.length = ws.length) (hg : ∀ i ∈ g, i < f.length)
    (h : ∀ i < ws.length, f.getD (g.getD i d) d' = i) : gather g (gather f ws) = ws := by
  apply List.ext_getElem (by rw [gather_length, hl])
  intro i h1 h2
  have hi : i < g.length := by rw [hl]; exact h2
  have hgi := hg g[i] (List.getElem_mem hi)
  have := h i h2
  simp only [gather, List.getElem_map, List.getD_eq_getElem?_getD, List.getElem?_map, List.getElem?_eq_getElem hgi,
    List.getElem?_eq_getElem hi, Option.map_some, Option.getD_some] at this ⊢
  simp only [this, List.getElem?_eq_getElem h2, Option.getD_some]

/-- the Poly that `getInt`, `getList`, `getSlice` build from the coefficients they read -/
theorem ofList_gather {w} (ws : List (BitVec w)) (idx : List Nat) : ofList (idx.map (ofBV ws).e) w = ofBV (gather idx ws) := by
  rw [← ofList_ofBV (gather idx ws), gather, List.map_map]
  exact congrArg (ofList · w) (List.map_congr_left fun i _ => e_ofBV ws i)

theorem getInt_ofBV {w} (ws : List (BitVec w)) (i : Nat) (h : i < ws.length) :
    (ofBV ws).getInt (i : Int) = .ok (ofBV [ws.getD i 0]) := by
  rw [getInt_ok _ (by rw [ofBV_dim]; omega), pos_natCast]
  exact congrArg _ (ofList_gather ws [i])

theorem getList_ofBV {w} (ws : List (BitVec w)) (idx : List Nat) (h : ∀ i ∈ idx, i < ws.length) :
    (ofBV ws).getList (Salsa.ints idx) = .ok (ofBV (gather idx ws)) := by
  rw [Salsa.ints, getList_ok _ (List.forall_mem_map.mpr fun i hi => by have := h i hi; rw [ofBV_dim, Int.ofNat_eq_natCast]; omega),
    List.map_map, ← ofList_gather]
  exact congrArg (fun l => Except.ok (ofList l w)) (List.map_congr_left fun i _ => congrArg (ofBV ws).e (pos_natCast _ i))

theorem indices_nat (p : Poly) (a n : Nat) (h : a + n ≤ p.ival.length) :
    p.indices (some (a : Int)) (some ((a : Int) + (n : Int))) none =
      .ok ((List.range' a n).map fun (i : Nat) => (i : Int)) := by
  have := indices_spec (a := p) (PySeq.sliceIndices_nat a (a + n) p.dim (by omega) h) (by decide)
  rw [Int.natCast_add] at this
  rw [this, Spec.Poly.sliceStop, Int.max_self, ← Int.natCast_add, PySeq.range_one', Nat.add_sub_cancel_left]
  rfl

theorem getSlice_ofBV {w} (ws : List (BitVec w)) (a n : Nat) (h : a + n ≤ ws.length) :
    (ofBV ws).getSlice (some (a : Int)) (some ((a : Int) + (n : Int))) none = .ok (ofBV (gather (List.range' a n) ws)) := by
  rw [getSlice_ok _ (indices_nat _ a n (by simpa using h)), List.map_map]
  exact congrArg _ (ofList_gather ws _)

theorem setInt_ofBV {w} (hw : w ≠ 0) (ws : List (BitVec w)) (i : Nat) (h : i < ws.length) (n : Nat) :
    (ofBV ws).setInt (i : Int) (n : Int) = .ok (ofBV (ws.set i (BitVec.ofNat w n))) := by
  rw [setInt_ok _ (by rw [ofBV_dim]; omega), pos_natCast, ofBV_size, red_natCast hw, ofBV_ival, ← List.map_set]
  rfl

def setW {w} (P : List (BitVec w)) : List Nat → List (BitVec w) → List (BitVec w)
  | i :: is, v :: vs => setW (P.set i v) is vs
  | _, _ => P

theorem setW_length {w} (P : List (BitVec w)) (idx : List Nat) (vs : List (BitVec w)) : (setW P idx vs).length = P.length := by
  induction idx generalizing P vs with
  | nil => simp [setW]
  | cons i is ih =>
    cases vs with
    | nil => simp [setW]
    | cons v vs => simp only [setW, ih, List.length_set]

theorem setMany_ofBV {w} (hw : w ≠ 0) (P : List (BitVec w)) (idx vs : List Nat) (h : ∀ i ∈ idx, i < P.length) :
    (ofBV P).setMany (idx.map fun (i : Nat) => (i : Int)) (vs.map Int.ofNat)
      = .ok (ofBV (setW P idx (vs.map (BitVec.ofNat w)))) := by
  induction idx generalizing P vs with
  | nil => simp [setW, setMany_nil_left]
  | cons i is ih =>
    cases vs with
    | nil => simp [setW, setMany_nil_right]
    | cons v vs =>
      rw [List.map_cons, List.map_cons, setMany_cons, Int.ofNat_eq_natCast, setInt_ofBV hw P i (h i (by simp)), Fold.ok_bind]
      exact ih _ _ (by intro j hj; simp only [List.length_set]; exact h j (by simp [hj]))

theorem setSlice_ofBV {w} (hw : w ≠ 0) (P : List (BitVec w)) (a : Nat) (vs : List Nat) (h : a + vs.length ≤ P.length) :
    (ofBV P).setSlice (some (a : Int)) (some ((a : Int) + (vs.length : Int))) none (.list (vs.map Int.ofNat))
      = .ok (ofBV (setW P (List.range' a vs.length) (vs.map (BitVec.ofNat w)))) := by
  rw [setSlice_idx (indices_nat _ a vs.length (by simpa using h)), setIdx_list_eq _ (by simp)]
  exact setMany_ofBV hw P _ vs (by intro i hi; simp only [List.mem_range'_1] at hi; omega)

/-- `p[s:e] = l` with bounds and values spelt as the source has them (literals; a list of ints or `(ofBV _).ival`): at a
    call the three equations hold by `rfl`, not syntactically -/
theorem setSlice_words {w} (hw : w ≠ 0) (P ws : List (BitVec w)) (a : Nat) (s e : Int) (l : List Int) (hs : s = (a : Nat))
    (he : e = ((a + ws.length : Nat) : Int)) (hl : l = ws.map fun v => (v.toNat : Int)) (h : a + ws.length ≤ P.length) :
    (ofBV P).setSlice (some s) (some e) none (.list l) = .ok (ofBV (setW P (List.range' a ws.length) ws)) := by
  subst hs he hl
  have e := setSlice_ofBV hw P a (ws.map BitVec.toNat) (by simpa using h)
  simp only [List.length_map, List.map_map, Function.comp_def, BitVec.ofNat_toNat, BitVec.setWidth_eq, List.map_id'] at e
  rw [Int.natCast_add]
  exact e

theorem setDim_ofBV {w} (l : List (BitVec w)) (n : Nat) (h0 : n ≠ 0) (hn : n ≤ l.length) :
    (ofBV l).setDim n = .ok (ofBV (l.take n)) := by
  rw [setDim_spec _ (Nat.pos_of_ne_zero h0), Spec.Poly.fit, if_neg h0]
  congr 2
  rw [ofBV_ival, List.map_take]
  exact Fold.map_getD_range _ 0 n (by simpa using hn)

end Proofs.Lemmas.StreamPoly
