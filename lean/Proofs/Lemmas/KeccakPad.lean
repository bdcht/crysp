/-
  Lemmas for C04: the block iterator `Keccak.iterblocks` (byte-chunk reads, accumulate / truncate / yield
  loop, pad10*1 tail) yields exactly the r-bit pieces of  N ‖ pad10*1(r,|N|).
-/
import Proofs.Lemmas.KeccakBits
import Proofs.Lemmas.KeccakString
import Proofs.Lemmas.BitsIndex

namespace Proofs.Lemmas.KeccakPad
open Model Model.Keccak Model.Py Proofs.Lemmas.KeccakBits Proofs.Lemmas.KeccakString

def Good (r : Nat) (out : List Bits) : Prop := ∀ P ∈ out, P.WF ∧ P.size = r

def flat (out : List Bits) (Pb : Bits) : List Bool := (out.map bitsOf).flatten ++ bitsOf Pb

theorem Good_nil (r : Nat) : Good r [] := by intro P h; cases h

theorem Good_singleton {r : Nat} {P : Bits} (hwf : P.WF) (hs : P.size = r) : Good r [P] := by
  intro Q hQ
  rw [List.mem_singleton.mp hQ]
  exact ⟨hwf, hs⟩

theorem Good_append {r : Nat} {a b : List Bits} (ha : Good r a) (hb : Good r b) : Good r (a ++ b) := by
  intro P h
  rcases List.mem_append.mp h with h | h
  · exact ha P h
  · exact hb P h

theorem length_of_Good {r : Nat} {out : List Bits} (h : Good r out) : ∀ b ∈ out.map bitsOf, b.length = r := by
  intro b hb
  obtain ⟨P, hP, rfl⟩ := List.mem_map.mp hb
  rw [bitsOf_length, (h P hP).2]

theorem flatten_length_of_Good {r : Nat} {out : List Bits} (h : Good r out) :
    ((out.map bitsOf).flatten).length = r * out.length := by
  rw [← List.flatMap_def, Fold.length_flatMap_const bitsOf r out fun P hP => (bitsOf_length P).trans (h P hP).2,
    Nat.mul_comm]

theorem chunksOf_of_Good {r : Nat} (hr : 0 < r) {blocks : List Bits} (hg : Good r blocks) :
    Spec.Keccak.chunksOf r (blocks.map bitsOf).flatten = blocks.map bitsOf :=
  chunksOf_blocks r hr _ (length_of_Good hg)

/-- buffer, countdown and yielded blocks when the bit string `T` has been taken in, of `n0` bits to hash -/
structure Holds (r n0 : Nat) (T : List Bool) (Pb : Bits) (needed : Nat) (out : List Bits) : Prop where
  good : Good r out
  wf : Pb.WF
  bits : flat out Pb = T
  cnt : needed + r * out.length = n0

theorem flat_length {r : Nat} {out : List Bits} (h : Good r out) (Pb : Bits) :
    (flat out Pb).length = r * out.length + Pb.size := by
  simp [flat, flatten_length_of_Good h]

/-- the inner `while len(Pb)>=r` loop -/
theorem drain_spec (r : Nat) (hr : 0 < r) {n0 : Nat} {T : List Bool} :
    ∀ (fuel : Nat) (Pb : Bits) (needed : Nat) (out : List Bits),
      Holds r n0 T Pb needed out → Pb.size ≤ fuel → Pb.size ≤ needed →
      Holds r n0 T (drain r fuel Pb needed out).1 (drain r fuel Pb needed out).2.1 (drain r fuel Pb needed out).2.2 ∧
        (drain r fuel Pb needed out).1.size < r := by
  intro fuel
  induction fuel with
  | zero =>
    intro Pb needed out h hf _
    exact ⟨h, Nat.lt_of_le_of_lt hf hr⟩
  | succ fuel ih =>
    intro Pb needed out h hf hn
    simp only [drain]
    by_cases hge : Pb.size ≥ r
    · simp only [hge, if_true]
      refine ih _ _ _ ⟨?_, sliceClip_WF _ _ _, ?_, ?_⟩ (by simp; omega) (by simp; omega)
      · exact Good_append h.good (Good_singleton (sliceClip_WF _ _ _) (by simp; omega))
      · rw [← h.bits]
        simp only [flat, List.map_append, List.map_cons, List.map_nil, List.flatten_append, List.flatten_cons,
          List.flatten_nil, List.append_nil, bitsOf_sliceClip, List.drop_zero, List.append_assoc]
        congr 1
        have : (bitsOf Pb).take Pb.size = bitsOf Pb := List.take_of_length_le (by simp)
        rw [this, List.take_append_drop]
      · rw [← h.cnt]
        simp only [List.length_append, List.length_cons, List.length_nil]
        rw [Nat.mul_add]
        omega
    · simp only [hge, if_false]
      exact ⟨h, Nat.lt_of_not_le hge⟩

/-- loop invariant after the bytes `pre` have been read: their first `n0` bits are held; the flag is up only when
    `n0` bits have come and down only while no more than `n0` have (so nothing has been cut off yet) -/
structure Inv (r n0 : Nat) (st : Loop) (pre : List Nat) : Prop
    extends Holds r n0 ((Spec.Keccak.bitsOfBytes pre).take n0) st.Pb st.needed st.out where
  small : st.Pb.size < r
  done : st.consumed = true → n0 ≤ 8 * pre.length
  more : st.consumed = false → 8 * pre.length ≤ n0

theorem loopStep_inv (r : Nat) (hr : 0 < r) (n0 : Nat) (Pi : List Nat) (hPi : ∀ b ∈ Pi, b < 256)
    (st : Loop) (pre : List Nat) (h : Inv r n0 st pre) : Inv r n0 (loopStep r st Pi) (pre ++ Pi) := by
  cases hc : st.consumed with
  | true =>
    have hle := h.done hc
    simp only [loopStep, hc, if_true]
    refine ⟨⟨h.good, h.wf, ?_, h.cnt⟩, h.small, fun _ => (by simp only [List.length_append]; omega),
      fun hf => (by rw [hc] at hf; cases hf)⟩
    rw [h.bits, bitsOfBytes_append, List.take_append_of_le_length (by rw [bitsOfBytes_length]; exact hle)]
  | false =>
    have hcnt := h.cnt
    have hbits : flat st.out st.Pb = Spec.Keccak.bitsOfBytes pre := by
      rw [h.bits, List.take_of_length_le (by rw [bitsOfBytes_length]; exact h.more hc)]
    have hlen : 8 * pre.length = r * st.out.length + st.Pb.size := by
      rw [← flat_length h.good, hbits, bitsOfBytes_length]
    have hcatsize : (st.Pb.concat (bitsLE Pi)).size = st.Pb.size + 8 * Pi.length := by
      simp [bitsLE_eq Pi hPi]
    have hcat : flat st.out (st.Pb.concat (bitsLE Pi)) = Spec.Keccak.bitsOfBytes (pre ++ Pi) := by
      simp only [flat] at hbits ⊢
      rw [bitsOf_concat h.wf, bitsOf_bitsLE Pi hPi, ← List.append_assoc, hbits, bitsOfBytes_append]
    simp only [loopStep, hc, Bool.false_eq_true, if_false]
    by_cases hge : (st.Pb.concat (bitsLE Pi)).size ≥ st.needed
    · simp only [hge, if_true]
      have hT : flat st.out ((st.Pb.concat (bitsLE Pi)).setSize st.needed)
          = (Spec.Keccak.bitsOfBytes (pre ++ Pi)).take n0 := by
        rw [← hcat, flat, flat, bitsOf_setSize_le _ hge, ← hcnt, Nat.add_comm, ← flatten_length_of_Good h.good,
          List.take_length_add_append]
      obtain ⟨hd, hs⟩ := drain_spec r hr _ _ _ _ ⟨h.good, Bits.setSize_wf _ _, hT, hcnt⟩ (Nat.le_refl _) (by simp)
      refine ⟨hd, hs, fun _ => ?_, nofun⟩
      rw [hcatsize] at hge
      simp only [List.length_append]; omega
    · simp only [hge, if_false]
      have hlt : 8 * (pre ++ Pi).length < n0 := by
        rw [hcatsize] at hge
        simp only [List.length_append]; omega
      have hT : flat st.out (st.Pb.concat (bitsLE Pi)) = (Spec.Keccak.bitsOfBytes (pre ++ Pi)).take n0 := by
        rw [hcat, List.take_of_length_le (by rw [bitsOfBytes_length]; omega)]
      obtain ⟨hd, hs⟩ := drain_spec r hr _ _ _ _ ⟨h.good, Bits.concat_wf _ _, hT, hcnt⟩ (Nat.le_refl _) (by omega)
      exact ⟨hd, hs, nofun, fun _ => by omega⟩

theorem loop_inv (r : Nat) (hr : 0 < r) (n0 : Nat) (cs : List (List Nat)) (hcs : ∀ c ∈ cs, ∀ b ∈ c, b < 256) :
    Inv r n0 (cs.foldl (loopStep r) { needed := n0 }) cs.flatten := by
  have h0 : Inv r n0 { needed := n0 } [] :=
    ⟨⟨Good_nil r, by simp [Bits.WF], by simp [flat, bitsOf, Spec.Keccak.bitsOfBytes], by simp⟩, by simpa using hr,
      nofun, fun _ => by simp⟩
  have hpre : cs.foldl (· ++ ·) [] = cs.flatten := by
    simpa using List.foldl_append_eq_append (l := cs) (f := id) (l' := [])
  exact hpre ▸ Fold.foldl_rel (Inv r n0) (loopStep r) (· ++ ·) cs (fun c hc => loopStep_inv r hr n0 c (hcs c hc)) h0

theorem ofNat_one : Bits.ofNat 1 = ⟨1, 1⟩ := by decide

theorem bitsOf_one : bitsOf (⟨1, 1⟩ : Bits) = [true] := BitsList.bitsOf_one

theorem bitsOf_zeros (k : Nat) : bitsOf (Bits.ofNatSz 0 k) = List.replicate k false := BitsList.bitsOf_zeros k

theorem closing_block {r : Nat} {Q : Bits} (hQ : Q.WF) (hlt : Q.size < r) :
    Good r [(Q.concat (Bits.ofNatSz 0 (r - Q.size - 1))).concat ⟨1, 1⟩] ∧
      bitsOf ((Q.concat (Bits.ofNatSz 0 (r - Q.size - 1))).concat ⟨1, 1⟩)
        = bitsOf Q ++ List.replicate (r - Q.size - 1) false ++ [true] := by
  refine ⟨Good_singleton (Bits.concat_wf _ _) (by simp [Bits.ofNatSz]; omega), ?_⟩
  rw [bitsOf_concat (Bits.concat_wf _ _), bitsOf_concat hQ, bitsOf_zeros, bitsOf_one]

theorem padTail_spec (r : Nat) (Pb : Bits) (hwf : Pb.WF) (hs : Pb.size < r) (m : Nat)
    (hm : m % r = Pb.size) :
    Good r (padTail r Pb) ∧ ((padTail r Pb).map bitsOf).flatten = bitsOf Pb ++ Spec.Keccak.pad101 r m := by
  have hz := pad_zeros r Pb.size m hs hm
  have hQ : bitsOf (Pb.concat ⟨1, 1⟩) = bitsOf Pb ++ [true] := by rw [bitsOf_concat hwf, bitsOf_one]
  simp only [padTail, ofNat_one]
  by_cases h1 : (Pb.concat ⟨1, 1⟩).size = r
  · -- the buffer with the first pad bit is a block of its own; the closing block starts from nothing
    have h1' : Pb.size + 1 = r := by simpa using h1
    obtain ⟨hg, hb⟩ := closing_block (r := r) (Q := ⟨0, 0⟩) (by simp [Bits.WF]) (Nat.lt_of_le_of_lt (Nat.zero_le _) hs)
    simp only [h1, if_true, List.singleton_append]
    refine ⟨Good_append (Good_singleton (Bits.concat_wf _ _) h1) hg, ?_⟩
    simp only [List.map_cons, List.map_nil, List.flatten_cons, List.flatten_nil, List.append_nil, hb, hQ,
      Spec.Keccak.pad101, hz, h1', if_true]
    simp [bitsOf]
  · have h1' : ¬ (Pb.size + 1 = r) := by simpa using h1
    obtain ⟨hg, hb⟩ := closing_block (r := r) (Bits.concat_wf Pb ⟨1, 1⟩) (by simp; omega)
    simp only [h1, if_false, List.nil_append]
    refine ⟨hg, ?_⟩
    simp only [List.map_cons, List.map_nil, List.flatten_cons, List.flatten_nil, List.append_nil, hb, hQ,
      Spec.Keccak.pad101, hz, h1', if_false]
    simp [Nat.sub_sub]

theorem blocks_core (r : Nat) (hr : 0 < r) (br : Nat) (hbr : 0 < br) (M' : List Nat) (hM' : ∀ b ∈ M', b < 256)
    (needed : Nat) {N : List Bool} (hN : (Spec.Keccak.bitsOfBytes M').take needed = N) :
    let st := (chunks br M').foldl (loopStep r) { needed := needed }
    Good r (st.out ++ padTail r st.Pb) ∧
      ((st.out ++ padTail r st.Pb).map bitsOf).flatten = N ++ Spec.Keccak.pad101 r N.length := by
  intro st
  have hfl := Bytes.chunks_flatten br hbr M'
  have h : Inv r needed st (chunks br M').flatten :=
    loop_inv r hr needed _ fun c hc b hb => hM' b (hfl ▸ List.mem_flatten.mpr ⟨c, hc, hb⟩)
  rw [hfl] at h
  have hflat : flat st.out st.Pb = N := h.bits.trans hN
  have hmod : N.length % r = st.Pb.size := by
    rw [← hflat, flat_length h.good, Nat.mul_add_mod]
    exact Nat.mod_eq_of_lt h.small
  obtain ⟨hgt, htail⟩ := padTail_spec r st.Pb h.wf h.small N.length hmod
  refine ⟨Good_append h.good hgt, ?_⟩
  rw [List.map_append, List.flatten_append, htail, ← List.append_assoc]
  exact congrArg (· ++ Spec.Keccak.pad101 r N.length) hflat

/-! ### the NIST last-byte re-alignment -/

theorem realign_byte (x k : Nat) (hx : x < 256) (hk : k ≤ 8) :
    (do let b ← Bits.ofBytes [x] (some k) (-1); let rb ← b.getSlice none none (some (-1)); pure rb.ival : Except Err Nat)
      = .ok (x >>> (8 - k)) := by
  have hs : ∀ b ∈ [x], b < 256 := by simpa using hx
  obtain ⟨r, h1, _, h3⟩ := Bits.getSlice_reverse ⟨leInt ([x].map Bits.reverseByte) % 2 ^ k, k⟩
  rw [Bits.ofBytes_rev_size_eq [x] hs k]
  simp only [bind, Except.bind, h1, pure, Except.pure]
  congr 1
  apply Nat.eq_of_testBit_eq
  intro j
  rw [h3 j, Nat.testBit_shiftRight]
  -- `leInt_singleton`, not unfolding: `reverseByte x` must not reach a definitional check
  simp only [List.map_cons, List.map_nil, Bytes.leInt_singleton, Nat.testBit_mod_two_pow]
  by_cases hj : j < k
  · have h7 : k - 1 - j < 8 := by omega
    rw [Bits.reverseByte_testBit x hx _ h7]
    have : decide (k - 1 - j < k) = true := by simp; omega
    simp only [hj, this, decide_true, Bool.true_and]
    congr 1
    omega
  · simp only [hj, decide_false, Bool.false_and]
    exact (Nat.testBit_lt_two_pow (Nat.lt_of_lt_of_le hx (Nat.pow_le_pow_right (by decide : 2 > 0) (by omega : 8 ≤ 8 - k + j)))).symm

theorem realign_spec (M : List Nat) (hM : ∀ b ∈ M, b < 256) (L : Nat) (hL : L ≤ 8 * M.length) :
    realign M L = .ok (M.getD (L / 8) 0 >>> (8 - L % 8)) := by
  unfold realign
  by_cases hlt : L / 8 < M.length
  · have hs : (M.drop (L / 8)).take 1 = [M[L / 8]] := by
      rw [List.drop_eq_getElem_cons hlt, List.take_succ_cons, List.take_zero]
    have hg : M.getD (L / 8) 0 = M[L / 8] := by simp [List.getD_eq_getElem?_getD, hlt]
    rw [hs, hg]
    exact realign_byte _ _ (hM _ (List.getElem_mem hlt)) (by omega)
  · have hs : (M.drop (L / 8)).take 1 = [] := by
      rw [List.drop_eq_nil_of_le (by omega)]; rfl
    have hk : L % 8 = 0 := by omega
    have hg : M.getD (L / 8) 0 = 0 := by simp [List.getD_eq_getElem?_getD, List.getElem?_eq_none (by omega : M.length ≤ L / 8)]
    rw [hs, hk, hg]
    rfl

theorem nist_bits (M : List Nat) (L : Nat) (hL : L ≤ 8 * M.length) :
    (Spec.Keccak.bitsOfBytes (M.take (L / 8) ++ [M.getD (L / 8) 0 >>> (8 - L % 8)])).take L
      = Spec.Keccak.msgBitsNIST M L := by
  have hlen : (Spec.Keccak.bitsOfBytes (M.take (L / 8))).length = 8 * (L / 8) := by
    rw [bitsOfBytes_length, List.length_take]; omega
  rw [bitsOfBytes_append, Spec.Keccak.msgBitsNIST, List.take_append, List.take_of_length_le (by rw [hlen]; omega), hlen]
  have : L - 8 * (L / 8) = L % 8 := by omega
  rw [this]
  congr 1
  simp only [Spec.Keccak.bitsOfBytes, List.flatMap_cons, List.flatMap_nil, List.append_nil, ← List.map_take,
    List.take_range]
  have : min (L % 8) 8 = L % 8 := by omega
  rw [this]

/-- the message bits the sponge is specified on: `bitlen=None` means all 8|M| bits; native LSB-first order
    (`duplexing`) or the NIST convention for a final partial byte -/
def msgBits (lsb : Bool) (M : List Nat) (bitlen : Option Nat) : List Bool :=
  if lsb then Spec.Keccak.msgBitsLSB M (bitlen.getD (8 * M.length))
  else Spec.Keccak.msgBitsNIST M (bitlen.getD (8 * M.length))

theorem msgBits_none (lsb : Bool) (M : List Nat) : msgBits lsb M none = Spec.Keccak.bitsOfBytes M := by
  cases lsb
  · have h1 : 8 * M.length / 8 = M.length := by omega
    have h2 : 8 * M.length % 8 = 0 := by omega
    simp [msgBits, Spec.Keccak.msgBitsNIST, h1, h2]
  · simp [msgBits, Spec.Keccak.msgBitsLSB, List.take_of_length_le, bitsOfBytes_length]

theorem iterblocks_spec_aux (r : Nat) (hr : 0 < r) (lsb : Bool) (M : List Nat) (hM : ∀ b ∈ M, b < 256)
    (bitlen : Option Nat) (hL : ∀ L, bitlen = some L → L ≤ 8 * M.length) :
    ∃ blocks, iterblocks r lsb M bitlen = .ok blocks ∧ Good r blocks ∧
      (blocks.map bitsOf).flatten = msgBits lsb M bitlen ++ Spec.Keccak.pad101 r (msgBits lsb M bitlen).length := by
  have hr0 : r ≠ 0 := by omega
  have hbr : 0 < (if r / 8 = 0 then 1 else r / 8) := by split <;> omega
  cases bitlen with
  | none =>
    have h := blocks_core r hr _ hbr M hM (8 * M.length) (N := msgBits lsb M none)
      (by rw [msgBits_none, List.take_of_length_le (by rw [bitsOfBytes_length]; exact Nat.le_refl _)])
    exact ⟨_, by simp only [iterblocks, hr0, if_false]; rfl, h⟩
  | some L =>
    have hL' := hL L rfl
    have hnot : ¬ (L > 8 * M.length) := by omega
    cases lsb with
    | true =>
      have h := blocks_core r hr _ hbr M hM L (N := msgBits true M (some L)) rfl
      exact ⟨_, by simp only [iterblocks, hr0, hnot, if_false, if_true]; rfl, h⟩
    | false =>
      have hv : M.getD (L / 8) 0 >>> (8 - L % 8) < 256 :=
        Nat.lt_of_le_of_lt (Nat.shiftRight_le _ _) (Bytes.AllBytes.getD_lt hM _)
      have hM' : ∀ b ∈ M.take (L / 8) ++ [M.getD (L / 8) 0 >>> (8 - L % 8)], b < 256 :=
        Bytes.AllBytes.append (Bytes.AllBytes.take hM _) (Bytes.AllBytes.replicate hv 1)
      have h := blocks_core r hr _ hbr _ hM' L (N := msgBits false M (some L)) (nist_bits M L hL')
      exact ⟨_, by simp only [iterblocks, hr0, hnot, if_false, realign_spec M hM L hL']; rfl, h⟩

end Proofs.Lemmas.KeccakPad
