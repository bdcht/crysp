/-
  Helper lemmas for C05: one CTR object through a history of calls (Model.Mode.CTR.Obj).
-/
import Proofs.Lemmas.ModeCounter
namespace Proofs.Lemmas.ModeL
open Model Model.Mode
variable {c : BlockCipher} {k : Spec.Mode.Cipher}

theorem ctrRun_fst (c : BlockCipher) (d : DefaultCounter) : ∀ (bs : List (List Nat)) (cnt : Bits),
    (ctrRun c d cnt bs).1 = ctrBlocks c d cnt bs
  | [], _ => rfl
  | b :: bs, cnt => by
    have ih := ctrRun_fst c d bs (d.call cnt).2
    simp only [ctrRun, ctrBlocks]
    cases c.enc (d.call cnt).1 with
    | error e => rfl
    | ok k =>
      simp only
      rw [← ih]
      rcases ctrRun c d (d.call cnt).2 bs with ⟨r, cnt'⟩
      cases r <;> rfl

theorem obj_enc_fst (c : BlockCipher) (o : CTR.Obj) (M : List Nat) : (o.enc c M).1 = encWith c o.counter M := by
  unfold CTR.Obj.enc encWith forBlocks
  cases mkPad c .no with
  | error e => rfl
  | ok p =>
    simp only [ctrRun_fst]
    cases ctrBlocks c o.counter o.counter.reset (iter p M).1 with
    | error e => rfl
    | ok C => cases (iter p M).2 <;> rfl

theorem obj_enc_counter (c : BlockCipher) (o : CTR.Obj) (M : List Nat) : (o.enc c M).2.counter = o.counter := by
  unfold CTR.Obj.enc
  cases mkPad c .no with
  | error e => rfl
  | ok p =>
    simp only
    cases (ctrRun c o.counter o.counter.reset (iter p M).1).1 with
    | error e => rfl
    | ok C => cases (iter p M).2 <;> rfl

theorem obj_dec_fst (c : BlockCipher) (o : CTR.Obj) (C : List Nat) :
    (o.dec c C).1 = match encWith c o.counter C with
      | .error e => .error e
      | .ok P => if P.length ≠ C.length then .error "AssertionError" else .ok P := by
  unfold CTR.Obj.dec
  simp only [obj_enc_fst]
  cases encWith c o.counter C with
  | error e => rfl
  | ok P => by_cases hp : P.length ≠ C.length <;> simp [hp]

theorem ctrBlocks_congr (c : BlockCipher) (d d' : DefaultCounter) (hn : d.nonce = d'.nonce) :
    ∀ (bs : List (List Nat)) (cnt : Bits), ctrBlocks c d cnt bs = ctrBlocks c d' cnt bs
  | [], _ => rfl
  | b :: bs, cnt => by
    have e : d.call cnt = d'.call cnt := by simp [DefaultCounter.call, hn]
    simp only [ctrBlocks, e, ctrBlocks_congr c d d' hn bs]

theorem encWith_congr (c : BlockCipher) (d d' : DefaultCounter) (hn : d.nonce = d'.nonce) (hc : d.count0 = d'.count0) (M : List Nat) :
    encWith c d M = encWith c d' M := by
  have hr : d.reset = d'.reset := by simp [DefaultCounter.reset, hc]
  unfold encWith
  rw [hr, funext (fun bs => ctrBlocks_congr c d d' hn bs d'.reset)]

def okBytes : Except Err (List Nat) → Option (List Nat)
  | .ok r => some r
  | .error _ => none
def outBytes : CTR.Out → Option (List Nat)
  | .bytes r => okBytes r
  | .block r => r
  | .unit _ => none

theorem run_append (c : BlockCipher) : ∀ (h₁ h₂ : List CTR.Step) (o : CTR.Obj),
    CTR.Obj.run c o (h₁ ++ h₂) =
      ((CTR.Obj.run c o h₁).1 ++ (CTR.Obj.run c (CTR.Obj.run c o h₁).2 h₂).1, (CTR.Obj.run c (CTR.Obj.run c o h₁).2 h₂).2)
  | [], _, _ => rfl
  | s :: ss, h₂, o => by
    simp only [List.cons_append, CTR.Obj.run, run_append c ss h₂]

theorem run_last (c : BlockCipher) (o : CTR.Obj) (hist : List CTR.Step) (s : CTR.Step) :
    (CTR.Obj.run c o (hist ++ [s])).1.getLast? = some ((CTR.Obj.run c o hist).2.step c s).1 := by
  simp [run_append, CTR.Obj.run]

theorem run_snoc_obj (c : BlockCipher) (o : CTR.Obj) (hist : List CTR.Step) (s : CTR.Step) :
    (CTR.Obj.run c o (hist ++ [s])).2 = ((CTR.Obj.run c o hist).2.step c s).2 := by
  simp [run_append, CTR.Obj.run]

end Proofs.Lemmas.ModeL
