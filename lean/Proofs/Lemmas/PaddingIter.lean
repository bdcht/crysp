/-
  The control skeleton of `Padder.iterblocks`.  Nothing outside this file unfolds the iterator: it is known through a
  refusal (`iterblocks_refused`), the unpadded call (`unpadded_run`), and the padded call in two forms.  The append form
  (`iterblocks_padded` + `finishTail_ok`) is the one to compare two histories with: they agree when their `lastblock` calls
  do.  The range form (`iterblocks_ok`: block i and the state at yield i as functions of i) is the one to read a single call
  off.  These ask nothing of the scheme; `Valid` enters with the piece handed to `lastblock` (`call_facts`, `lastblock_piece`).
-/
import Proofs.Lemmas.PaddingTail
namespace Proofs.Lemmas.Padding
open Model Model.Padder Spec.Padding

theorem blockAt_length (p : Padder) (m : List Nat) (k : Nat) :
    (p.blockAt m k).length = min p.blocklen (m.length - k * p.blocklen) := by
  simp [Padder.blockAt]

theorem flatten_blocks (p : Padder) (m : List Nat) (k : Nat) :
    ((List.range k).map (p.blockAt m)).flatten = m.take (k * p.blocklen) := by
  induction k with
  | zero => simp
  | succ k ih =>
    rw [List.range_succ, List.map_append, List.flatten_append, ih]
    simp [Padder.blockAt, Nat.succ_mul, List.take_add]

theorem blockAt_take (p : Padder) (m : List Nat) (n i : Nat) (h : (i + 1) * p.blocklen ≤ n) :
    p.blockAt (m.take n) i = p.blockAt m i := by
  unfold Padder.blockAt
  rw [List.drop_take, List.take_take]
  have e : min p.blocklen (n - i * p.blocklen) = p.blocklen := by
    apply Nat.min_eq_left
    have h' : i * p.blocklen + p.blocklen ≤ n := by rw [← Nat.succ_mul]; exact h
    omega
  rw [e]

theorem blockAt_append_left (p : Padder) (m1 m2 : List Nat) (n1 i : Nat) (hm1 : m1.length = n1 * p.blocklen)
    (hi : i < n1) : p.blockAt (m1 ++ m2) i = p.blockAt m1 i := by
  rw [← blockAt_take p (m1 ++ m2) m1.length i (by rw [hm1]; exact Nat.mul_le_mul_right _ hi), List.take_left]

theorem blockAt_append_right (p : Padder) (m1 m2 : List Nat) (n1 j : Nat) (hm1 : m1.length = n1 * p.blocklen) :
    p.blockAt (m1 ++ m2) (n1 + j) = p.blockAt m2 j := by
  simp only [Padder.blockAt]
  rw [List.drop_append, List.drop_of_length_le (by rw [hm1, Nat.add_mul]; omega), List.nil_append, hm1, Nat.add_mul,
    Nat.add_sub_cancel_left]

theorem Bytes_blockAt (p : Padder) {m : List Nat} (hm : Bytes m) (k : Nat) : Bytes (p.blockAt m k) :=
  Bytes.AllBytes.take (Bytes.AllBytes.drop hm _) _

theorem loopYields_blocks (p : Padder) (st : PadState) (m : List Nat) (k : Nat) :
    (p.loopYields st m k).map (·.1) = (List.range k).map (p.blockAt m) := by
  simp [Padder.loopYields]

theorem loopYields_take (p : Padder) (st : PadState) (m : List Nat) (n k : Nat) (h : k * p.blocklen ≤ n) :
    p.loopYields st (m.take n) k = p.loopYields st m k := by
  unfold Padder.loopYields
  apply List.map_congr_left
  intro i hi
  have hi' : i < k := List.mem_range.mp hi
  have : (i + 1) * p.blocklen ≤ n := Nat.le_trans (Nat.mul_le_mul_right _ hi') h
  rw [blockAt_take p m n i this]

theorem loopYields_length (p : Padder) (st : PadState) (m : List Nat) (k : Nat) :
    (p.loopYields st m k).length = k := by
  simp [Padder.loopYields]

theorem loopYields_getElem (p : Padder) (st : PadState) (m : List Nat) (k i : Nat) (h : i < (p.loopYields st m k).length) :
    (p.loopYields st m k)[i] = (p.blockAt m i, { st with bitcnt := st.bitcnt + (i + 1) * p.blocksize }) := by
  simp [Padder.loopYields]

theorem loopYields_succ (p : Padder) (st : PadState) (m : List Nat) (k : Nat) :
    p.loopYields st m (k + 1) = p.loopYields st m k
      ++ [(p.blockAt m k, { st with bitcnt := st.bitcnt + (k + 1) * p.blocksize })] := by
  simp [Padder.loopYields, List.range_succ]

theorem loopCount_spec (p : Padder) (hpos : 0 < p.blocksize) (L : Nat) :
    p.loopCount L * p.blocksize ≤ L ∧ L ≤ p.loopCount L * p.blocksize + p.blocksize ∧
      (0 < L → p.loopCount L * p.blocksize < L) ∧ (L = 0 → p.loopCount L = 0) := by
  unfold Padder.loopCount
  by_cases h : L = 0
  · simp [h]
  · simp only [h, if_false]
    have h1 := Nat.div_mul_le_self (L - 1) p.blocksize
    have h2 := Nat.lt_div_mul_add (a := L - 1) hpos
    exact ⟨by omega, by omega, by omega, fun h0 => h0.elim⟩

def effLen (m : List Nat) (L : Option Nat) : Nat := L.getD (8 * m.length)
def kOf (p : Padder) (m : List Nat) (L : Option Nat) : Nat := p.loopCount (effLen m L)
/-- message bits left for the tail -/
def rOf (p : Padder) (m : List Nat) (L : Option Nat) : Nat := effLen m L - kOf p m L * p.blocksize

theorem effLen_shift (m1 m2 : List Nat) (L : Option Nat) :
    effLen (m1 ++ m2) (L.map (8 * m1.length + ·)) = 8 * m1.length + effLen m2 L := by
  cases L <;> simp [effLen, Nat.mul_add]

theorem iterblocks_flagged (p : Padder) (st : PadState) (hf : st.padflag = true) (m : List Nat) (L : Option Nat)
    (padding : Bool) : p.iterblocks st m L padding = ⟨[], st, some "PaddingError:padding already added"⟩ := by
  simp only [Padder.iterblocks, hf, if_true]

theorem iterblocks_refused (p : Padder) (st : PadState) (m : List Nat) (L : Option Nat) (padding : Bool)
    (h : st.padflag = true ∨ effLen m L > 8 * m.length ∨ (padding = false ∧ effLen m L % p.blocksize ≠ 0)) :
    (p.iterblocks st m L padding).yields = [] ∧ (p.iterblocks st m L padding).err.isSome ∧
      (p.iterblocks st m L padding).final = st := by
  unfold effLen at h
  by_cases hf : st.padflag = true
  · simp [iterblocks_flagged p st hf]
  · by_cases hl : L.getD (8 * m.length) > 8 * m.length
    · simp [Padder.iterblocks, hf, hl]
    · obtain ⟨rfl, h'⟩ : padding = false ∧ L.getD (8 * m.length) % p.blocksize ≠ 0 := by
        rcases h with h | h | h
        · exact absurd h hf
        · exact absurd h hl
        · exact h
      have h'' : L.getD (8 * m.length) % p.blocksize > 0 := by omega
      simp [Padder.iterblocks, hf, hl, h'']

theorem unpadded_run (p : Padder) (hpos : 0 < p.blocksize) (st : PadState) (hflag : st.padflag = false)
    (m : List Nat) (L : Option Nat) (hL : effLen m L ≤ 8 * m.length) (hmul : effLen m L % p.blocksize = 0) :
    p.iterblocks st m L false =
      ⟨p.loopYields st m (effLen m L / p.blocksize), { st with bitcnt := st.bitcnt + effLen m L }, none⟩ := by
  unfold effLen at *
  have hnl : ¬ L.getD (8 * m.length) > 8 * m.length := by omega
  have hnm : ¬ L.getD (8 * m.length) % p.blocksize > 0 := by omega
  by_cases h0 : L.getD (8 * m.length) = 0
  · cases st
    simp_all [Padder.iterblocks, Padder.loopYields]
  · obtain ⟨n, hn⟩ : ∃ n, L.getD (8 * m.length) = n * p.blocksize :=
      ⟨L.getD (8 * m.length) / p.blocksize, by rw [Nat.div_mul_cancel (Nat.dvd_of_mod_eq_zero hmul)]⟩
    have hn1 : 1 ≤ n := by
      rcases Nat.eq_zero_or_pos n with h | h
      · rw [h, Nat.zero_mul] at hn
        exact absurd hn h0
      · exact h
    obtain ⟨k, rfl⟩ : ∃ k, n = k + 1 := ⟨n - 1, by omega⟩
    have hk : p.loopCount (L.getD (8 * m.length)) = k := by
      unfold Padder.loopCount
      rw [if_neg h0, hn]
      apply Nat.div_eq_of_lt_le <;> rw [Nat.succ_mul] <;> omega
    have hd : L.getD (8 * m.length) / p.blocksize = k + 1 := by rw [hn, Nat.mul_div_cancel _ hpos]
    simp only [Padder.iterblocks, hflag, hnl, hnm, h0, hk, hd, loopYields_succ]
    simp [hn]

theorem unpadded_nil (p : Padder) (hpos : 0 < p.blocksize) (st : PadState) (hpf : st.padflag = false) :
    p.iterblocks st [] none false = ⟨[], st, none⟩ := by
  rw [unpadded_run p hpos st hpf [] none (Nat.le_refl _) (Nat.zero_mod _)]
  simp [effLen, Padder.loopYields]

theorem iterblocks_padded (p : Padder) (st : PadState) (m : List Nat) (L : Option Nat)
    (hflag : st.padflag = false) (hL : L.getD (8 * m.length) ≤ 8 * m.length) :
    p.iterblocks st m L true =
      p.finishTail (p.loopYields st m (p.loopCount (L.getD (8 * m.length))))
        { st with bitcnt := st.bitcnt + p.loopCount (L.getD (8 * m.length)) * p.blocksize }
        (p.blockAt m (p.loopCount (L.getD (8 * m.length))))
        (p.lastblock { st with bitcnt := st.bitcnt + p.loopCount (L.getD (8 * m.length)) * p.blocksize }
          (p.blockAt m (p.loopCount (L.getD (8 * m.length)))) (L.map (st.bitcnt + ·))) := by
  simp only [Padder.iterblocks, hflag, Nat.not_lt.mpr hL]
  simp

/-- the one or two blocks cut from what `lastblock` returned; `s` is the state shown with the first of them -/
theorem finishTail_ok (p : Padder) (ys : List (List Nat × PadState)) (st1 : PadState) (pi T : List Nat)
    (st2 s : PadState) (hs : (if st2.bitcnt = st1.bitcnt then { st2 with bitcnt := 0 } else st2) = s) :
    p.finishTail ys st1 pi (.ok (T, st2)) =
      if (T.drop p.blocklen).length > 0 then
        ⟨ys ++ [(T.take p.blocklen, s), (T.drop p.blocklen, { s with bitcnt := 0 })], { s with bitcnt := 0 }, none⟩
      else ⟨ys ++ [(T.take p.blocklen, s)], s, none⟩ := by
  subst hs
  rfl

/-- the object state observable at yield i of a padded call of `Le` bits whose loop gave `k` blocks and whose
    `lastblock` left `st2` -/
def stateAt (p : Padder) (st st2 : PadState) (k Le i : Nat) : PadState :=
  { (if i < k then st else st2) with
    bitcnt := if i * p.blocksize < Le then st.bitcnt + min Le ((i + 1) * p.blocksize) else 0 }

def tailCount (p : Padder) (T : List Nat) : Nat := if p.blocklen < T.length then 2 else 1

theorem kOf_le (p : Padder) (hB : p.blocksize = 8 * p.blocklen) (hbl : 0 < p.blocklen) (m : List Nat) (L : Option Nat)
    (hL : effLen m L ≤ 8 * m.length) : kOf p m L * p.blocklen ≤ m.length := by
  have c1 : kOf p m L * p.blocksize ≤ effLen m L := (loopCount_spec p (by omega) (effLen m L)).1
  have : kOf p m L * p.blocksize = 8 * (kOf p m L * p.blocklen) := by rw [hB, Nat.mul_left_comm]
  omega

/-- a padded call over whatever `lastblock` returned: of the tail only its length (at most two blocks) and that it counted
    all the bits of the call are used -/
theorem iterblocks_ok (p : Padder) (hB : p.blocksize = 8 * p.blocklen) (hbl : 0 < p.blocklen) (st : PadState)
    (hflag : st.padflag = false) (m : List Nat) (L : Option Nat) (hL : effLen m L ≤ 8 * m.length)
    (T : List Nat) (st2 : PadState)
    (hlast : p.lastblock { st with bitcnt := st.bitcnt + kOf p m L * p.blocksize } (p.blockAt m (kOf p m L))
      (L.map (st.bitcnt + ·)) = .ok (T, st2))
    (hcnt : st2.bitcnt = st.bitcnt + effLen m L) (hT : T.length ≤ 2 * p.blocklen) :
    p.iterblocks st m L true =
      ⟨(List.range (kOf p m L + tailCount p T)).map fun i =>
          (p.blockAt (m.take (kOf p m L * p.blocklen) ++ T) i, stateAt p st st2 (kOf p m L) (effLen m L) i),
        stateAt p st st2 (kOf p m L) (effLen m L) (kOf p m L + tailCount p T - 1), none⟩ := by
  have hpos : 0 < p.blocksize := by omega
  obtain ⟨c1, c2, _, _⟩ := loopCount_spec p hpos (effLen m L)
  have hkm := kOf_le p hB hbl m L hL
  rw [show p.iterblocks st m L true = p.finishTail (p.loopYields st m (kOf p m L))
      { st with bitcnt := st.bitcnt + kOf p m L * p.blocksize } (p.blockAt m (kOf p m L)) (.ok (T, st2)) from
    (iterblocks_padded p st m L hflag hL).trans (congrArg (p.finishTail _ _ _) hlast)]
  change kOf p m L * p.blocksize ≤ effLen m L at c1
  change effLen m L ≤ kOf p m L * p.blocksize + p.blocksize at c2
  generalize kOf p m L = k at *
  generalize effLen m L = Le at *
  have hX : (m.take (k * p.blocklen)).length = k * p.blocklen := by rw [List.length_take, Nat.min_eq_left hkm]
  have e2 : ∀ j, (j + 1) * p.blocksize = j * p.blocksize + p.blocksize := fun j => Nat.succ_mul _ _
  -- the blocks of the loop are the first k blocks of what is emitted, with the states of the closed form
  have hloop : p.loopYields st m k
      = (List.range k).map fun i => (p.blockAt (m.take (k * p.blocklen) ++ T) i, stateAt p st st2 k Le i) := by
    apply List.map_congr_left
    intro i hi
    rw [List.mem_range] at hi
    have hk : (i + 1) * p.blocksize ≤ k * p.blocksize := Nat.mul_le_mul_right _ hi
    rw [blockAt_append_left p _ T k i hX hi, blockAt_take p m _ i (Nat.mul_le_mul_right _ hi), stateAt, if_pos hi,
      if_pos (by have := e2 i; omega), Nat.min_eq_right (by omega)]
  have hst : (if st2.bitcnt = st.bitcnt + k * p.blocksize then { st2 with bitcnt := 0 } else st2) = stateAt p st st2 k Le k := by
    rw [stateAt, if_neg (Nat.lt_irrefl k)]
    by_cases hc : k * p.blocksize < Le
    · rw [if_neg (by omega), if_pos hc, Nat.min_eq_left (by have := e2 k; omega), ← hcnt]
    · rw [if_pos (by omega), if_neg hc]
  have hnext : ({ stateAt p st st2 k Le k with bitcnt := 0 } : PadState) = stateAt p st st2 k Le (k + 1) := by
    simp only [stateAt, Nat.lt_irrefl, if_false, Nat.not_lt.mpr (Nat.le_succ k)]
    rw [if_neg (by have := e2 k; omega)]
  have hb : ∀ j, p.blockAt (m.take (k * p.blocklen) ++ T) (k + j) = p.blockAt T j :=
    fun j => blockAt_append_right p _ _ _ j hX
  have hb0 := hb 0
  rw [Nat.add_zero] at hb0
  rw [finishTail_ok p _ _ _ _ _ _ hst, tailCount]
  by_cases h2 : p.blocklen < T.length
  · rw [if_pos (by rw [List.length_drop]; omega), if_pos h2, List.range_succ, List.range_succ, List.map_append,
      List.map_append, ← hloop, List.append_assoc, show k + 2 - 1 = k + 1 from rfl, hnext]
    simp only [List.map_cons, List.map_nil, List.cons_append, List.nil_append]
    rw [hb 1, hb0]
    simp only [Padder.blockAt, Nat.zero_mul, Nat.one_mul, List.drop_zero]
    rw [List.take_of_length_le (l := List.drop _ _) (by rw [List.length_drop]; omega)]
  · rw [if_neg (by rw [List.length_drop]; omega), if_neg h2, List.range_succ, List.map_append, ← hloop, Nat.add_sub_cancel]
    simp only [List.map_cons, List.map_nil]
    rw [hb0]
    simp [Padder.blockAt]

theorem whole_blocks (p : Padder) (hv : Valid p) (x : Nat) (h : x % p.blocksize = 0) :
    ∃ n, x = n * p.blocksize ∧ x / p.blocksize = n ∧ x = 8 * (n * p.blocklen) := by
  refine ⟨x / p.blocksize, ?_, rfl, ?_⟩
  · rw [Nat.div_mul_cancel (Nat.dvd_of_mod_eq_zero h)]
  · rw [← Nat.mul_left_comm, ← hv.size_eq, Nat.div_mul_cancel (Nat.dvd_of_mod_eq_zero h)]

theorem piece_facts (p : Padder) (hv : Valid p) (m : List Nat) (L : Nat) (hL : L ≤ 8 * m.length) :
    p.loopCount L * p.blocksize = 8 * (p.loopCount L * p.blocklen) ∧
    p.loopCount L * p.blocksize ≤ L ∧ L - p.loopCount L * p.blocksize ≤ p.blocksize ∧
    (0 < L → 0 < L - p.loopCount L * p.blocksize) ∧
    (p.blockAt m (p.loopCount L)).length ≤ p.blocklen ∧
    L - p.loopCount L * p.blocksize ≤ 8 * (p.blockAt m (p.loopCount L)).length ∧
    (L = 8 * m.length → L - p.loopCount L * p.blocksize = 8 * (p.blockAt m (p.loopCount L)).length) := by
  have hB := hv.size_eq
  obtain ⟨h1, h2, h3, h4⟩ := loopCount_spec p hv.pos L
  have e : p.loopCount L * p.blocksize = 8 * (p.loopCount L * p.blocklen) := by
    rw [hB, Nat.mul_left_comm]
  rw [blockAt_length]
  refine ⟨e, h1, by omega, by omega, by omega, by omega, by omega⟩

theorem call_facts (p : Padder) (hv : Valid p) (m : List Nat) (L : Option Nat) (hL : effLen m L ≤ 8 * m.length) :
    kOf p m L * p.blocksize = 8 * (kOf p m L * p.blocklen) ∧
    kOf p m L * p.blocksize ≤ effLen m L ∧ rOf p m L ≤ p.blocksize ∧
    (0 < effLen m L → 0 < rOf p m L) ∧
    (p.blockAt m (kOf p m L)).length ≤ p.blocklen ∧
    rOf p m L ≤ 8 * (p.blockAt m (kOf p m L)).length ∧
    (effLen m L = 8 * m.length → rOf p m L = 8 * (p.blockAt m (kOf p m L)).length) :=
  piece_facts p hv m _ hL

/-- the bytes `lastblock` returns -/
def tailBytes (p : Padder) (st : PadState) (m : List Nat) (L : Option Nat) : List Nat :=
  bitsToBytes (pieceBits (p.blockAt m (kOf p m L)) (rOf p m L)
    ++ modelTail p (st.bitcnt + kOf p m L * p.blocksize) (rOf p m L))

/-- the bytes a padded call emits -/
def emitted (p : Padder) (st : PadState) (m : List Nat) (L : Option Nat) : List Nat :=
  m.take (kOf p m L * p.blocklen) ++ tailBytes p st m L

theorem rOf_byte (p : Padder) (hv : Valid p) (m : List Nat) (L : Option Nat) (hL : effLen m L ≤ 8 * m.length)
    (hbg : L ≠ none → BitGranular p.scheme) (hb : ¬ BitGranular p.scheme) : L = none ∧ rOf p m L % 8 = 0 := by
  obtain ⟨_, _, _, _, _, _, h6⟩ := call_facts p hv m L hL
  cases L with
  | some a => exact absurd (hbg (by simp)) hb
  | none =>
    refine ⟨rfl, ?_⟩
    have := h6 rfl
    omega

theorem lastblock_piece (p : Padder) (hv : Valid p) (st : PadState) (m : List Nat)
    (hm : ¬ BitGranular p.scheme → Bytes m) (L : Option Nat)
    (hL : effLen m L ≤ 8 * m.length) (hbg : L ≠ none → BitGranular p.scheme) :
    p.lastblock { st with bitcnt := st.bitcnt + kOf p m L * p.blocksize } (p.blockAt m (kOf p m L)) (L.map (st.bitcnt + ·))
      = .ok (tailBytes p st m L, { padflag := true, bitcnt := st.bitcnt + kOf p m L * p.blocksize + rOf p m L,
                                   padcnt := tailPadcnt p st.padcnt (rOf p m L) }) := by
  obtain ⟨e, h1, h2, h3, h4, h5, h6⟩ := call_facts p hv m L hL
  have hkw : KwOK { st with bitcnt := st.bitcnt + kOf p m L * p.blocksize } (p.blockAt m (kOf p m L))
      (L.map (st.bitcnt + ·)) (rOf p m L) := by
    cases L with
    | none =>
      left
      exact ⟨rfl, h6 rfl⟩
    | some a =>
      right
      simp only [rOf, kOf, effLen, Option.map_some, Option.getD_some] at h1 ⊢
      congr 1
      omega
  exact lastblock_ok p hv _ _ (fun hb => Bytes_blockAt p (hm hb) _) h4 _ _ h5 hkw (by cases L <;> simp_all)

end Proofs.Lemmas.Padding
