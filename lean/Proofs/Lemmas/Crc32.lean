/-
  The CRC-32 instance: the polynomial and tables read from the live module, the `x^-32`
  multiplication of crc32_fix, and the CRC-32 of a string with four bytes replaced.
-/
import Model.Crc
import Spec.Crc
import Proofs.Lemmas.CrcLin
import Proofs.Lemmas.CrcModel
import Proofs.Lemmas.CrcBack
import Proofs.Lemmas.Bytes
namespace Proofs.Lemmas.Crc32
open Model Model.Crc Spec.Crc Proofs.Lemmas.CrcLin Proofs.Lemmas.CrcModel Proofs.Lemmas.CrcBack

/-- `POLY32_1`: the CRC-32 polynomial 0x04C11DB7 bit-reflected (bit i holds the coefficient of x^(31-i)), the x^32
    term left out -/
abbrev P32 : Nat := 0xEDB88320
/-- `POLY32_1i`, to crysp "inverse of x^32 in the field", in the same reflected form; what the proofs use of it is
    `pi32_steps`: 32 register steps take it to the polynomial 1 -/
abbrev Pi32 : Nat := 0x5B358FD3
/-- the initial register of `crc32`, and the mask xored onto its result -/
abbrev M32 : Nat := 0xffffffff

theorem poly_eq : POLY32_1 = ⟨P32, 32⟩ := by decide
theorem polyi_eq : POLY32_1i = ⟨Pi32, 32⟩ := by decide
theorem poly_wf : (⟨P32, 32⟩ : Bits).WF := by decide

theorem table_gen : TABLE32_1 = crcTable POLY32_1 := by decide +kernel

theorem backTable_gen : backTable POLY32_1 = TABLE32_1b := by decide +kernel

theorem reg32_lt (r0 : Nat) (data : List Nat) (hd : ∀ b ∈ data, b < 256) (hr : r0 < 2 ^ 32) :
    register P32 r0 data < 2 ^ 32 :=
  register_lt P32 32 (by decide) (by decide) data r0 hd hr

theorem crc_T32 (data : List Nat) (hd : ∀ b ∈ data, b < 256) :
    Model.Crc.crc data TABLE32_1 0xffffffff = .ok (register P32 M32 data) := by
  have := crc_eq ⟨P32, 32⟩ poly_wf (by decide) M32 none data hd
  rw [Option.getD_none, Nat.xor_zero] at this
  rw [table_gen, poly_eq]
  exact this

theorem crc32_eq (data : List Nat) (hd : ∀ b ∈ data, b < 256) :
    Model.Crc.crc32 data = .ok (register P32 M32 data ^^^ M32) := by
  unfold Model.Crc.crc32
  rw [crc_T32 data hd]
  rfl

theorem fixLoop_succ (P Pi n a t : Nat) :
    fixLoop P Pi (n + 1) a t = fixLoop P Pi n (step P a ^^^ (if t.testBit 0 then Pi else 0)) (t >>> 1) := by
  simp only [fixLoop, step, Bits.and_one_ne_zero]
  by_cases h1 : a.testBit 0 = true <;> by_cases h2 : t.testBit 0 = true <;> simp [h1, h2]

theorem fixLoop_xor (P Pi : Nat) : ∀ (n a a' t t' : Nat),
    fixLoop P Pi n (a ^^^ a') (t ^^^ t') = fixLoop P Pi n a t ^^^ fixLoop P Pi n a' t' := by
  intro n
  induction n with
  | zero => intro a a' t t'; rfl
  | succ n ih =>
    intro a a' t t'
    rw [fixLoop_succ, fixLoop_succ, fixLoop_succ, ← ih, step_xor, Nat.shiftRight_xor_distrib, Nat.testBit_xor,
      Bits.ite_bxor]
    congr 1
    ac_rfl

theorem fixLoop_lt (P Pi w : Nat) (hP : P < 2 ^ w) (hPi : Pi < 2 ^ w) : ∀ (n a t : Nat), a < 2 ^ w →
    fixLoop P Pi n a t < 2 ^ w := by
  intro n
  induction n with
  | zero => intro a t ha; exact ha
  | succ n ih =>
    intro a t ha
    rw [fixLoop_succ]
    apply ih
    apply Nat.xor_lt_two_pow (step_lt P w a hP ha)
    split
    · exact hPi
    · exact Nat.two_pow_pos w

theorem fixLoop_zero (P Pi : Nat) : ∀ (n a : Nat), fixLoop P Pi n a 0 = steps P n a
  | 0, _ => rfl
  | n + 1, a => by
    rw [fixLoop_succ, Nat.zero_testBit, if_neg Bool.false_ne_true, Nat.xor_zero, Nat.zero_shiftRight, fixLoop_zero P Pi n, steps]

/-- bit `i` of `t` contributes `Pi` stepped `n-1-i` times: in polynomial terms the loop multiplies `t` by `Pi` -/
theorem fixLoop_two_pow (P Pi k : Nat) : ∀ i : Nat, fixLoop P Pi (k + i + 1) 0 (2 ^ i) = steps P k Pi
  | 0 => by
    rw [fixLoop_succ, Nat.pow_zero, if_pos (by decide), step_zero, Nat.zero_xor]
    exact fixLoop_zero P Pi k _
  | i + 1 => by
    have h0 : (2 ^ (i + 1)).testBit 0 = false := by simp
    rw [fixLoop_succ, h0, if_neg Bool.false_ne_true, step_zero, Nat.shiftRight_eq_div_pow, Nat.pow_succ, Nat.pow_one,
      Nat.mul_div_cancel _ (by decide)]
    exact fixLoop_two_pow P Pi k i

/-- `w` register steps undo the loop of crc32_fix for every pair `P`, `Pi` with `Pi` = `x^-w` (`w` steps take `Pi` to the
    polynomial 1, bit `w-1` in the reflected form): both maps are xor-additive, and on the unit vector `2^i` the loop gives
    `Pi` stepped `w-1-i` times, which `w` further steps take to 1 stepped `w-1-i` times, that is `2^i` -/
theorem fixLoop_inv (P Pi w : Nat) (hPi : steps P w Pi = 2 ^ (w - 1)) : ∀ t < 2 ^ w, steps P w (fixLoop P Pi w 0 t) = t := by
  apply xorAdd_ext (fun t => steps P w (fixLoop P Pi w 0 t)) id _ (fun _ _ => rfl) w
  · intro i hi
    obtain ⟨k, rfl⟩ : ∃ k, w = k + i + 1 := ⟨w - 1 - i, by omega⟩
    show steps P (k + i + 1) (fixLoop P Pi (k + i + 1) 0 (2 ^ i)) = 2 ^ i
    rw [fixLoop_two_pow, ← steps_add, Nat.add_comm, steps_add, hPi, Nat.add_sub_cancel, Nat.add_comm k, Nat.pow_add,
      ← Nat.shiftLeft_eq]
    exact steps_shl P k _
  · intro a b
    have := fixLoop_xor P Pi w 0 0 a b
    rw [Nat.xor_self] at this
    show steps P w (fixLoop P Pi w 0 (a ^^^ b)) = _
    rw [this, steps_xor]

theorem pi32_steps : steps P32 32 Pi32 = 2 ^ 31 := by decide +kernel

/-- `data` with the four bytes at `pos` replaced by `struct.pack('I',w)` -/
def patch (data : List Nat) (pos w : Nat) : List Nat := data.take pos ++ Py.leBytes 4 w ++ data.drop (pos + 4)

theorem patch_length (data : List Nat) (pos w : Nat) (hpos : pos + 4 ≤ data.length) :
    (patch data pos w).length = data.length := by
  simp only [patch, List.length_append, List.length_take, List.length_drop, Bytes.leBytes_length]
  omega

theorem patch_bytes (data : List Nat) (hd : ∀ b ∈ data, b < 256) (pos w : Nat) : ∀ b ∈ patch data pos w, b < 256 :=
  ((Bytes.AllBytes.take hd pos).append (Bytes.leBytes_allBytes 4 w)).append (Bytes.AllBytes.drop hd (pos + 4))

theorem take_patch (data : List Nat) (pos w : Nat) (hpos : pos ≤ data.length) :
    (patch data pos w).take pos = data.take pos := by
  rw [patch, List.append_assoc]
  exact List.take_left' (by rw [List.length_take]; omega)

theorem drop_patch (data : List Nat) (pos w : Nat) (hpos : pos ≤ data.length) :
    (patch data pos w).drop (pos + 4) = data.drop (pos + 4) := by
  apply List.drop_left'
  rw [List.length_append, List.length_take, Bytes.leBytes_length]
  omega

theorem crc32_patch (data : List Nat) (hd : ∀ b ∈ data, b < 256) (pos w : Nat) (hw : w < 2 ^ 32) :
    Model.Crc.crc32 (patch data pos w)
      = .ok (register P32 (steps P32 32 (register P32 M32 (data.take pos) ^^^ w)) (data.drop (pos + 4)) ^^^ M32) := by
  rw [crc32_eq _ (patch_bytes data hd pos w), patch, register_append, register_append, register_leBytes P32 4 _ _ hw]

end Proofs.Lemmas.Crc32
