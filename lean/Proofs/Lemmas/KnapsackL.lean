/-
  `exactsum` is the depth-first reference search; soundness and completeness of the search.
-/
import Model.Knapsack
import Spec.Knapsack
namespace Proofs.Lemmas.KnapsackL
open Model.Knapsack (exactsumAux weight)
open Spec.Knapsack (firstSolution)
abbrev Item := Int × Int

theorem wsum_eq (c : List Item) : Model.Knapsack.wsum c = Spec.Knapsack.wsum c := rfl

/-- the index recursion with accumulator is the list recursion on the remaining items -/
theorem exactsumAux_eq (l : List Item) : ∀ (fuel : Nat) (s : Int) (i : Nat) (r : List Item),
    i ≤ l.length → l.length - i + 1 ≤ fuel →
    exactsumAux l fuel s i r = (firstSolution (l.drop i) s).map (fun c => r ++ c.reverse) := by
  intro fuel
  induction fuel with
  | zero => intro s i r _ h; omega
  | succ fuel ih =>
    intro s i r hi hf
    unfold exactsumAux
    by_cases hs0 : s = 0
    · subst hs0
      cases hd : l.drop i <;> simp [firstSolution]
    · rw [if_neg hs0]
      by_cases hcut : s < 0 ∨ i = l.length
      · rw [if_pos hcut]
        rcases hcut with hneg | hend
        · cases hd : l.drop i with
          | nil => simp [firstSolution, hs0]
          | cons it rest => simp [firstSolution, hs0, hneg]
        · subst hend; simp [firstSolution, hs0]
      · rw [if_neg hcut]
        have hneg : ¬ s < 0 := fun h => hcut (Or.inl h)
        have hlt : i < l.length := by
          have : i ≠ l.length := fun h => hcut (Or.inr h)
          omega
        have hget : l[i]? = some l[i] := List.getElem?_eq_getElem hlt
        have hdrop : l.drop i = l[i] :: l.drop (i + 1) := List.drop_eq_getElem_cons hlt
        rw [hget, hdrop]
        simp only [firstSolution, hs0, hneg, if_false]
        rw [ih (s - weight l[i]) (i + 1) r (by omega) (by omega), ih s (i + 1) r (by omega) (by omega)]
        simp only [weight]
        cases h1 : firstSolution (l.drop (i + 1)) (s - l[i].2) with
        | some c => simp
        | none => simp

theorem firstSolution_sound : ∀ (l : List Item) (s : Int) (c : List Item),
    firstSolution l s = some c → c.Sublist l ∧ Spec.Knapsack.wsum c = s := by
  intro l
  induction l with
  | nil =>
    intro s c h
    simp only [firstSolution] at h
    split at h
    · cases h; subst_vars; exact ⟨List.Sublist.slnil, rfl⟩
    · cases h
  | cons it rest ih =>
    intro s c h
    simp only [firstSolution] at h
    split at h
    · cases h; subst_vars; exact ⟨List.nil_sublist _, rfl⟩
    · split at h
      · cases h
      · split at h
        · rename_i c' hc'
          cases h
          obtain ⟨h1, h2⟩ := ih _ _ hc'
          refine ⟨h1.cons_cons it, ?_⟩
          simp only [Spec.Knapsack.wsum, List.map_cons, List.sum_cons] at h2 ⊢
          omega
        · obtain ⟨h1, h2⟩ := ih _ _ h
          exact ⟨h1.cons it, h2⟩

theorem wsum_cons (it : Item) (c : List Item) :
    Model.Knapsack.wsum (it :: c) = weight it + Model.Knapsack.wsum c := by
  simp [Model.Knapsack.wsum]

theorem wsum_append (a b : List Item) :
    Model.Knapsack.wsum (a ++ b) = Model.Knapsack.wsum a + Model.Knapsack.wsum b := by
  simp [Model.Knapsack.wsum, List.sum_append]

theorem wsum_nonneg (c : List Item) (h : ∀ it ∈ c, 0 < it.2) : 0 ≤ Spec.Knapsack.wsum c := by
  induction c with
  | nil => simp [Spec.Knapsack.wsum]
  | cons it rest ih =>
    have h1 := h it (by simp)
    have h2 := ih (fun x hx => h x (by simp [hx]))
    simp only [Spec.Knapsack.wsum, List.map_cons, List.sum_cons] at h2 ⊢
    omega

theorem firstSolution_complete : ∀ (l : List Item), (∀ it ∈ l, 0 < it.2) → ∀ (s : Int) (c : List Item),
    c.Sublist l → Spec.Knapsack.wsum c = s → (firstSolution l s).isSome := by
  intro l
  induction l with
  | nil =>
    intro _ s c hc hs
    have : c = [] := by simpa using hc
    subst this
    simp [Spec.Knapsack.wsum] at hs
    simp [firstSolution, hs.symm]
  | cons it rest ih =>
    intro hpos s c hc hs
    have hrest : ∀ x ∈ rest, 0 < x.2 := fun x hx => hpos x (by simp [hx])
    simp only [firstSolution]
    by_cases hs0 : s = 0
    · simp [hs0]
    · have hcpos : ∀ x ∈ c, 0 < x.2 := fun x hx => hpos x (hc.subset hx)
      have hnn := wsum_nonneg c hcpos
      have hneg : ¬ s < 0 := by omega
      simp only [hs0, hneg, if_false]
      cases hc with
      | cons _ h' =>
        cases h1 : firstSolution rest (s - it.2) with
        | some c' => simp
        | none => simpa using ih hrest s c h' hs
      | cons_cons _ h' =>
        rename_i c'
        have hs' : Spec.Knapsack.wsum c' = s - it.2 := by
          simp only [Spec.Knapsack.wsum, List.map_cons, List.sum_cons] at hs ⊢
          omega
        have := ih hrest (s - it.2) c' h' hs'
        cases h1 : firstSolution rest (s - it.2) with
        | some c'' => simp
        | none => rw [h1] at this; cases this

end Proofs.Lemmas.KnapsackL
