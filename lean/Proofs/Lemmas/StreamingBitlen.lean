/-
  Lemmas for C14: a non-final piece given with an explicit bit length L (whole blocks, L ≤ 8|buffer|) is the same
  call as the piece cut to its first L/8 bytes given without a bit length — at the level of the padding iterator (every
  yield, the final state, the exception) and hence of `HashCore.update`.
-/
import Proofs.Lemmas.Streaming
namespace Proofs.Lemmas.StreamingBitlen
open Model

theorem iterblocks_bitlen_nonfinal (p : Padder) (bl : Nat) (hB : p.blocksize = 8 * bl) (hbl : 0 < bl) (st : PadState)
    (m : List Nat) (L : Nat) (hL : L ≤ 8 * m.length) (hmul : L % p.blocksize = 0) :
    p.iterblocks st m (some L) false = p.iterblocks st (m.take (L / 8)) none false := by
  have hpos : 0 < p.blocksize := by omega
  have hblen : p.blocklen = bl := by unfold Padder.blocklen; omega
  have hmlen : 8 * (m.take (L / 8)).length = L := by
    obtain ⟨j, hj⟩ := Nat.dvd_of_mod_eq_zero hmul
    rw [hB, Nat.mul_assoc] at hj
    rw [List.length_take]
    omega
  cases hpf : st.padflag with
  | true =>
    rw [Padding.iterblocks_flagged p st hpf, Padding.iterblocks_flagged p st hpf]
  | false =>
    -- both are unpadded runs over the same whole blocks
    rw [Padding.unpadded_run p hpos st hpf m (some L) hL hmul,
      Padding.unpadded_run p hpos st hpf _ none (Nat.le_refl _) (by rw [Padding.effLen, Option.getD_none, hmlen]; exact hmul)]
    simp only [Padding.effLen, Option.getD_some, Option.getD_none, hmlen]
    rw [Padding.loopYields_take p st m _ _ (by
      rw [hblen, hB, ← Nat.div_div_eq_div_mul]; exact Nat.div_mul_le_self _ _)]

theorem update_bitlen_nonfinal (c : HashCore) (bl : Nat) (hB : c.padder.blocksize = 8 * bl) (hbl : 0 < bl) (o : HashObj)
    (m : List Nat) (L : Nat) (hL : L ≤ 8 * m.length) (hmul : L % (8 * bl) = 0) :
    c.update o m (some L) false = c.update o (m.take (L / 8)) none false := by
  unfold HashCore.update
  rw [iterblocks_bitlen_nonfinal c.padder bl hB hbl o.pad m L hL (by rw [hB]; exact hmul)]

end Proofs.Lemmas.StreamingBitlen
