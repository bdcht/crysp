/-
  What Proofs.C10 needs about each object machine of Model.Objects but the Salsa20/ChaCha one (StreamSound): its
  `History.Sound` instance, and two facts that say what an object returns rather than that it forgets: AES under a
  foreign cached schedule is FIPS 197 under the foreign key (`enc_sched`), and the Skein object's call is the functional
  model (`skein_call_eq`).
-/
import Proofs.Lemmas.History
import Proofs.Lemmas.ModeSeq
import Proofs.Lemmas.Fold
import Proofs.Lemmas.AesApi
namespace Proofs.Lemmas.ObjectsSound
open Model Model.Objects Proofs.Lemmas.History Proofs.Lemmas.ModeL

/-- no restriction: every configuration admitted (`Adm`), every operation well-formed (`Valid`) -/
abbrev Any {α : Type} : α → Prop := fun _ => True

/-- havoc: nothing is assumed about scratch state -/
abbrev Havoc {α : Type} : α → Prop := fun _ => True

theorem havoc_sound {M : Machine} (hi : ∀ c, M.cfg (M.init c) = c) (hc : ∀ s op, M.cfg (M.next s op) = M.reconf (M.cfg s) op)
    (hr : ∀ s op, M.probe op = true → M.out s op = M.out (M.init (M.cfg s)) op) : Sound M Any Any Havoc :=
  .of_reinit hi hc (fun _ _ _ => trivial) (fun _ _ => trivial) (fun _ _ _ _ => trivial) fun s op hp _ _ _ => hr s op hp

theorem hash_cfg (s : HashO.State) (op : HashO.Op) : (HashO.step s op).1.cfg = s.cfg := by cases op <;> rfl

theorem hash_reinit (s : HashO.State) (op : HashO.Op) (hp : HashO.isProbe op = true) :
    (HashO.step s op).2 = (HashO.step (HashO.init s.cfg) op).2 := by
  cases op with
  | call M bl => rfl
  | _ => cases hp

theorem hash_sound : Sound HashO.machine Any Any Havoc := havoc_sound (fun _ => rfl) hash_cfg hash_reinit

theorem keccak_cfg (s : KeccakO.State) (op : KeccakO.Op) : (KeccakO.next s op).cfg = KeccakO.reconf s.cfg op := by
  cases op <;> rfl

theorem keccak_next_eq_step (s : KeccakO.State) (op : KeccakO.Op) : KeccakO.next s op = (KeccakO.step s op).1 := by
  cases op <;> rfl

theorem keccak_reinit (s : KeccakO.State) (op : KeccakO.Op) (hp : KeccakO.isProbe op = true) :
    (KeccakO.step s op).2 = (KeccakO.step (KeccakO.init s.cfg) op).2 := by
  cases op with
  | call M bl r => rfl
  | sha3call M => rfl
  | _ => cases hp

theorem keccak_sound : Sound KeccakO.machine Any Any Havoc := havoc_sound (fun _ => rfl) keccak_cfg keccak_reinit

theorem md6_sound : Sound Md6O.machine Any Any Havoc := havoc_sound (fun _ => rfl) (fun _ _ => rfl) fun _ _ _ => rfl

theorem blake_doUpdate_cfg (s : BlakeO.State) (M : List Nat) (bl : Option Nat) (p : Bool) : (BlakeO.doUpdate s M bl p).1.cfg = s.cfg := by
  unfold BlakeO.doUpdate; split <;> rfl

theorem blake_cfg (s : BlakeO.State) (op : BlakeO.Op) : (BlakeO.step s op).1.cfg = s.cfg := by
  cases op with
  | call M salt bl => exact blake_doUpdate_cfg _ _ _ _
  | update M bl p => exact blake_doUpdate_cfg _ _ _ _
  | initstate salt => rfl

/-- `initstate` assigns every scratch attribute: `doInit s salt` and `doInit (init s.cfg) salt` are the same term -/
theorem blake_reinit (s : BlakeO.State) (op : BlakeO.Op) (hp : BlakeO.isProbe op = true) :
    (BlakeO.step s op).2 = (BlakeO.step (BlakeO.init s.cfg) op).2 := by
  cases op with
  | call M salt bl => rfl
  | _ => cases hp

theorem blake_sound : Sound BlakeO.machine Any Any Havoc := havoc_sound (fun _ => rfl) blake_cfg blake_reinit

/-- the exception of `initstate` and the part of the object `update` reads for its result are what `initstate` re-derives
    from the configuration (not `t`, `f`, nor the tree fields) -/
theorem blake2_doInit_read (s s' : Blake2O.State) (p : Blake2.Params) (k : Nat) (hc : s.cfg = s'.cfg) :
    (Blake2O.doInit s p k).2 = (Blake2O.doInit s' p k).2 ∧
    (Blake2O.doInit s p k).1.cfg = (Blake2O.doInit s' p k).1.cfg ∧ (Blake2O.doInit s p k).1.H = (Blake2O.doInit s' p k).1.H ∧
    (Blake2O.doInit s p k).1.padmethod = (Blake2O.doInit s' p k).1.padmethod ∧
    (Blake2O.doInit s p k).1.outlen = (Blake2O.doInit s' p k).1.outlen := by
  unfold Blake2O.doInit
  simp only [hc]
  split
  · exact ⟨rfl, rfl, rfl, rfl, rfl⟩
  · split <;> exact ⟨rfl, rfl, rfl, rfl, rfl⟩

theorem blake2_update_result (c : Blake.Cfg) (H : List Bits) (pd : PadState) (ol t t' : Nat) (M : List Nat) (padding : Bool) :
    (Blake2.update c ⟨H, pd, ol, t⟩ M padding).2 = (Blake2.update c ⟨H, pd, ol, t'⟩ M padding).2 := by
  unfold Blake2.update; simp only
  split <;> rfl

theorem blake2_doUpdate_result (s s' : Blake2O.State) (M : List Nat) (padding : Bool) (h1 : s.cfg = s'.cfg) (h2 : s.H = s'.H)
    (h3 : s.padmethod = s'.padmethod) (h4 : s.outlen = s'.outlen) :
    (Blake2O.doUpdate s M padding).2 = (Blake2O.doUpdate s' M padding).2 := by
  unfold Blake2O.doUpdate
  rw [← h3]
  cases s.padmethod with
  | none => rfl
  | some pd =>
    simp only
    rw [h1, h2, h4, blake2_update_result s'.cfg s'.H pd s'.outlen s.t s'.t]

theorem blake2_doUpdate_cfg (s : Blake2O.State) (M : List Nat) (p : Bool) : (Blake2O.doUpdate s M p).1.cfg = s.cfg := by
  unfold Blake2O.doUpdate; split <;> rfl

theorem blake2_doInit_cfg (s : Blake2O.State) (p : Blake2.Params) (k : Nat) : (Blake2O.doInit s p k).1.cfg = s.cfg := by
  unfold Blake2O.doInit; simp only
  split
  · rfl
  · split <;> rfl

theorem blake2_cfg (s : Blake2O.State) (op : Blake2O.Op) : (Blake2O.step s op).1.cfg = s.cfg := by
  cases op with
  | call M p k =>
    unfold Blake2O.step; simp only
    split
    · exact blake2_doInit_cfg s p k
    · rw [blake2_doUpdate_cfg]; exact blake2_doInit_cfg s p k
  | update M p => exact blake2_doUpdate_cfg _ _ _
  | initstate p k =>
    unfold Blake2O.step; simp only
    split <;> exact blake2_doInit_cfg s p k

theorem blake2_result (s s' : Blake2O.State) (op : Blake2O.Op) (hp : Blake2O.isProbe op = true) (hc : s.cfg = s'.cfg) :
    (Blake2O.step s op).2 = (Blake2O.step s' op).2 := by
  cases op with
  | call M p k =>
    obtain ⟨h0, h1, h2, h3, h4⟩ := blake2_doInit_read s s' p k hc
    unfold Blake2O.step
    simp only
    rw [h0]
    cases (Blake2O.doInit s' p k).2 with
    | some e => rfl
    | none => exact blake2_doUpdate_result _ _ M true h1 h2 h3 h4
  | update M p => cases hp
  | initstate p k => cases hp

theorem blake2_sound : Sound Blake2O.machine Any Any Havoc := havoc_sound (fun _ => rfl) blake2_cfg fun s op hp => blake2_result s _ op hp rfl

theorem hmacCall_result (core : HashCore) (bs : Nat) (K : Option (List Nat)) (h h' : HashObj) (m : List Nat) :
    (HmacO.hmacCall core bs K h m).2 = (HmacO.hmacCall core bs K h' m).2 := by
  unfold HmacO.hmacCall HashCore.call
  cases K with
  | none => rfl
  | some a =>
    simp only
    split
    · rfl
    · split <;> rfl

theorem hmac_cfg (s : HmacO.State) (op : HmacO.Op) : (HmacO.step s op).1.cfg = HmacO.reconf s.cfg op := by
  cases op with
  | setkey k => cases k <;> rfl
  | call m => rfl
  | hcall M bl => rfl
  | hupdate M bl p => rfl
  | sibcall K' m => rfl

theorem hmac_reinit (s : HmacO.State) (op : HmacO.Op) (hp : HmacO.isProbe op = true) :
    (HmacO.step s op).2 = (HmacO.step (HmacO.init s.cfg) op).2 := by
  cases op with
  | call m => exact hmacCall_result _ _ _ _ _ _
  | _ => cases hp

theorem hmac_sound : Sound HmacO.machine Any Any Havoc := havoc_sound (fun _ => rfl) hmac_cfg hmac_reinit

theorem tlsh_reset_cfg (s : TlshO.State) : (TlshO.reset s).cfg = s.cfg := rfl
theorem tlsh_update_cfg (s : TlshO.State) (d : List Nat) : (TlshO.update s d).cfg = s.cfg := by
  unfold TlshO.update; simp only; split <;> rfl
theorem tlsh_digest_cfg (s : TlshO.State) : (TlshO.digest s).cfg = s.cfg := by
  unfold TlshO.digest; split <;> rfl

theorem tlsh_finish_cfg (lcap : Nat → Nat) (s : TlshO.State) (f : Bool) : (TlshO.finish lcap s f).1.cfg = s.cfg := by
  unfold TlshO.finish
  repeat' split
  all_goals rfl

theorem tlsh_final_cfg (lcap : Nat → Nat) (s : TlshO.State) (d : List Nat) (f : Bool) : (TlshO.final lcap s d f).1.cfg = s.cfg := by
  unfold TlshO.final
  split
  · rfl
  · rw [tlsh_finish_cfg]
    split
    · rfl
    · exact tlsh_update_cfg s d

theorem tlsh_fromHash_cfg (s : TlshO.State) (d : List Nat) : (TlshO.fromHash s d).1.cfg = s.cfg := by
  unfold TlshO.fromHash; simp only
  split
  · rfl
  · rfl
  · split <;> (rw [tlsh_digest_cfg]; rfl)

theorem tlsh_cfg (lcap : Nat → Nat) (s : TlshO.State) (op : TlshO.Op) : (TlshO.step lcap s op).1.cfg = s.cfg := by
  cases op with
  | call d f =>
    unfold TlshO.step; simp only
    split
    · rw [tlsh_digest_cfg, tlsh_final_cfg]; rfl
    · rw [tlsh_final_cfg]; rfl
  | update d => exact tlsh_update_cfg s d
  | final d f => exact tlsh_final_cfg lcap s d f
  | digest => exact tlsh_digest_cfg s
  | from_hash d => exact tlsh_fromHash_cfg s d
  | reset => rfl

/-- `reset()` assigns every scratch attribute: `reset s` and `reset (init s.cfg)` are the same term -/
theorem tlsh_reinit (lcap : Nat → Nat) (s : TlshO.State) (op : TlshO.Op) (hp : TlshO.isProbe op = true) :
    TlshO.step lcap s op = TlshO.step lcap (TlshO.init s.cfg) op := by
  cases op with
  | call d f => rfl
  | _ => cases hp

theorem tlsh_sound (lcap : Nat → Nat) : Sound (TlshO.machine lcap) Any Any Havoc :=
  havoc_sound (fun _ => rfl) (tlsh_cfg lcap) fun s op hp => congrArg Prod.snd (tlsh_reinit lcap s op hp)

theorem nilsimsa_cfg (s : NilsimsaO.State) (op : NilsimsaO.Op) : (NilsimsaO.step s op).1.cfg = s.cfg := by cases op <;> rfl

theorem nilsimsa_reinit (s : NilsimsaO.State) (op : NilsimsaO.Op) (hp : NilsimsaO.isProbe op = true) :
    (NilsimsaO.step s op).2 = (NilsimsaO.step (NilsimsaO.init s.cfg) op).2 := by
  cases op with
  | call d => rfl
  | _ => cases hp

theorem nilsimsa_sound : Sound NilsimsaO.machine Any Any Havoc := havoc_sound (fun _ => rfl) nilsimsa_cfg nilsimsa_reinit

theorem pure_sound : Sound PureCipher.machine Any Any Havoc := havoc_sound (fun _ => rfl) (fun _ _ => rfl) fun _ _ _ => rfl

/-! ### AES: the cached key schedule is a memo — results depend on it only if it is incoherent -/
theorem aes_sched_of_coherent (s : AesO.State) (h : AesO.Coherent s) : AesO.sched s = Aes.keySchedule s.cfg := by
  unfold AesO.sched
  rcases h with h | h <;> rw [h] <;> rfl

theorem aes_next_eq_step (s : AesO.State) (op : AesO.Op) : AesO.next s op = (AesO.step s op).1 := by
  unfold AesO.next AesO.step
  cases op
  all_goals cases Aes.init s.cfg
  all_goals simp only
  all_goals repeat' split
  all_goals rfl

theorem aes_next_cases (s : AesO.State) (op : AesO.Op) :
    AesO.next s op = s ∨ AesO.next s op = { s with _AES__w := some (AesO.sched s) } := by
  unfold AesO.next
  cases Aes.init s.cfg with
  | error e => exact Or.inl rfl
  | ok kn =>
    cases op with
    | enc M | dec M =>
      simp only
      split
      · exact Or.inl rfl
      · exact Or.inr rfl
    | keyschedule => exact Or.inr rfl

theorem aes_cfg (s : AesO.State) (op : AesO.Op) : (AesO.next s op).cfg = s.cfg := by
  rcases aes_next_cases s op with e | e <;> rw [e]

theorem aes_inv (s : AesO.State) (op : AesO.Op) (h : AesO.Coherent s) : AesO.Coherent (AesO.next s op) := by
  rcases aes_next_cases s op with e | e <;> rw [e]
  · exact h
  · exact Or.inr (congrArg some (aes_sched_of_coherent s h))

theorem aes_result (s s' : AesO.State) (op : AesO.Op) (h : AesO.Coherent s) (h' : AesO.Coherent s') (hc : s.cfg = s'.cfg) :
    (AesO.step s op).2 = (AesO.step s' op).2 := by
  have e : AesO.sched s = AesO.sched s' := by rw [aes_sched_of_coherent s h, aes_sched_of_coherent s' h', hc]
  unfold AesO.step
  rw [hc, e]
  cases Aes.init s'.cfg with
  | error e => cases op <;> rfl
  | ok kn =>
    cases op
    all_goals simp only
    all_goals repeat' split
    all_goals rfl

open Model.Aes Proofs.Aes in
/-- `hw`: with a coherent or empty cache `K' = K`, with a foreign cache `K'` is the foreign key -/
theorem enc_sched (K K' M : List Nat) (w : Option (List (List Nat))) (hK' : KeyOk K') (hl : K'.length = K.length) (hM : St M)
    (hw : w.getD (keySchedule K) = keySchedule K') :
    (AesO.step ⟨K, w⟩ (.enc M)).2 = .ok (.bytes (Spec.Aes.cipher K' M)) := by
  simp only [AesO.step, init_ok (hl ▸ hK'.1), AesO.sched, hw, hM.1, ne_eq, not_true_eq_false, if_false]
  rw [← hl, ((cipher_pair (keysOk_of_key hK')).spec hM).1, (keySchedule_spec_wf hK').1]
  rfl

theorem aes_sound : Sound AesO.machine Any Any AesO.Coherent where
  cfg_init _ := rfl
  cfg_preserved s op := aes_cfg s op
  adm_reconf _ _ _ := trivial
  inv_init _ _ := Or.inl rfl
  inv_preserved s op _ h := aes_inv s op h
  result_depends_on_cfg s s' op _ _ _ h h' hc := aes_result s s' op h h' hc

theorem decRes_indep (c : ModeO.Cfg) (bc : BlockCipher) (st st' : PadState) (C : List Nat) (h : c.scheme ≠ .null) :
    ModeO.decRes c bc st C = ModeO.decRes c bc st' C := by
  unfold ModeO.decRes
  cases c.kind with
  | ecb => exact ecb_dec_state_free bc c.scheme h C st st'
  | cbc => exact cbc_dec_state_free bc _ c.scheme h C st st'
  | ctr => rfl
  | cts_ecb => rfl
  | cts_cbc => rfl

theorem cipherOf_coherent (K : List Nat) (w : Option (List (List Nat))) (h : AesO.Coherent ⟨K, w⟩) :
    ModeO.cipherOf (.aes K) w = ModeO.cipherOf (.aes K) none := by
  have e : ∀ op, (AesO.step ⟨K, w⟩ op).2 = (AesO.step ⟨K, none⟩ op).2 := fun op => aes_result _ _ op h (Or.inl rfl) rfl
  unfold ModeO.cipherOf
  simp only [e]

theorem mode_cipherOf (s : ModeO.State) (h : ModeO.Coherent s) : ModeO.cipherOf s.cfg.cipher s._cipher = ModeO.cipherOf s.cfg.cipher none := by
  unfold ModeO.Coherent at h
  cases hc : s.cfg.cipher with
  | pure bc => rfl
  | aes K =>
    rw [hc] at h
    exact cipherOf_coherent K _ h

theorem mode_next_eq_step (s : ModeO.State) (op : ModeO.Op) : ModeO.next s op = (ModeO.step s op).1 := by
  cases op <;> rfl

theorem mode_cfg (s : ModeO.State) (op : ModeO.Op) : (ModeO.next s op).cfg = s.cfg := by cases op <;> rfl

theorem touched_aes (K : List Nat) (w : Option (List (List Nat))) (h : w = none ∨ w = some (Aes.keySchedule K)) :
    ModeO.touched (.aes K) w = none ∨ ModeO.touched (.aes K) w = some (Aes.keySchedule K) := by
  cases hi : Aes.init K with
  | error e => simp only [ModeO.touched, hi]; exact h
  | ok kn => rcases h with h | h <;> (simp only [ModeO.touched, hi, h]; exact Or.inr rfl)

theorem mode_inv (s : ModeO.State) (op : ModeO.Op) (h : ModeO.Coherent s) : ModeO.Coherent (ModeO.next s op) := by
  have hcfg := mode_cfg s op
  have hci : (ModeO.next s op)._cipher = ModeO.touched s.cfg.cipher s._cipher := by cases op <;> rfl
  unfold ModeO.Coherent at h ⊢
  rw [hcfg, hci]
  cases hc : s.cfg.cipher with
  | pure bc => trivial
  | aes K => rw [hc] at h; exact touched_aes K _ h

/-- `enc` never reads the padding iterator's state: for every padding class, `Nullpadding` included -/
theorem mode_enc_result (s s' : ModeO.State) (M : List Nat) (h : ModeO.Coherent s) (h' : ModeO.Coherent s')
    (hc : s.cfg = s'.cfg) : (ModeO.step s (.enc M)).2 = (ModeO.step s' (.enc M)).2 := by
  show bytesRes (ModeO.encRes s.cfg _ M) = bytesRes (ModeO.encRes s'.cfg _ M)
  rw [mode_cipherOf s h, mode_cipherOf s' h', hc]

theorem mode_result (s s' : ModeO.State) (op : ModeO.Op) (hp : ModeO.isProbe op = true) (ha : s.cfg.scheme ≠ .null)
    (h : ModeO.Coherent s) (h' : ModeO.Coherent s') (hc : s.cfg = s'.cfg) : (ModeO.step s op).2 = (ModeO.step s' op).2 := by
  cases op with
  | enc M => exact mode_enc_result s s' M h h' hc
  | dec C =>
    show bytesRes (ModeO.decRes s.cfg _ s.pad C) = bytesRes (ModeO.decRes s'.cfg _ s'.pad C)
    rw [mode_cipherOf s h, mode_cipherOf s' h', decRes_indep s.cfg _ s.pad s'.pad C ha, hc]
  | cenc b => cases hp
  | cdec b => cases hp
  | sibenc M => cases hp
  | sibdec C => cases hp

/-- admissible mode configurations: every padding class but `Nullpadding` (whose `remove` needs the pad count of the last `enc`) -/
def ModeAdm (c : ModeO.Cfg) : Prop := c.scheme ≠ .null

theorem mode_sound : Sound ModeO.machine ModeAdm Any ModeO.Coherent where
  cfg_init _ := rfl
  cfg_preserved s op := mode_cfg s op
  adm_reconf _ _ h := h
  inv_init c _ := by
    show ModeO.Coherent (ModeO.init c)
    unfold ModeO.Coherent ModeO.init
    cases c.cipher with
    | pure bc => trivial
    | aes K => exact Or.inl rfl
  inv_preserved s op _ h := mode_inv s op h
  result_depends_on_cfg s s' op hp _ ha h h' hc := mode_result s s' op hp ha h h' hc

theorem skein_doUpdate_cfg (s : SkeinO.State) (M : List Nat) (bl : Option Nat) : (SkeinO.doUpdate s M bl).1.cfg = s.cfg := by
  unfold SkeinO.doUpdate; split
  · rfl
  · split <;> rfl

theorem skein_cfg (s : SkeinO.State) (op : SkeinO.Op) : (SkeinO.step s op).1.cfg = s.cfg := by
  cases op with
  | call M bl =>
    simp only [SkeinO.step]; split
    · rfl
    · split <;> rfl
  | update M => exact skein_doUpdate_cfg s M none
  | initstate => rfl

/-- `__call__` never reads the `G` an earlier call left behind: `_initstate()` assigns it first -/
theorem skein_reinit (s : SkeinO.State) (op : SkeinO.Op) (hp : SkeinO.isProbe op = true) :
    (SkeinO.step s op).2 = (SkeinO.step (SkeinO.init s.cfg) op).2 := by
  cases op with
  | call M bl => rfl
  | _ => cases hp

theorem skein_sound : Sound SkeinO.machine Any Any Havoc := havoc_sound (fun _ => rfl) skein_cfg skein_reinit

/-- (G assigned so far, pending exception) read as the result of the method so far -/
def stagesRes (a : List Nat × Option Err) : Except Err (List Nat) :=
  match a.2 with
  | none => .ok a.1
  | some e => .error e

theorem stagesRes_runStage (a : List Nat × Option Err) (go : Bool) (M : List Nat) (ty : String) :
    stagesRes (SkeinO.runStage a go M ty) = (stagesRes a >>= fun G => if go then Skein.stage G M ty else pure G) := by
  obtain ⟨G, e⟩ := a
  cases e with
  | some e => rfl
  | none =>
    cases go with
    | false => rfl
    | true =>
      simp only [SkeinO.runStage, stagesRes, if_true, bind, Except.bind]
      cases Skein.stage G M ty <;> rfl

theorem skein_doInit_eq (c : Skein.Cfg) : stagesRes (SkeinO.doInit c) = Skein.initstate c := by
  unfold SkeinO.doInit Skein.initstate Skein.optStage
  simp only [stagesRes_runStage, if_true, bind_assoc]
  simp only [stagesRes, Fold.ok_bind]

theorem skein_call_eq (s : SkeinO.State) (M : List Nat) (bl : Option Nat) :
    (SkeinO.step s (.call M bl)).2 = bytesRes (Skein.call s.cfg M bl) := by
  have h := skein_doInit_eq s.cfg
  unfold Skein.call
  rw [← h]
  simp only [SkeinO.step, stagesRes]
  split
  · rename_i e he; simp only [he]; rfl
  · rename_i he
    simp only [he, bind, Except.bind]
    cases Skein.updateMsg s.cfg (SkeinO.doInit s.cfg).1 M bl <;> rfl

theorem threefish_sound : Sound ThreefishO.machine Any Any Havoc := havoc_sound (fun _ => rfl) (fun _ _ => rfl) fun _ _ _ => rfl

end Proofs.Lemmas.ObjectsSound
