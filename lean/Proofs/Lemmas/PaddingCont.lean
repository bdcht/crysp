/-
  The continuation of a history.  Two histories are compared at their `lastblock` calls.  A final piece with message bits
  is handed to the same call as in one call on the whole message, whatever the scheme (`continuation_eq`).  An empty final
  piece is not: there one call on the whole message hands over a full block, and the pad behind a full block has to be
  the pad of an empty tail one block later (`lastblock_full`, schemes that always pad).  Last, for the objects that hash
  a stream: `nonfinal_piece`, `piece_then_rest`, and the induction over the pieces of a stream, for any object (`feed_fold`).
-/
import Proofs.Lemmas.PaddingRun
namespace Proofs.Lemmas.Padding
open Model Model.Padder Spec.Padding

theorem finishTail_append (p : Padder) (a b : List (List Nat × PadState)) (st1 : PadState) (pi : List Nat)
    (x : Except Err (List Nat × PadState)) :
    p.finishTail (a ++ b) st1 pi x =
      ⟨a ++ (p.finishTail b st1 pi x).yields, (p.finishTail b st1 pi x).final, (p.finishTail b st1 pi x).err⟩ := by
  cases x with
  | error e => simp [Padder.finishTail]
  | ok v =>
    obtain ⟨npi, st2⟩ := v
    simp only [Padder.finishTail]
    split <;> simp

theorem loopYields_append (p : Padder) (st : PadState) (m1 m2 : List Nat) (n1 k2 : Nat)
    (hm1 : m1.length = n1 * p.blocklen) :
    p.loopYields st (m1 ++ m2) (n1 + k2) = p.loopYields st m1 n1
      ++ p.loopYields { st with bitcnt := st.bitcnt + n1 * p.blocksize } m2 k2 := by
  simp only [Padder.loopYields, List.range_add, List.map_append, List.map_map]
  congr 1
  · apply List.map_congr_left
    intro i hi
    rw [List.mem_range] at hi
    simp [blockAt_append_left p m1 m2 n1 i hm1 hi]
  · apply List.map_congr_left
    intro j _
    simp only [Function.comp, blockAt_append_right p m1 m2 n1 j hm1]
    congr 2
    rw [Nat.add_mul, Nat.add_mul, Nat.add_mul]
    omega

theorem loopCount_add (p : Padder) (hpos : 0 < p.blocksize) (n1 Le : Nat) (hLe : 0 < Le) :
    p.loopCount (n1 * p.blocksize + Le) = n1 + p.loopCount Le := by
  unfold Padder.loopCount
  rw [if_neg (by omega), if_neg (by omega)]
  rw [show n1 * p.blocksize + Le - 1 = (Le - 1) + n1 * p.blocksize by omega, Nat.add_mul_div_right _ _ hpos]
  omega

theorem continuation_eq (p : Padder) (hB : p.blocksize = 8 * p.blocklen) (hbl : 0 < p.blocklen) (st : PadState)
    (hflag : st.padflag = false) (m1 m2 : List Nat) (n1 : Nat) (hm1 : m1.length = n1 * p.blocklen)
    (L2 : Option Nat) (hL2 : effLen m2 L2 ≤ 8 * m2.length) (hpos2 : 0 < effLen m2 L2) :
    p.iterblocks st (m1 ++ m2) (L2.map (8 * m1.length + ·)) true =
      ⟨p.loopYields st m1 n1 ++ (p.iterblocks { st with bitcnt := st.bitcnt + 8 * m1.length } m2 L2 true).yields,
       (p.iterblocks { st with bitcnt := st.bitcnt + 8 * m1.length } m2 L2 true).final,
       (p.iterblocks { st with bitcnt := st.bitcnt + 8 * m1.length } m2 L2 true).err⟩ := by
  have hpos : 0 < p.blocksize := by omega
  have h8 : 8 * m1.length = n1 * p.blocksize := by rw [hm1, hB, Nat.mul_left_comm]
  have hLe : (L2.map (8 * m1.length + ·)).getD (8 * (m1 ++ m2).length) = n1 * p.blocksize + effLen m2 L2 :=
    (effLen_shift m1 m2 L2).trans (by rw [h8])
  have hL1 : (L2.map (8 * m1.length + ·)).getD (8 * (m1 ++ m2).length) ≤ 8 * (m1 ++ m2).length := by
    rw [hLe, List.length_append]
    omega
  rw [iterblocks_padded p st (m1 ++ m2) _ hflag hL1,
    iterblocks_padded p { st with bitcnt := st.bitcnt + 8 * m1.length } m2 L2 hflag hL2]
  rw [hLe, loopCount_add p hpos n1 _ hpos2, loopYields_append p st m1 m2 n1 _ hm1,
    blockAt_append_right p m1 m2 n1 _ hm1, finishTail_append]
  have e1 : ∀ k, st.bitcnt + (n1 + k) * p.blocksize = st.bitcnt + n1 * p.blocksize + k * p.blocksize := by
    intro k
    rw [Nat.add_mul]
    omega
  have e2 : Option.map (fun x => st.bitcnt + x) (Option.map (fun x => n1 * p.blocksize + x) L2)
      = Option.map (fun x => st.bitcnt + n1 * p.blocksize + x) L2 := by
    cases L2 <;> simp [Nat.add_assoc]
  simp only [h8, effLen, e1, e2]

/-- schemes that add at least one pad bit to every message -/
def AlwaysPads : Model.Scheme → Prop
  | .no | .null => False
  | _ => True

theorem AlwaysPads.minPad_pos {s : Model.Scheme} (h : AlwaysPads s) : 1 ≤ minPad s := by
  cases s <;> simp [AlwaysPads, minPad] at h ⊢ <;> omega

theorem lastblock_full (p : Padder) (hv : Valid p) (hap : AlwaysPads p.scheme) (st : PadState) (pi : List Nat)
    (hpi : Bytes pi) (hlen : pi.length = p.blocklen) :
    ∃ T0 s2, p.lastblock st pi none = .ok (pi ++ T0, s2) ∧
      p.lastblock { st with bitcnt := st.bitcnt + p.blocksize } [] none = .ok (T0, s2) ∧
      T0.length = p.blocklen ∧ s2.bitcnt = st.bitcnt + p.blocksize := by
  have hB := hv.size_eq
  have hno : p.scheme ≠ .no := by
    intro h
    rw [h] at hap
    exact hap
  have h1 := lastblock_ok p hv st pi (fun _ => hpi) (Nat.le_of_eq hlen) none p.blocksize (by omega) (.inl ⟨rfl, by omega⟩)
    (fun h => absurd rfl h)
  have h2 := lastblock_ok p hv { st with bitcnt := st.bitcnt + p.blocksize } [] (fun _ x hx => by cases hx) (Nat.zero_le _)
    none 0 (Nat.zero_le _) (.inl ⟨rfl, rfl⟩) (fun h => absurd rfl h)
  rw [pieceBits_zero, List.nil_append] at h2
  have ht := modelTail_total p hv (st.bitcnt + p.blocksize) 0 (Nat.zero_le _) (fun _ => rfl) hno
  simp only [Nat.zero_add, if_pos (minPad_le p hv)] at ht
  refine ⟨_, _, ?_, h2, ?_, rfl⟩
  · rw [h1, pieceBits_bytes pi hpi _ (by omega), List.take_of_length_le (by rw [bytesToBits_length]; omega),
      bitsToBytes_bytesToBits_append pi hpi, modelTail_full p hv hap.minPad_pos, tailPadcnt_full p hv hap.minPad_pos]
    rfl
  · rw [bitsToBytes_length, ht]
    omega

theorem continuation_empty_eq (p : Padder) (hv : Valid p) (hap : AlwaysPads p.scheme) (st : PadState)
    (hflag : st.padflag = false) (m1 : List Nat) (hm : Bytes m1) (n : Nat)
    (hm1 : 8 * m1.length = (n + 1) * p.blocksize) :
    let one := p.iterblocks st m1 none true
    let two := p.iterblocks { st with bitcnt := st.bitcnt + 8 * m1.length } [] none true
    one.err = none ∧ two.err = none ∧
    one.yields.map (·.1) = (p.loopYields st m1 (n + 1)).map (·.1) ++ two.yields.map (·.1) ∧
    one.yields.map (·.2.bitcnt) = (p.loopYields st m1 (n + 1)).map (·.2.bitcnt) ++ two.yields.map (·.2.bitcnt) ∧
    one.final = two.final := by
  intro one two
  have hB := hv.size_eq
  have hpos := hv.pos
  have hbl := hv.blocklen_pos
  have hn1 : (n + 1) * p.blocksize = n * p.blocksize + p.blocksize := Nat.succ_mul _ _
  have hnb : n * p.blocksize = 8 * (n * p.blocklen) := by rw [hB, Nat.mul_left_comm]
  have hk1 : p.loopCount (8 * m1.length) = n := by
    rw [hm1, Padder.loopCount, if_neg (by omega)]
    apply Nat.div_eq_of_lt_le <;> omega
  have hpil : (p.blockAt m1 n).length = p.blocklen := by
    rw [blockAt_length]
    omega
  obtain ⟨T0, s2, g1, g2, gl, gc⟩ := lastblock_full p hv hap { st with bitcnt := st.bitcnt + n * p.blocksize }
    (p.blockAt m1 n) (Bytes_blockAt p hm n) hpil
  -- the call on the data: n blocks through the loop, then the full block and the padding-only block
  have h1 : one = ⟨p.loopYields st m1 n ++ [(p.blockAt m1 n, s2), (T0, { s2 with bitcnt := 0 })],
      { s2 with bitcnt := 0 }, none⟩ := by
    show p.iterblocks st m1 none true = _
    rw [iterblocks_padded p st m1 none hflag (Nat.le_refl _)]
    simp only [Option.getD_none, Option.map_none, hk1]
    rw [g1, finishTail_ok p _ _ _ _ _ s2 (if_neg (by simp only [gc]; omega)),
      if_pos (by rw [List.drop_left' hpil, gl]; exact hbl), List.take_left' hpil, List.drop_left' hpil]
  have h2 : two = ⟨[(T0, { s2 with bitcnt := 0 })], { s2 with bitcnt := 0 }, none⟩ := by
    have est : ({ padflag := st.padflag, bitcnt := st.bitcnt + 8 * m1.length + 0 * p.blocksize, padcnt := st.padcnt } : PadState)
        = { padflag := st.padflag, bitcnt := st.bitcnt + n * p.blocksize + p.blocksize, padcnt := st.padcnt } := by
      congr 1
      omega
    show p.iterblocks { st with bitcnt := st.bitcnt + 8 * m1.length } [] none true = _
    rw [iterblocks_padded p { st with bitcnt := st.bitcnt + 8 * m1.length } [] none hflag (Nat.le_refl _)]
    simp only [Option.getD_none, Option.map_none, List.length_nil, Nat.mul_zero, Padder.loopCount, if_true, Padder.loopYields,
      List.range_zero, List.map_nil, Padder.blockAt, List.drop_nil, List.take_nil, est]
    rw [g2, finishTail_ok p _ _ _ _ _ { s2 with bitcnt := 0 } (if_pos (by simp only [gc])),
      if_neg (by rw [List.length_drop]; omega), List.take_of_length_le (Nat.le_of_eq gl)]
    rfl
  rw [h1, h2, loopYields_succ]
  refine ⟨rfl, rfl, ?_, ?_, rfl⟩
  · simp only [List.map_append, List.map_cons, List.map_nil, List.append_assoc, List.singleton_append]
  · simp only [List.map_append, List.map_cons, List.map_nil, List.append_assoc, List.singleton_append, gc, hn1,
      Nat.add_assoc]

/-- `continuation_eq` with the first piece as the `padding=False` call it stands for -/
theorem pieces_run (p : Padder) (hv : Valid p) (st : PadState) (hflag : st.padflag = false)
    (m1 m2 : List Nat) (hm1 : (8 * m1.length) % p.blocksize = 0)
    (L2 : Option Nat) (hL2 : effLen m2 L2 ≤ 8 * m2.length) (hpos2 : 0 < effLen m2 L2) :
    let r1 := p.iterblocks st m1 none false
    let r2 := p.iterblocks r1.final m2 L2 true
    let one := p.iterblocks st (m1 ++ m2) (L2.map (8 * m1.length + ·)) true
    r1.err = none ∧ one.yields = r1.yields ++ r2.yields ∧ one.final = r2.final ∧ one.err = r2.err := by
  intro r1 r2 one
  have hB := hv.size_eq
  have hr1 : r1 = ⟨p.loopYields st m1 (8 * m1.length / p.blocksize), { st with bitcnt := st.bitcnt + 8 * m1.length }, none⟩ :=
    unpadded_run p hv.pos st hflag m1 none (Nat.le_refl _) hm1
  obtain ⟨n1, hn1, hd, hn8⟩ := whole_blocks p hv _ hm1
  have hlen : m1.length = n1 * p.blocklen := by omega
  have hc := continuation_eq p hB hv.blocklen_pos st hflag m1 m2 n1 hlen L2 hL2 hpos2
  have hone : one = _ := hc
  refine ⟨by rw [hr1], ?_, ?_, ?_⟩ <;> rw [hone] <;> simp only [r2, hr1, hd]

theorem pieces_run_empty (p : Padder) (hv : Valid p) (hap : AlwaysPads p.scheme) (st : PadState)
    (hflag : st.padflag = false) (m1 : List Nat) (hm : Bytes m1) (hne : m1 ≠ [])
    (hm1 : (8 * m1.length) % p.blocksize = 0) :
    let r1 := p.iterblocks st m1 none false
    let r2 := p.iterblocks r1.final [] none true
    let one := p.iterblocks st m1 none true
    r1.err = none ∧ r2.err = none ∧ one.err = none ∧
    one.yields.map (·.1) = r1.yields.map (·.1) ++ r2.yields.map (·.1) ∧
    one.yields.map (·.2.bitcnt) = r1.yields.map (·.2.bitcnt) ++ r2.yields.map (·.2.bitcnt) ∧
    one.final = r2.final := by
  intro r1 r2 one
  obtain ⟨n1, hn1, hd, _⟩ := whole_blocks p hv _ hm1
  have hpos1 : 0 < m1.length := List.length_pos_iff.mpr hne
  have hn0 : n1 ≠ 0 := by
    intro h
    rw [h] at hn1
    omega
  obtain ⟨n, rfl⟩ : ∃ n, n1 = n + 1 := ⟨n1 - 1, by omega⟩
  have hr1 : r1 = ⟨p.loopYields st m1 (n + 1), { st with bitcnt := st.bitcnt + 8 * m1.length }, none⟩ := by
    have := unpadded_run p hv.pos st hflag m1 none (Nat.le_refl _) hm1
    rwa [effLen, Option.getD_none, hd] at this
  obtain ⟨g1, g2, g3, g4, g5⟩ := continuation_empty_eq p hv hap st hflag m1 hm n hn1
  have hr2 : r2 = p.iterblocks { st with bitcnt := st.bitcnt + 8 * m1.length } [] none true := by
    simp only [r2, hr1]
  rw [hr2]
  refine ⟨by rw [hr1], g2, g1, ?_, ?_, g5⟩
  · rw [hr1]
    exact g3
  · rw [hr1]
    exact g4

theorem aligned_bits (p : Padder) (hv : Valid p) (a : List Nat) (h : a.length % p.blocklen = 0) :
    8 * a.length % p.blocksize = 0 := by
  rw [hv.size_eq, Nat.mul_mod_mul_left, h]

theorem nonfinal_piece (p : Padder) (hv : Valid p) (st : PadState) (hpf : st.padflag = false) (a : List Nat)
    (hal : a.length % p.blocklen = 0) :
    (p.iterblocks st a none false).final = { st with bitcnt := st.bitcnt + 8 * a.length } ∧
    (p.iterblocks st a none false).err = none := by
  rw [unpadded_run p hv.pos st hpf a none (Nat.le_refl _) (aligned_bits p hv a hal)]
  exact ⟨rfl, rfl⟩

theorem piece_then_rest (p : Padder) (hv : Valid p) (st : PadState) (hpf : st.padflag = false) (a b : List Nat)
    (hal : a.length % p.blocklen = 0) (hb : b ≠ []) :
    (p.iterblocks st (a ++ b) none true).yields =
      (p.iterblocks st a none false).yields ++ (p.iterblocks (p.iterblocks st a none false).final b none true).yields ∧
    (p.iterblocks st (a ++ b) none true).final = (p.iterblocks (p.iterblocks st a none false).final b none true).final ∧
    (p.iterblocks st (a ++ b) none true).err = (p.iterblocks (p.iterblocks st a none false).final b none true).err :=
  (pieces_run p hv st hpf a b (aligned_bits p hv a hal) none (Nat.le_refl _)
    (Nat.mul_pos (by decide) (List.length_pos_iff.mpr hb))).2

/-- The induction over the pieces of a streamed hash, for any object: `pad` reads the padding state out of the object, `step`
    is a non-final `update`, `fin` the final one.  `P` is what is asked of a non-final piece (whole blocks), `R` of the final
    piece; `hR` lets the final piece absorb the pieces pushed onto it as the induction folds them into the last call. -/
theorem feed_fold {σ ρ : Type} (pad : σ → PadState) (step : σ → List Nat → σ) (fin : σ → List Nat → ρ)
    (P R : List Nat → Prop) (hR : ∀ a b, R b → R (a ++ b))
    (hnil : ∀ s, (pad s).padflag = false → step s [] = s)
    (hstep : ∀ s a, (pad s).padflag = false → a ≠ [] → P a →
      pad (step s a) = { pad s with bitcnt := (pad s).bitcnt + 8 * a.length } ∧
      ∀ b, R b → fin s (a ++ b) = fin (step s a) b)
    (pieces : List (List Nat)) (hP : ∀ p ∈ pieces, P p) (final : List Nat) (hf : R final) :
    ∀ s, (pad s).padflag = false →
      fin (pieces.foldl step s) final = fin s (pieces.flatten ++ final) ∧
      pad (pieces.foldl step s) = { pad s with bitcnt := (pad s).bitcnt + 8 * pieces.flatten.length } := by
  induction pieces with
  | nil => exact fun s _ => ⟨rfl, rfl⟩
  | cons p ps ih =>
    intro s hpf
    have ih := ih (fun q hq => hP q (by simp [hq]))
    rw [List.foldl_cons, List.flatten_cons, List.append_assoc, List.length_append]
    by_cases hp : p = []
    · subst hp
      rw [hnil s hpf, List.nil_append, List.length_nil, Nat.zero_add]
      exact ih s hpf
    · obtain ⟨hpad, happ⟩ := hstep s p hpf hp (hP p (by simp))
      obtain ⟨ih1, ih2⟩ := ih (step s p) (by rw [hpad]; exact hpf)
      refine ⟨by rw [ih1, happ _ (hR _ _ hf)], ?_⟩
      rw [ih2, hpad, Nat.mul_add, Nat.add_assoc]

end Proofs.Lemmas.Padding
