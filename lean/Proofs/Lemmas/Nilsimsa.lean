/-
  Helper lemmas about Model.Nilsimsa for Proofs.C19: `distance` (= `Bits(h1).hd(h2)` through Model.Bits) is the
  Hamming distance; the histogram refinement Model = Spec.
-/
import Model.Nilsimsa
import Spec.Nilsimsa
import Proofs.Lemmas.Lsh
import Proofs.Lemmas.BitsConv
import Proofs.Lemmas.BitsExt
import Proofs.Lemmas.Fold
namespace Proofs.Lemmas.Nilsimsa
open Model Model.Nilsimsa Proofs.Lemmas.Lsh

theorem hw8_rev : ∀ z < 256, Bits.hw ⟨Bits.reverseByte z, 8⟩ = Spec.Nilsimsa.popcount8 z := by decide +kernel

/-- `leInt` of the bit-reversed bytes is the integer `Bits(h)` loads from the digest `h` (`Bits.ofBytes_rev_eq`), so the left
    side is crysp's `hd` of two digests; reversing a byte keeps its weight (`hw8_rev`), so bytes can be compared one by one -/
theorem hw_xor (a b : List Nat) (hl : a.length = b.length) (ha : ∀ x ∈ a, x < 256) (hb : ∀ x ∈ b, x < 256) :
    Bits.hw ⟨Py.leInt (a.map Bits.reverseByte) ^^^ Py.leInt (b.map Bits.reverseByte), 8 * a.length⟩
      = Spec.Nilsimsa.hamming a b := by
  induction a generalizing b with
  | nil =>
    cases b with
    | nil => rfl
    | cons y ys => simp at hl
  | cons x xs ih =>
    cases b with
    | nil => simp at hl
    | cons y ys =>
      have hx : x < 256 := Bytes.AllBytes.head ha
      have hy : y < 256 := Bytes.AllBytes.head hb
      have hxy : x ^^^ y < 256 := Nat.xor_lt_two_pow (n := 8) hx hy
      have e : Py.leInt ((x :: xs).map Bits.reverseByte) ^^^ Py.leInt ((y :: ys).map Bits.reverseByte)
          = Bits.reverseByte (x ^^^ y)
            + 256 * (Py.leInt (xs.map Bits.reverseByte) ^^^ Py.leInt (ys.map Bits.reverseByte)) := by
        rw [← Bits.reverseByte_xor x y hx hy]
        apply Nat.eq_of_testBit_eq
        intro i
        simp only [List.map_cons, Py.leInt, Nat.testBit_xor, Bytes.byte_cons_testBit _ _ (Bits.reverseByte_lt x hx),
          Bytes.byte_cons_testBit _ _ (Bits.reverseByte_lt y hy),
          Bytes.byte_cons_testBit _ _ (Bits.reverseByte_xor x y hx hy ▸ Bits.reverseByte_lt _ hxy)]
        split <;> rfl
      rw [e, show 8 * (x :: xs).length = 8 + 8 * xs.length by simp; omega,
        Bits.hw_split _ _ _ (Bits.reverseByte_lt _ hxy),
        hw8_rev _ hxy, ih ys (by simpa using hl) (Bytes.AllBytes.tail ha) (Bytes.AllBytes.tail hb)]
      simp [Spec.Nilsimsa.hamming]

theorem popcount8_zero : ∀ z < 256, (Spec.Nilsimsa.popcount8 z = 0 ↔ z = 0) := by decide +kernel

theorem hamming_comm (a b : List Nat) : Spec.Nilsimsa.hamming a b = Spec.Nilsimsa.hamming b a :=
  zipSum_comm (fun x y => by rw [Nat.xor_comm]) a b

theorem hamming_eq_zero (a b : List Nat) (hl : a.length = b.length) (ha : ∀ x ∈ a, x < 256) (hb : ∀ x ∈ b, x < 256) :
    Spec.Nilsimsa.hamming a b = 0 ↔ a = b :=
  zipSum_eq_zero a b hl fun x hx y hy => by
    rw [popcount8_zero _ (Nat.xor_lt_two_pow (n := 8) (ha x hx) (hb y hy)), Bits.xor_eq_zero_iff]

theorem fold_sum (P : Nat → Bool) (l : List Nat) (acc : Nat) :
    l.foldl (fun acc b => if P b then acc + (1 <<< b) else acc) acc = acc + (l.map fun b => if P b then 2 ^ b else 0).sum := by
  induction l generalizing acc with
  | nil => simp
  | cons b bs ih =>
    simp only [List.foldl_cons, List.map_cons, List.sum_cons]
    rw [ih]
    split <;> simp [Nat.one_shiftLeft] <;> omega

theorem codeByte_eq (dacc : List Nat) (thres k : Nat) :
    codeByte dacc thres k = ((List.range 8).map fun b => if dacc.getD (8 * k + b) 0 > thres then 2 ^ b else 0).sum := by
  have := fold_sum (fun b => decide (dacc.getD (8 * k + b) 0 > thres)) (List.range 8) 0
  simp only [decide_eq_true_eq, Nat.zero_add] at this
  exact this

theorem codeByte_lt (dacc : List Nat) (thres k : Nat) : codeByte dacc thres k < 256 := by
  have h := Fold.sum_map_le (l := List.range 8) (f := fun b => if dacc.getD (8 * k + b) 0 > thres then 2 ^ b else 0)
    (g := (2 ^ ·)) fun b _ => by split <;> simp
  have e : ((List.range 8).map (2 ^ ·)).sum = 255 := by decide
  rw [codeByte_eq]
  omega

theorem digest_length (s : St) : (digest s).length = 32 := by simp [digest]

theorem digest_lt (s : St) : ∀ x ∈ digest s, x < 256 := by
  intro x hx
  simp only [digest, List.mem_reverse, List.mem_map] at hx
  obtain ⟨k, _, rfl⟩ := hx
  exact codeByte_lt _ _ _

theorem and255 (x : Nat) : x &&& 255 = x % 256 := Nat.and_two_pow_sub_one_eq_mod x 8

theorem scan_eq (T : List Nat) (fuel j : Nat) (rest : List Nat) :
    scan T fuel j rest = Spec.Nilsimsa.scan T fuel j rest := by
  induction fuel generalizing j rest with
  | zero => simp [scan, Spec.Nilsimsa.scan]
  | succ n ih =>
    cases rest with
    | nil => simp [scan, Spec.Nilsimsa.scan]
    | cons x r =>
      simp only [scan, Spec.Nilsimsa.scan, and255, List.drop_one]
      by_cases h : x = j
      · simp [h, ih]
      · have h' : ¬ j = x := fun e => h e.symm
        simp [h, h', ih]

theorem maketranAux_eq (t n j : Nat) (T : List Nat) : maketranAux t n j T = Spec.Nilsimsa.filltranAux t n j T := by
  induction n generalizing j T with
  | zero => rfl
  | succ n ih => simp only [maketranAux, Spec.Nilsimsa.filltranAux, and255, scan_eq, scanFuel, ih]

theorem maketran_eq (t : Nat) : maketran t = Spec.Nilsimsa.filltran t := maketranAux_eq t 256 0 []

theorem tran3_eq (tran : List Nat) (a b c n : Nat) : tran3 tran a b c n = Spec.Nilsimsa.tran3 tran a b c n := by
  simp only [tran3, Spec.Nilsimsa.tran3, and255]

theorem tran3_lt (tran : List Nat) (a b c n : Nat) : tran3 tran a b c n < 256 := by
  rw [tran3, and255]; exact Nat.mod_lt _ (by decide)

theorem total_eq (n : Nat) : total n = Spec.Nilsimsa.total n := by
  unfold total Spec.Nilsimsa.total
  repeat' split
  all_goals omega

def back (d : List Nat) (k j : Nat) : Option Nat := if j ≤ k then some (d.getD (k - j) 0) else none

/-- the object after the first `k` bytes of `d` -/
def stateAt (tran d : List Nat) (k : Nat) : St :=
  ⟨k, hist ((List.range k).flatMap (Spec.Nilsimsa.eventsAt tran d.toArray)), back d k 1, back d k 2, back d k 3, back d k 4⟩

theorem step_stateAt (tran d : List Nat) (k : Nat) : step tran (stateAt tran d k) (d.getD k 0) = stateAt tran d (k + 1) := by
  unfold step stateAt
  rw [List.range_succ, List.flatMap_append, List.flatMap_singleton, ← foldl_modify_hist]
  generalize hist _ = H
  -- the window fills during the first four bytes; from then on model and reference test the same four entries
  rcases k with _ | _ | _ | _ | k
  all_goals simp [back, bump, Spec.Nilsimsa.eventsAt, ← tran3_eq]

theorem update_init (tran d : List Nat) : update tran St.init d = stateAt tran d d.length := by
  have h0 : St.init = stateAt tran d 0 := by simp only [St.init, stateAt, hist_nil, List.range_zero, List.flatMap_nil]; rfl
  rw [h0]
  refine Fold.foldl_index (step tran) (stateAt tran d) d fun k hk => ?_
  rw [← step_stateAt, List.getD_eq_getElem?_getD, List.getElem?_eq_getElem hk, Option.getD_some]

theorem codeByte_hist (E : List Nat) (thr k : Nat) (hk : k < 32) :
    codeByte (hist E) thr k = ((List.range 8).map fun b => if E.count (8 * k + b) > thr then 2 ^ b else 0).sum := by
  rw [codeByte_eq]
  congr 1
  apply List.map_congr_left
  intro b hb
  rw [hist_getD _ _ (by have := List.mem_range.mp hb; omega)]

end Proofs.Lemmas.Nilsimsa
