/-
  Lemmas about Model.Multi: the run of interleaved steps on a store of objects, seen from one object.
-/
import Model.Multi
namespace Proofs.Lemmas.MultiProj
open Model.Multi

theorem own_cons_eq {ω : Type} (j : Nat) (op : ω) (rest : List (Nat × ω)) :
    own j ((j, op) :: rest) = op :: own j rest := by
  simp [own]

theorem own_cons_ne {ω : Type} {j k : Nat} (h : k ≠ j) (op : ω) (rest : List (Nat × ω)) :
    own j ((k, op) :: rest) = own j rest := by
  simp [own, h]

theorem run_proj {σ ω ρ : Type} (step : Nat → σ → ω → σ × ρ) (j : Nat) :
    ∀ (steps : List (Nat × ω)) (objs : List σ) (o : σ), objs[j]? = some o →
      (run step objs steps).1[j]? = some (runOne (step j) o (own j steps)).1 ∧
      ((run step objs steps).2.filter (·.1 == j)).map (·.2) = (runOne (step j) o (own j steps)).2 := by
  intro steps
  induction steps with
  | nil => exact fun objs o h => ⟨h, rfl⟩
  | cons st rest ih =>
    intro objs o h
    obtain ⟨k, op⟩ := st
    by_cases hk : k = j
    · subst hk
      have := ih (objs.set k (step k o op).1) (step k o op).1 (by rw [List.getElem?_set_self', h]; rfl)
      rw [own_cons_eq]
      simp only [run, h, runOne]
      exact ⟨this.1, by simp only [List.filter_cons, beq_self_eq_true, if_true, List.map_cons, this.2]⟩
    · rw [own_cons_ne hk]
      cases hq : objs[k]? with
      | none =>
        simp only [run, hq]
        exact ih objs o h
      | some ok =>
        have := ih (objs.set k (step k ok op).1) o (by rw [List.getElem?_set_ne hk, h])
        have hb : (k == j) = false := beq_false_of_ne hk
        simp only [run, hq]
        exact ⟨this.1, by simp only [List.filter_cons, hb, Bool.false_eq_true, if_false, this.2]⟩

end Proofs.Lemmas.MultiProj
