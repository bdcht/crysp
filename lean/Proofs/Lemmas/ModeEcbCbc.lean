/-
  Helper lemmas for C05: ECB and CBC.  Decryption is first described on ANY string of whole byte blocks
  (`ecb_dec_blocks`, `cbc_dec_blocks`, and `ecbInv_blocks`, `cbcInv_blocks` for the Spec inverses); that it undoes
  encryption is then `D ∘ E = id` block by block.
-/
import Proofs.Lemmas.ModePadL
namespace Proofs.Lemmas.ModeL
open Model Model.Mode
variable {c : BlockCipher} {k : Spec.Mode.Cipher}

theorem ecb_eq_join (h : Implements c k) (s : Spec.ModePad.Scheme) (M : List Nat) :
    Spec.Mode.ecb k s M = join ((Spec.Mode.blocks c.len (Spec.ModePad.pad s c.len M)).map k.E) := by
  unfold Spec.Mode.ecb Spec.Mode.ecbEncrypt Spec.Mode.concat
  rw [h.len_eq]

theorem ecb_dec_blocks (h : Implements c k) (s : Scheme) (Q : List (List Nat)) (hQ : ∀ b ∈ Q, IsBlock c.len b) (st : PadState) :
    ECB.dec c s (join Q) st = Padder.remove ⟨s, 8 * c.len⟩ st (join (Q.map k.D)) := by
  have hl : ∀ b ∈ Q, b.length = c.len := fun b hb => (hQ b hb).1
  unfold ECB.dec
  rw [mkPad_ok c s h.len_pos]
  simp only [length_join_of_all c.len Q hl, Nat.mul_mod_left, Nat.mul_div_cancel _ h.len_pos, ne_eq, not_true_eq_false,
    if_false]
  rw [readBlocks_join c.len h.len_pos Q hl, mapE_ok c.dec k.D Q fun b hb => h.dec_ok b (hQ b hb)]

theorem ecbInv_blocks (k : Spec.Mode.Cipher) (hl : 0 < k.len) (s : Spec.ModePad.Scheme) (Q : List (List Nat))
    (hQ : ∀ b ∈ Q, b.length = k.len) :
    Spec.Mode.ecbInv k s (join Q) = Spec.ModePad.unpad s k.len (join (Q.map k.D)) := by
  unfold Spec.Mode.ecbInv Spec.Mode.ecbDecrypt Spec.Mode.concat
  rw [blocks_full k.len hl Q hQ]

theorem ecb_facts (h : Implements c k) (s : Spec.ModePad.Scheme) (M : List Nat) (hM : Bytes M) (hd : PadDom s c.len M) :
    ECB.enc c (toModel s) M = .ok (Spec.Mode.ecb k s M) ∧
    (∀ st, ECB.dec c (toModel s) (Spec.Mode.ecb k s M) st = .ok M) ∧
    (Spec.Mode.ecb k s M).length = if s = .none then M.length else (M.length / c.len + 1) * c.len := by
  have pf := padFacts s c.len h.len_pos M hd hM
  obtain ⟨hP, hj⟩ := blocks_of_bytes h.len_pos pf.len pf.bytes
  have hE := (h.pair.map.st hP).1
  rw [ecb_eq_join h]
  refine ⟨?_, fun st => ?_, ?_⟩
  · unfold ECB.enc
    rw [mkPad_ok c _ h.len_pos]
    simp only [pf.iter]
    rw [forBlocks_none, mapE_ok c.enc k.E _ fun b hb => h.enc_ok b (hP b hb)]
  · rw [ecb_dec_blocks h _ _ hE, (h.pair.map.undo hP).1, hj]
    exact pf.remove st
  · rw [length_join_of_all c.len _ fun b hb => (hE b hb).1, List.length_map,
      ← length_join_of_all c.len _ fun b hb => (hP b hb).1, hj, pad_length s c.len h.len_pos]

theorem ecbInv_ecb (h : Implements c k) (s : Spec.ModePad.Scheme) (M : List Nat)
    (hlen : ∃ n, (Spec.ModePad.pad s c.len M).length = n * c.len) (hb : Bytes (Spec.ModePad.pad s c.len M)) :
    Spec.Mode.ecbInv k s (Spec.Mode.ecb k s M) = Spec.ModePad.unpad s k.len (Spec.ModePad.pad s k.len M) := by
  obtain ⟨hP, hj⟩ := blocks_of_bytes h.len_pos hlen hb
  have hE := (h.pair.map.st hP).1
  rw [ecb_eq_join h, ecbInv_blocks k (h.len_eq ▸ h.len_pos) s _ fun b hb => h.len_eq ▸ (hE b hb).1, (h.pair.map.undo hP).1, hj,
    h.len_eq]

theorem cbc_eq_join (h : Implements c k) (iv : List Nat) (s : Spec.ModePad.Scheme) (M : List Nat) :
    Spec.Mode.cbc k iv s M
      = join (iv :: Spec.Mode.cbcEncrypt k iv (Spec.Mode.blocks c.len (Spec.ModePad.pad s c.len M))) := by
  unfold Spec.Mode.cbc Spec.Mode.concat
  rw [h.len_eq]
  rfl

/-- `dec` takes the IV from the input (`iv0`); the object's own `iv` only has to be one block long -/
theorem cbc_dec_blocks (h : Implements c k) (iv : List Nat) (hiv : iv.length = c.len) (s : Scheme) (iv0 : List Nat)
    (hiv0 : iv0.length = c.len) (Q : List (List Nat)) (hQ : ∀ b ∈ Q, IsBlock c.len b) (st : PadState) :
    CBC.dec c iv s (join (iv0 :: Q)) st = Padder.remove ⟨s, 8 * c.len⟩ st (join (Spec.Mode.cbcDecrypt k iv0 Q)) := by
  have hl : ∀ b ∈ iv0 :: Q, b.length = c.len := List.forall_mem_cons.2 ⟨hiv0, fun b hb => (hQ b hb).1⟩
  unfold CBC.dec
  rw [mkPad_ok c s h.len_pos]
  simp only [hiv, ne_eq, not_true_eq_false, if_false]
  rw [cbcUnchain_join h iv0 hiv0 Q hQ, List.append_nil, length_join_of_all c.len _ hl]
  simp only [Nat.mul_mod_left, not_true_eq_false, if_false]

theorem cbcInv_blocks (k : Spec.Mode.Cipher) (hl : 0 < k.len) (s : Spec.ModePad.Scheme) (iv0 : List Nat) (Q : List (List Nat))
    (hQ : ∀ b ∈ iv0 :: Q, b.length = k.len) :
    Spec.Mode.cbcInv k s (join (iv0 :: Q)) = Spec.ModePad.unpad s k.len (join (Spec.Mode.cbcDecrypt k iv0 Q)) := by
  unfold Spec.Mode.cbcInv
  rw [blocks_full k.len hl _ hQ]
  rfl

theorem cbc_facts (h : Implements c k) (iv : List Nat) (hiv : IsBlock c.len iv) (s : Spec.ModePad.Scheme) (M : List Nat)
    (hM : Bytes M) (hd : PadDom s c.len M) :
    CBC.enc c iv (toModel s) M = .ok (Spec.Mode.cbc k iv s M) ∧
    (∀ st, CBC.dec c iv (toModel s) (Spec.Mode.cbc k iv s M) st = .ok M) ∧
    (Spec.Mode.cbc k iv s M).take c.len = iv ∧
    (Spec.Mode.cbc k iv s M).length = (if s = .none then M.length else (M.length / c.len + 1) * c.len) + c.len := by
  have pf := padFacts s c.len h.len_pos M hd hM
  obtain ⟨hP, hj⟩ := blocks_of_bytes h.len_pos pf.len pf.bytes
  obtain ⟨hc, hC⟩ := cbcChain_eq h _ iv hiv hP
  rw [cbc_eq_join h]
  refine ⟨?_, fun st => ?_, List.take_left' hiv.1, ?_⟩
  · unfold CBC.enc
    rw [mkPad_ok c _ h.len_pos]
    simp only [pf.iter, hiv.1, ne_eq, not_true_eq_false, if_false]
    rw [forBlocks_none, hc]
  · rw [cbc_dec_blocks h iv hiv.1 _ iv hiv.1 _ hC, cbcDecrypt_encrypt h _ iv hiv hP, hj]
    exact pf.remove st
  · show (iv ++ join _).length = _
    rw [List.length_append, length_join_of_all c.len _ fun b hb => (hC b hb).1, cbcEncrypt_length, hiv.1,
      ← length_join_of_all c.len _ fun b hb => (hP b hb).1, hj, pad_length s c.len h.len_pos, Nat.add_comm]

theorem cbcInv_cbc (h : Implements c k) (iv : List Nat) (hiv : IsBlock c.len iv) (s : Spec.ModePad.Scheme) (M : List Nat)
    (hlen : ∃ n, (Spec.ModePad.pad s c.len M).length = n * c.len) (hb : Bytes (Spec.ModePad.pad s c.len M)) :
    Spec.Mode.cbcInv k s (Spec.Mode.cbc k iv s M) = Spec.ModePad.unpad s k.len (Spec.ModePad.pad s k.len M) := by
  obtain ⟨hP, hj⟩ := blocks_of_bytes h.len_pos hlen hb
  have hC := (cbcChain_eq h _ iv hiv hP).2
  rw [cbc_eq_join h, cbcInv_blocks k (h.len_eq ▸ h.len_pos) s, cbcDecrypt_encrypt h _ iv hiv hP, hj, h.len_eq]
  rw [h.len_eq]
  exact List.forall_mem_cons.2 ⟨hiv.1, fun b hb => (hC b hb).1⟩

end Proofs.Lemmas.ModeL
