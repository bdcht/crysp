/-
  Spec.Keccak's permutation on ONE natural number, for evaluation inside the kernel (no model involved).
  The state is the number whose bits w·i … w·i+w−1 are lane i (what `bitsToNat` reads from the state's string, §3.1.2), so
  that every step reads and writes lanes by `>>>`, `%`, `|||` on numerals (the instances unfolded, these are the `Nat.shiftRight`,
  `Nat.mod`, `Nat.lor` the kernel computes with GMP) instead of walking vectors of bit vectors; the round constants come from the
  LFSR kept in one byte.
-/
import Proofs.Lemmas.KeccakString
namespace Proofs.Lemmas.KeccakEval
open Spec.Keccak Proofs.Lemmas.KeccakString

def ln (w S i : Nat) : Nat := (S >>> (w * i)) % 2 ^ w

/-- the number whose lanes 0 … n−1 are g 0 … g (n−1) (each reduced to w bits) -/
def pk (w : Nat) (g : Nat → Nat) : Nat → Nat
  | 0 => 0
  | n + 1 => pk w g n ||| (g n % 2 ^ w) <<< (w * n)

theorem testBit_pk (w : Nat) (g : Nat → Nat) (n j : Nat) :
    (pk w g n).testBit j = (decide (j < w * n) && (g (j / w)).testBit (j % w)) := by
  induction n with
  | zero => simp [pk]
  | succ n ih =>
    rw [pk, Nat.testBit_or, ih, Nat.testBit_shiftLeft, Nat.testBit_mod_two_pow, Nat.mul_succ]
    by_cases h : j < w * n
    · have h1 : j < w * n + w := by omega
      have h2 : ¬ j ≥ w * n := by omega
      simp [h, h1, h2]
    · obtain ⟨k, rfl⟩ : ∃ k, j = w * n + k := ⟨j - w * n, by omega⟩
      by_cases hk : k < w
      · simp [h, Fold.mul_add_div_lt n hk, Fold.mul_add_mod_lt n hk, hk]
      · simp [h, hk]

/-- the state array the number S denotes: lane i (= x + 5y) is the w bits of S from bit w·i on -/
def dec (w S : Nat) : State w := Vector.ofFn fun i => BitVec.ofNat w (ln w S i.val)

theorem getLsbD_dec (w S i : Nat) (hi : i < 25) (z : Nat) :
    (dec w S)[i].getLsbD z = (decide (z < w) && S.testBit (w * i + z)) := by
  simp only [dec, Vector.getElem_ofFn]
  rw [BitVec.getLsbD_ofNat, ln, Nat.testBit_mod_two_pow, Nat.testBit_shiftRight]
  cases decide (z < w) <;> rfl

/-- `Spec.Keccak.mkState` on numbers: the number whose lane x + 5y is g x y -/
def mkN (w : Nat) (g : Nat → Nat → Nat) : Nat := pk w (fun i => g (i % 5) (i / 5)) 25

theorem dec_mkN (w : Nat) (g : Nat → Nat → Nat) :
    dec w (mkN w g) = mkState fun x y => BitVec.ofNat w (g x y) := by
  refine state_ext fun i hi z hz => ?_
  have h1 : w * i + z < w * 25 := Fold.mul_add_lt hz hi
  rw [getLsbD_dec w _ i hi, getElem_mkState _ i hi, mkN, testBit_pk, BitVec.getLsbD_ofNat, Fold.mul_add_div_lt i hz,
    Fold.mul_add_mod_lt i hz]
  simp [h1]

def laneN (w S x y : Nat) : Nat := ln w S (x % 5 + 5 * (y % 5))

theorem laneN_eq (w S x y : Nat) : laneN w S x y = (lane (dec w S) x y).toNat := by
  simp only [laneN, lane, dec, Vector.getElem_ofFn, BitVec.toNat_ofNat, ln, Nat.mod_mod]

/-- `BitVec.toNat_rotateLeft` read from right to left -/
def rotN (w a k : Nat) : Nat := (a <<< (k % w)) % 2 ^ w ||| a >>> (w - k % w)

def thetaN (w S : Nat) : Nat :=
  let C := fun x => laneN w S x 0 ^^^ laneN w S x 1 ^^^ laneN w S x 2 ^^^ laneN w S x 3 ^^^ laneN w S x 4
  let D := fun x => C ((x + 4) % 5) ^^^ rotN w (C ((x + 1) % 5)) 1
  mkN w fun x y => laneN w S x y ^^^ D x

def rhoN (w S : Nat) : Nat := mkN w fun x y => rotN w (laneN w S x y) (rhoOffset x y)

def piN (w S : Nat) : Nat := mkN w fun x y => laneN w S ((x + 3 * y) % 5) x

def chiN (w S : Nat) : Nat :=
  mkN w fun x y => laneN w S x y ^^^ ((2 ^ w - 1 - laneN w S (x + 1) y) &&& laneN w S (x + 2) y)

theorem rotN_toNat {w : Nat} (a : BitVec w) (k : Nat) : rotN w a.toNat k = (a.rotateLeft k).toNat :=
  BitVec.toNat_rotateLeft.symm

theorem theta_eval (w S : Nat) : dec w (thetaN w S) = theta (dec w S) := by
  rw [thetaN, dec_mkN, theta]
  simp only [laneN_eq, rotN_toNat, ← BitVec.toNat_xor, BitVec.ofNat_toNat, BitVec.setWidth_eq]

theorem rho_eval (w S : Nat) : dec w (rhoN w S) = rho (dec w S) := by
  rw [rhoN, dec_mkN, rho]
  simp only [laneN_eq, rotN_toNat, BitVec.ofNat_toNat, BitVec.setWidth_eq]

theorem pi_eval (w S : Nat) : dec w (piN w S) = pi (dec w S) := by
  rw [piN, dec_mkN, pi]
  simp only [laneN_eq, BitVec.ofNat_toNat, BitVec.setWidth_eq]

theorem chi_eval (w S : Nat) : dec w (chiN w S) = chi (dec w S) := by
  rw [chiN, dec_mkN, chi]
  simp only [laneN_eq, ← BitVec.toNat_not, ← BitVec.toNat_and, ← BitVec.toNat_xor, BitVec.ofNat_toNat,
    BitVec.setWidth_eq]

/-- the LFSR of Algorithm 5 with the register in one byte (bit i = R[i]): R = 0‖R is a shift, R[8] the bit shifted
    out, and 0x71 has the bits 0, 4, 5, 6 -/
def lfsrN (b : Nat) : Nat := (b <<< 1) % 2 ^ 8 ^^^ (if b.testBit 7 then 0x71 else 0)

def bits8 (b : Nat) : List Bool := (List.range 8).map b.testBit

theorem bits8_eq (b : Nat) : bits8 b
    = [b.testBit 0, b.testBit 1, b.testBit 2, b.testBit 3, b.testBit 4, b.testBit 5, b.testBit 6, b.testBit 7] := rfl

theorem lfsrStep8 (r0 r1 r2 r3 r4 r5 r6 r7 : Bool) : lfsrStep [r0, r1, r2, r3, r4, r5, r6, r7]
    = [false != r7, r0, r1, r2, r3 != r7, r4 != r7, r5 != r7, r6] := rfl

theorem lfsrStep_bits8 (b : Nat) : lfsrStep (bits8 b) = bits8 (lfsrN b) := by
  have h : ∀ i, (lfsrN b).testBit i
      = ((decide (i < 8) && (decide (i ≥ 1) && b.testBit (i - 1))) != (if b.testBit 7 then 0x71 else 0).testBit i) := by
    intro i
    rw [lfsrN, Nat.testBit_xor, Nat.testBit_mod_two_pow, Nat.testBit_shiftLeft]
  have t : ∀ k, Nat.testBit 0x71 k = decide (0x71 / 2 ^ k % 2 = 1) := fun k => Nat.testBit_eq_decide_div_mod_eq
  rw [bits8_eq, bits8_eq, lfsrStep8]
  cases h7 : b.testBit 7 <;> simp [h, h7, t]

theorem iter_lfsrStep (t b : Nat) : iter lfsrStep t (bits8 b) = bits8 (iter lfsrN t b) := by
  induction t generalizing b with
  | zero => rfl
  | succ t ih => rw [iter, lfsrStep_bits8, ih, iter]

/-- the number whose bit t (t < n) is the output of the LFSR t steps after state b: every rc(t) of a permutation
    from ONE run of the register (`Spec.Keccak.rc t` starts again from t = 0 every time) -/
def rcWord (b : Nat) : Nat → Nat
  | 0 => 0
  | n + 1 => (b.testBit 0).toNat + 2 * rcWord (lfsrN b) n

theorem rcWord_eq (n b : Nat) : rcWord b n = bitsToNat ((List.range n).map fun t => (iter lfsrN t b).testBit 0) := by
  induction n generalizing b with
  | zero => rfl
  | succ n ih =>
    rw [rcWord, ih, List.range_succ_eq_map, List.map_cons, List.map_map, bitsToNat]
    rfl

theorem testBit_rcWord (n b t : Nat) (h : t < n) : (rcWord b n).testBit t = (iter lfsrN t b).testBit 0 := by
  rw [rcWord_eq, testBit_bitsToNat, bit_map_range, decide_eq_true h, Bool.true_and]

/-- one period of the LFSR: it starts from state 1 and returns to it after 255 steps, so rc(t) is bit t mod 255 -/
def rcW : Nat := rcWord 1 255

theorem rc_eval (t : Nat) : rc t = (iter lfsrN (t % 255) 1).testBit 0 := by
  have h : rc t = (iter lfsrStep (t % 255) (bits8 1)).getD 0 false := by
    rw [rc]
    split
    · rename_i h0
      rw [h0]
      rfl
    · rfl
  rw [h, iter_lfsrStep]
  rfl

theorem rcCache_getD (t : Nat) (h : t < 255) : rcCache.getD t false = rc t := by
  simp [rcCache, Array.getD_eq_getD_getElem?, h]

theorem testBit_rcW (t : Nat) (h : t < 255) : rcW.testBit t = rc t := by
  rw [rcW, testBit_rcWord _ _ _ h, rc_eval, Nat.mod_eq_of_lt h]

/-- `Spec.Keccak.RC` with `rcW` in the place of `rcCache` -/
def RCN (w ir : Nat) : Nat :=
  (List.range (Nat.log2 w + 1)).foldl
    (fun acc j => if rcW.testBit ((j + 7 * ir) % 255) then acc ||| 2 ^ (2 ^ j - 1) % 2 ^ w else acc) 0

theorem RC_eval (w ir : Nat) : (RC w ir).toNat = RCN w ir := by
  refine (List.foldl_hom BitVec.toNat fun acc j => ?_).symm
  have h255 : (j + 7 * ir) % 255 < 255 := Nat.mod_lt _ (by decide)
  rw [rcCache_getD _ h255, testBit_rcW _ h255]
  split <;> simp only [BitVec.toNat_or, BitVec.toNat_twoPow]

def iotaN (w S ir : Nat) : Nat :=
  mkN w fun x y => if x = 0 ∧ y = 0 then laneN w S 0 0 ^^^ RCN w ir else laneN w S x y

theorem iota_eval (w S ir : Nat) : dec w (iotaN w S ir) = iota (dec w S) ir := by
  rw [iotaN, dec_mkN, iota]
  simp only [laneN_eq, ← RC_eval, ← BitVec.toNat_xor, apply_ite (BitVec.ofNat w), BitVec.ofNat_toNat,
    BitVec.setWidth_eq]

def rndN (w S ir : Nat) : Nat := iotaN w (chiN w (piN w (rhoN w (thetaN w S)))) ir

def keccakPN (w nr S : Nat) : Nat :=
  (List.range nr).foldl (fun S i => rndN w S (12 + 2 * Nat.log2 w - nr + i)) S

theorem keccakP_eval (w nr S : Nat) : dec w (keccakPN w nr S) = keccakP w nr (dec w S) := by
  refine (List.foldl_hom (dec w) fun S i => ?_).symm
  rw [rndN, iota_eval, chi_eval, pi_eval, rho_eval, theta_eval, rnd]

theorem stateOfString_eq_dec (w : Nat) (X : List Bool) : stateOfString w X = dec w (bitsToNat X) := by
  refine state_ext fun i hi z _ => ?_
  rw [getLsbD_stateOfString, getLsbD_dec w _ i hi, testBit_bitsToNat]

theorem stringOfState_dec {w : Nat} (hw : 0 < w) (S : Nat) :
    stringOfState (dec w S) = (List.range (25 * w)).map S.testBit := by
  refine stringOfState_eq_of_bits hw _ _ (by simp) fun i hi z hz => ?_
  rw [bit_map_range, getLsbD_dec w S i hi, Nat.mul_comm 25 w]
  simp [Fold.mul_add_lt hz hi, hz]

theorem pString_eval {w : Nat} (hw : 0 < w) (nr : Nat) (X : List Bool) :
    stringOfState (keccakP w nr (stateOfString w X))
      = (List.range (25 * w)).map (keccakPN w nr (bitsToNat X)).testBit := by
  rw [stateOfString_eq_dec, ← keccakP_eval, stringOfState_dec hw]

def fStringN (w : Nat) (X : List Bool) : List Bool :=
  (List.range (25 * w)).map (keccakPN w (nRounds w) (bitsToNat X)).testBit

theorem fString_eval {w : Nat} (hw : 0 < w) : fString w = fStringN w :=
  funext fun X => pString_eval hw (nRounds w) X

end Proofs.Lemmas.KeccakEval
