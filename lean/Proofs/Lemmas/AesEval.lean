/-
  `Spec.Aes.cipher` and `Spec.Aes.invCipher` in a form the kernel evaluates quickly on concrete arguments: an S-box
  value (in the specification an inversion in GF(2^8), 13 field products, and the affine map) is read off one 256-byte
  number by a shift, and a product by a MixColumns coefficient < 16 (there a carry-less product and a reduction) is
  done with `xtime`.  Nothing else differs, and the two agree on all arguments.
-/
import Proofs.Lemmas.AesField
namespace Proofs.Lemmas.AesEval
open Spec.Aes Proofs.Aes

def sboxF (b : Nat) : Nat := if b < 256 then entry sboxT b else sbox b
def invSboxF (b : Nat) : Nat := if b < 256 then entry invSboxT b else invSbox b

theorem sbox_eq : sbox = sboxF := by
  funext b
  unfold sboxF
  split
  · exact sboxT_eq b ‹_›
  · rfl

theorem invSbox_eq : invSbox = invSboxF := by
  funext b
  unfold invSboxF
  split
  · exact invSboxT_eq b ‹_›
  · rfl

/-- Σ_{i<n} c_i · x·{02}^i: the product of x by the low n coefficients of c -/
def xmul : Nat → Nat → Nat → Nat
  | 0, _, _ => 0
  | n + 1, c, x => (if c % 2 = 1 then x else 0) ^^^ xmul n (c / 2) (xtime x)

def gfmulF (c x : Nat) : Nat := if c < 16 ∧ x < 256 then xmul 4 c x else gfmul c x

theorem xmul_xor (n c x y : Nat) : xmul n c (x ^^^ y) = xmul n c x ^^^ xmul n c y := by
  induction n generalizing c x y with
  | zero => simp [xmul]
  | succ n ih =>
    simp only [xmul, xtime_xor, ih]
    split
    · ac_rfl
    · simp only [Nat.zero_xor]

theorem gfmul_eq : gfmul = gfmulF := by
  funext c x
  unfold gfmulF
  split
  · next h =>
    have hb : ∀ c < 16, ∀ k < 8, gfmul c (2 ^ k) = xmul 4 c (2 ^ k) := by decide +kernel
    exact Lemmas.Bits.xorAdd_ext (gfmul_xor_right c) (xmul_xor 4 c) 8 (hb c h.1) x h.2
  · rfl

def mixColumnF : List Nat → List Nat
  | [s0, s1, s2, s3] =>
    [gfmulF 2 s0 ^^^ gfmulF 3 s1 ^^^ s2 ^^^ s3,
     s0 ^^^ gfmulF 2 s1 ^^^ gfmulF 3 s2 ^^^ s3,
     s0 ^^^ s1 ^^^ gfmulF 2 s2 ^^^ gfmulF 3 s3,
     gfmulF 3 s0 ^^^ s1 ^^^ s2 ^^^ gfmulF 2 s3]
  | w => w

def invMixColumnF : List Nat → List Nat
  | [s0, s1, s2, s3] =>
    [gfmulF 0x0e s0 ^^^ gfmulF 0x0b s1 ^^^ gfmulF 0x0d s2 ^^^ gfmulF 0x09 s3,
     gfmulF 0x09 s0 ^^^ gfmulF 0x0e s1 ^^^ gfmulF 0x0b s2 ^^^ gfmulF 0x0d s3,
     gfmulF 0x0d s0 ^^^ gfmulF 0x09 s1 ^^^ gfmulF 0x0e s2 ^^^ gfmulF 0x0b s3,
     gfmulF 0x0b s0 ^^^ gfmulF 0x0d s1 ^^^ gfmulF 0x09 s2 ^^^ gfmulF 0x0e s3]
  | w => w

def mixColumnsF (s : List Nat) : List Nat := ((List.range 4).map fun c => mixColumnF (column s c)).flatten
def invMixColumnsF (s : List Nat) : List Nat := ((List.range 4).map fun c => invMixColumnF (column s c)).flatten

theorem mixColumns_eq : mixColumns = mixColumnsF := by
  have h : mixColumn = mixColumnF := by
    funext w
    rcases w with _ | ⟨a, _ | ⟨b, _ | ⟨c, _ | ⟨d, _ | ⟨e, t⟩⟩⟩⟩⟩ <;> simp only [mixColumn, mixColumnF, gfmul_eq]
  funext s
  rw [mixColumns, mixColumnsF, h]

theorem invMixColumns_eq : invMixColumns = invMixColumnsF := by
  have h : invMixColumn = invMixColumnF := by
    funext w
    rcases w with _ | ⟨a, _ | ⟨b, _ | ⟨c, _ | ⟨d, _ | ⟨e, t⟩⟩⟩⟩⟩ <;> simp only [invMixColumn, invMixColumnF, gfmul_eq]
  funext s
  rw [invMixColumns, invMixColumnsF, h]

def nextWordF (Nk : Nat) (w : List (List Nat)) (i : Nat) : List Nat :=
  let temp := w.getD (i - 1) []
  let temp :=
    if i % Nk = 0 then xorBytes ((rotWord temp).map sboxF) (rcon (i / Nk))
    else if Nk > 6 ∧ i % Nk = 4 then temp.map sboxF
    else temp
  xorBytes (w.getD (i - Nk) []) temp

def expandFromF (Nk : Nat) (w : List (List Nat)) (start : Nat) : Nat → List (List Nat)
  | 0 => w
  | n + 1 => expandFromF Nk (w ++ [nextWordF Nk w start]) (start + 1) n

def keyExpansionF (key : List Nat) : List (List Nat) :=
  let Nk := key.length / 4
  expandFromF Nk ((List.range Nk).map fun i => (key.drop (4 * i)).take 4) Nk (4 * (Nk + 6 + 1) - Nk)

def roundsF (w : List (List Nat)) (s : List Nat) : Nat → List Nat
  | 0 => s
  | n + 1 => addRoundKey (mixColumnsF (shiftRows ((roundsF w s n).map sboxF))) w (n + 1)

def invRoundsF (w : List (List Nat)) (s : List Nat) : Nat → List Nat
  | 0 => s
  | n + 1 => invRoundsF w (invMixColumnsF (addRoundKey ((invShiftRows s).map invSboxF) w (n + 1))) n

def cipherF (key inp : List Nat) : List Nat :=
  let w := keyExpansionF key
  let Nr := key.length / 4 + 6
  addRoundKey (shiftRows ((roundsF w (addRoundKey inp w 0) (Nr - 1)).map sboxF)) w Nr

def invCipherF (key inp : List Nat) : List Nat :=
  let w := keyExpansionF key
  let Nr := key.length / 4 + 6
  addRoundKey ((invShiftRows (invRoundsF w (addRoundKey inp w Nr) (Nr - 1))).map invSboxF) w 0

theorem keyExpansion_eq : keyExpansion = keyExpansionF := by
  have hn : nextWord = nextWordF := by
    funext Nk w i
    simp only [nextWord, nextWordF, subWord, sbox_eq]
  have he : ∀ n Nk w start, expandFrom Nk w start n = expandFromF Nk w start n := by
    intro n
    induction n with
    | zero =>
      intro Nk w start
      rfl
    | succ n ih =>
      intro Nk w start
      simp only [expandFrom, expandFromF, hn, ih]
  funext key
  simp only [keyExpansion, keyExpansionF, he]

theorem cipher_eq : cipher = cipherF := by
  have hr : ∀ w s n, rounds w s n = roundsF w s n := by
    intro w s n
    induction n with
    | zero => rfl
    | succ n ih => simp only [rounds, roundsF, round, subBytes, sbox_eq, mixColumns_eq, ih]
  funext key inp
  simp only [cipher, cipherF, cipherW, keyExpansion_eq, hr, subBytes, sbox_eq]

theorem invCipher_eq : invCipher = invCipherF := by
  have hr : ∀ w n s, invRounds w s n = invRoundsF w s n := by
    intro w n
    induction n with
    | zero =>
      intro s
      rfl
    | succ n ih =>
      intro s
      simp only [invRounds, invRoundsF, invRound, invSubBytes, invSbox_eq, invMixColumns_eq, ih]
  funext key inp
  simp only [invCipher, invCipherF, invCipherW, keyExpansion_eq, hr, invSubBytes, invSbox_eq]

end Proofs.Lemmas.AesEval
