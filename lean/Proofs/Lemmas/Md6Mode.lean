/-
  Lemmas for C17: the mode of operation — one PAR level, SEQ, the final chop and the level loop of the model
  against the specification.
-/
import Proofs.Lemmas.Md6F
import Proofs.Lemmas.Md6V
import Proofs.Lemmas.Md6Pad
import Proofs.Lemmas.Md6Words

namespace Proofs.Lemmas.Md6Mode
open Model Model.Py Model.Md6 Proofs.Lemmas Proofs.Lemmas.Md6Bits Proofs.Lemmas.Md6Words

/-- the bounds the proofs need: d, r and L fit their fields of the control word (L + 1 is a level, so L < 255), the
    key fits its 64 bytes.  The report's parameter space (d ≤ 512, L ≤ 64) lies inside (`dom_of`).  `hkb` says that
    the key is a byte string; no proof reads it. -/
structure Dom (d L r : Nat) (key : List Nat) : Prop where
  hd : d < 2 ^ 12
  hL : L < 255
  hr1 : 1 ≤ r
  hr : r < 2 ^ 12
  hkey : key.length ≤ 64
  hkb : ∀ x ∈ key, x < 256

theorem dom_of {d L r : Nat} {key : List Nat} (hd : d ≤ 512) (hL : L ≤ 64) (hr1 : 1 ≤ r) (hr : r < 4096)
    (hkey : key.length ≤ 64) (hkb : ∀ x ∈ key, x < 256) : Dom d L r key :=
  ⟨by omega, by omega, hr1, by omega, hkey, hkb⟩

theorem new_size (d : Nat) (key : List Nat) (L : Nat) (r : Option Nat) : (Md6.new d key L r).size = d := rfl
theorem new_keylen (d : Nat) (key : List Nat) (L : Nat) (r : Option Nat) : (Md6.new d key L r).keylen = key.length := rfl
theorem new_L (d : Nat) (key : List Nat) (L : Nat) (r : Option Nat) : (Md6.new d key L r).L = L := rfl
theorem new_rounds (d : Nat) (key : List Nat) (L r : Nat) : (Md6.new d key L (some r)).rounds = r := rfl

theorem ofNat_mod (x : Nat) : BitVec.ofNat 64 (x % 2 ^ 64) = BitVec.ofNat 64 x := by
  apply BitVec.eq_of_toNat_eq; simp

theorem map_ofNat_mod (l : List Nat) : (l.map (· % 2 ^ 64)).map (BitVec.ofNat 64) = l.map (BitVec.ofNat 64) := by
  rw [List.map_map]
  exact List.map_congr_left fun x _ => ofNat_mod x

theorem map_ofNat_toNat (l : List Spec.Md6.Word) : (l.map (·.toNat)).map (BitVec.ofNat 64) = l := by
  rw [List.map_map]
  exact (List.map_congr_left fun x _ => by simp).trans (List.map_id _)

theorem Q_toNat : Gen.Md6.Q = Spec.Md6.Q.map (·.toNat) := by decide +kernel

theorem Q_words : (Gen.Md6.Q.map (· % 2 ^ 64)).map (BitVec.ofNat 64) = Spec.Md6.Q := by
  rw [map_ofNat_mod, Q_toNat, map_ofNat_toNat]

theorem keyBytes_eq (key : List Nat) (h : key.length ≤ 64) : keyBytes key = Spec.Md6.zeroPad 64 key := by
  simp [keyBytes, Spec.Md6.zeroPad, List.take_of_length_le h]

theorem K_words (d L : Nat) (r : Option Nat) (key : List Nat) (h : key.length ≤ 64) :
    (((Md6.new d key L r).K).map (· % 2 ^ 64)).map (BitVec.ofNat 64) = Spec.Md6.keyWords key ∧
    (Md6.new d key L r).K.length = 8 := by
  have hlen : (keyBytes key).length = 8 * 8 := by
    rw [keyBytes_eq key h]; simp [Spec.Md6.zeroPad]; omega
  obtain ⟨h2, h3⟩ := words_toWords 8 (keyBytes key) hlen
  exact ⟨by rw [map_ofNat_mod, Spec.Md6.keyWords, ← keyBytes_eq key h, ← h2]; rfl, h3⟩

theorem parNode_refines {d L r : Nat} {key : List Nat} (hdom : Dom d L r key) (level i : Nat) (hl : level < 2 ^ 8)
    (hi : i < 2 ^ 56) (V : Bits) (vw : Spec.Md6.Word) (hv : V = ⟨vw.toNat, 64⟩) (B : List Nat)
    (bw : List Spec.Md6.Word) (hB : B.map (BitVec.ofNat 64) = bw) (hlen : B.length = 64) :
    parNode (Md6.new d key L (some r)) level V i B =
      (Spec.Md6.compress r (Spec.Md6.Q ++ Spec.Md6.keyWords key ++ [Spec.Md6.U level i] ++ [vw] ++ bw)).map (·.toNat) := by
  obtain ⟨hK1, hK2⟩ := K_words d L (some r) key hdom.hkey
  have hQ : Gen.Md6.Q.length = 15 := rfl
  have hu : BitVec.ofNat 64 ((level <<< 56) + i) = Spec.Md6.U level i :=
    BitVec.eq_of_toNat_eq (by rw [BitVec.toNat_ofNat, Md6V.U_eq level i hl hi])
  rw [parNode, new_rounds, W_node _ hK2 _ _ B hlen, Md6F.f_refines' r hdom.hr1 _ (by simp [hQ, hK2, hlen])]
  simp only [List.map_append, Q_words, hK1, List.map_cons, List.map_nil, ofNat_mod, hu, hv, BitVec.ofNat_toNat,
    BitVec.setWidth_eq]
  rw [map_ofNat_mod, hB]

theorem seqNode_eq_parNode (o : MD6) (V : Bits) (i : Nat) (C B : List Nat) (hC : C.length = 16) :
    seqNode o V i C B = parNode o (o.L + 1) V i (C ++ B) := by
  rw [seqNode, parNode, ← setWs_setWs, hC]

/-- the blocks both modes iterate over, as `struct.unpack('>nQ')` hands them on -/
theorem blocks_unpack (n B : Nat) (hB : B = 8 * (8 * n)) (hn : 0 < n) (M : List Nat) (m : Nat) :
    ((List.range (Spec.Md6.numBlocks B m)).map (Spec.Md6.block B M m)).mapM (unpackQ n)
      = .ok ((List.range (Spec.Md6.numBlocks B m)).map fun i => (chunks 8 (Spec.Md6.block B M m i)).map beInt) ∧
    ∀ i < Spec.Md6.numBlocks B m,
      ((chunks 8 (Spec.Md6.block B M m i)).map beInt).map (BitVec.ofNat 64) = Spec.Md6.toWords (Spec.Md6.block B M m i) ∧
        ((chunks 8 (Spec.Md6.block B M m i)).map beInt).length = n := by
  subst hB
  have hlen := fun i hi => Md6Pad.block_length (8 * n) M m i hi (by omega)
  refine ⟨(Fold.mapM_ok _ (fun X => (chunks 8 X).map beInt) _ fun X hX => ?_).trans (congrArg _ (List.map_map ..)),
    fun i hi => words_toWords n _ (hlen i hi)⟩
  obtain ⟨i, hi, rfl⟩ := List.mem_map.1 hX
  exact unpackQ_ok n _ (hlen i (List.mem_range.1 hi))

/-- PAR: the padder's blocks are the specification's (`nullBlocks_spec`, `blocks_unpack`), the control word is the
    specification's V (`setP_V0`), and then the two sides are the same `map` over the blocks, equal node by node -/
theorem par_refines {d L r : Nat} {key : List Nat} (hdom : Dom d L r key) (level : Nat) (hlevel : level < 2 ^ 8)
    (M : List Nat) (hM : ∀ x ∈ M, x < 256) (bitlen : Option Nat)
    (hbl : bitlen.getD (8 * M.length) ≤ 8 * M.length) (hlen : 8 * M.length < 2 ^ 64) :
    PAR (Md6.new d key L (some r)) level M bitlen =
      .ok (Spec.Md6.ofWords (Spec.Md6.par ⟨d, key, L, r⟩ level M (bitlen.getD (8 * M.length)))) := by
  have hnb := Md6Pad.nullBlocks_spec 4096 512 rfl (by omega) M hM bitlen hbl
  generalize bitlen.getD (8 * M.length) = m at hbl hnb ⊢
  obtain ⟨k, hj, hk1, hk2, -⟩ := Md6Pad.numBlocks_spec 4096 m (by omega)
  obtain ⟨hmapM, hB⟩ := blocks_unpack 64 4096 rfl (by omega) M m
  unfold Spec.Md6.par
  generalize Spec.Md6.numBlocks 4096 m = j at hnb hj hmapM hB ⊢
  subst hj
  unfold PAR
  rw [hnb]
  simp only [bind, Except.bind, hmapM, List.length_map, List.length_range]
  have hL8 : L < 2 ^ 8 := by have := hdom.hL; omega
  have hk8 : key.length < 2 ^ 8 := by have := hdom.hkey; omega
  have hz : (if k + 1 = 1 then 1 else 0 : Nat) < 2 ^ 4 := by split <;> omega
  have hV0 := Md6V.V0_eq d key.length (if k + 1 = 1 then 1 else 0) L r hdom.hr hL8 hz hk8 hdom.hd
  have hVl := Md6V.setP_V0 d key.length (if k + 1 = 1 then 1 else 0) L r ((k + 1) * 4096 - m) hdom.hr hL8 hz
    (by omega) hk8 hdom.hd
  simp only [new_size, new_keylen, new_L, new_rounds]
  rw [hVl]
  simp only []  -- the `match` on `setP`'s result, an `.ok`
  rw [← packWords_ofWords, List.map_flatMap, List.flatMap_def]
  split
  · rename_i h
    have := congrArg List.length h
    simp at this
  · simp only [pure, Except.pure]
    congr 3
    apply List.map_congr_left
    intro i hi
    have hi := List.mem_range.1 hi
    obtain ⟨hw, hwl⟩ := hB i hi
    rw [Fold.getD_map_range _ _ _ _ hi]
    refine parNode_refines hdom level i hlevel (by omega) _ _ ?_ _ _ hw hwl
    split
    · rfl
    · exact hV0

theorem chop_refines (d : Nat) (hd : d ≤ 1024) (C : List Spec.Md6.Word) (hC : C.length = 16) :
    Md6.chop d (Spec.Md6.ofWords C) = .ok (Spec.Md6.chop d C) := by
  have hlen : (Spec.Md6.ofWords C).length = 128 := by rw [ofWords_length, hC]
  have hlt := ofWords_lt C
  unfold Spec.Md6.chop
  generalize Spec.Md6.ofWords C = M at hlen hlt
  unfold Md6.chop
  simp only [Bits.ofBytes_rev_eq M hlt, bind, Except.bind, pure, Except.pure, if_neg (Nat.not_lt.2 hd), hlen]
  congr 1
  apply bytes_ext
  · rw [Bits.toBytes_length, Bits.setSize_size, List.length_map, List.length_range]
  · exact Bits.toBytes_allBytes _
  · intro x hx'
    simp only [List.mem_map, List.mem_range] at hx'
    obtain ⟨i, _, rfl⟩ := hx'
    exact Nat.mod_lt _ (by omega)
  · intro k hk
    rw [Bits.toBytes_length, Bits.setSize_size] at hk
    rw [toBytes_sbit, Bits.setSize_size, Bits.setSize_ival, Nat.testBit_mod_two_pow, Bits.shr_testBit,
      leInt_rev_testBit M hlt, sbit_beBytes _ _ k hk, Nat.testBit_mul_two_pow, Nat.testBit_mod_two_pow,
      be_testBit M hlt _ (by omega), hlen]
    dsimp only
    by_cases hkd : k < d
    · have h1 : 8 * ((d + 7) / 8) - d ≤ 8 * ((d + 7) / 8) - 1 - k := by omega
      have h2 : 8 * ((d + 7) / 8) - 1 - k - (8 * ((d + 7) / 8) - d) < d := by omega
      have h5 : k < 8 * 128 := by omega
      have h6 : 8 * 128 - 1 - (8 * ((d + 7) / 8) - 1 - k - (8 * ((d + 7) / 8) - d)) = 1024 - d + k := by omega
      simp only [hkd, h1, h2, h5, h6, decide_true, Bool.true_and]
    · have h1 : ¬ (8 * ((d + 7) / 8) - d ≤ 8 * ((d + 7) / 8) - 1 - k) := by omega
      simp [hkd, h1]

theorem chop_packWords {d : Nat} (hd : d ≤ 1024) {X : List Nat} {Y : List Spec.Md6.Word}
    (h : X = Y.map (·.toNat) ∧ Y.length = 16) : Md6.chop d (packWords X) = .ok (Spec.Md6.chop d Y) := by
  rw [h.1, packWords_ofWords, chop_refines d hd _ h.2]

theorem chop_length (d : Nat) (C : List Spec.Md6.Word) : (Spec.Md6.chop d C).length = (d + 7) / 8 := by
  simp [Spec.Md6.chop]

theorem steps_size (t : Nat) (st : Array Spec.Md6.Word × Spec.Md6.Word) :
    ((List.range t).foldl Spec.Md6.step st).1.size = st.1.size + t :=
  Fold.foldl_range_inv (fun i a => a.1.size = st.1.size + i) _ t st rfl fun i _ a h => by
    rw [Spec.Md6.step, Array.size_push, h, Nat.add_assoc]

theorem compress_length (r : Nat) (hr : 1 ≤ r) (N : List Spec.Md6.Word) :
    (Spec.Md6.compress r N).length = 16 := by
  simp only [Spec.Md6.compress, List.length_drop, Array.length_toList, steps_size, List.size_toArray, Spec.Md6.c]
  omega

/-- SEQ: as for PAR, but the nodes are chained; model and specification fold over the same blocks and the chaining
    values stay related (`Fold.foldl_range_rel`): equal as numbers, 16 words long -/
theorem seq_refines {d L r : Nat} {key : List Nat} (hdom : Dom d L r key) (hd : d ≤ 1024)
    (M : List Nat) (hM : ∀ x ∈ M, x < 256) (bitlen : Option Nat)
    (hbl : bitlen.getD (8 * M.length) ≤ 8 * M.length) (hlen : 8 * M.length < 2 ^ 64) :
    SEQ (Md6.new d key L (some r)) M bitlen =
      .ok (Spec.Md6.chop d (Spec.Md6.seq ⟨d, key, L, r⟩ M (bitlen.getD (8 * M.length)))) := by
  have hnb := Md6Pad.nullBlocks_spec 3072 384 rfl (by omega) M hM bitlen hbl
  generalize bitlen.getD (8 * M.length) = m at hbl hnb ⊢
  obtain ⟨k, hj, hk1, hk2, -⟩ := Md6Pad.numBlocks_spec 3072 m (by omega)
  obtain ⟨hmapM, hB⟩ := blocks_unpack 48 3072 rfl (by omega) M m
  unfold Spec.Md6.seq
  generalize Spec.Md6.numBlocks 3072 m = j at hnb hj hmapM hB ⊢
  subst hj
  unfold SEQ
  rw [hnb]
  simp only [bind, Except.bind, hmapM, List.length_map, List.length_range]
  have hL8 : L < 2 ^ 8 := by have := hdom.hL; omega
  have hk8 : key.length < 2 ^ 8 := by have := hdom.hkey; omega
  have hV0 := Md6V.V0_eq d key.length 0 L r hdom.hr hL8 (by omega) hk8 hdom.hd
  have hVp := Md6V.setP_V0 d key.length 0 L r ((k + 1) * 3072 - m) hdom.hr hL8 (by omega) (by omega) hk8 hdom.hd
  have hVl := Md6V.setZ1_V d key.length L r ((k + 1) * 3072 - m) hdom.hr hL8 (by omega) hk8 hdom.hd
  simp only [new_size, new_keylen, new_L, new_rounds]
  rw [hVp]
  simp only []  -- the `match` on `setP`'s result, an `.ok`
  rw [hVl]
  simp only []  -- … and on `setZ1`'s
  -- the chained fold, related step by step: the same 16 words on both sides
  refine chop_packWords hd (Fold.foldl_range_rel
    (fun (_ : Nat) (Cm : List Nat) (Cs : List Spec.Md6.Word) => Cm = Cs.map (·.toNat) ∧ Cs.length = 16)
    _ _ _ _ _ ⟨by simp [Spec.Md6.c], by simp [Spec.Md6.c]⟩ ?_)
  intro i hi Cm Cs ⟨hC1, hC2⟩
  obtain ⟨hw, hwl⟩ := hB i hi
  have hCm : Cm.length = 16 := by rw [hC1]; simpa using hC2
  refine ⟨?_, compress_length r hdom.hr1 _⟩
  rw [Fold.getD_map_range _ _ _ _ hi, List.append_assoc _ Cs, seqNode_eq_parNode _ _ _ _ _ hCm, new_L]
  refine parNode_refines hdom (L + 1) i (by have := hdom.hL; omega) (by omega) _ _ ?_ _ _ ?_ (by simp [hCm, hwl])
  · split
    · rfl
    · exact hV0
  · rw [List.map_append, hw, hC1, map_ofNat_toNat]

theorem par_length (P : Spec.Md6.Params) (hr : 1 ≤ P.r) (level : Nat) (M : List Nat) (m : Nat) :
    (Spec.Md6.par P level M m).length = 16 * Spec.Md6.numBlocks 4096 m := by
  unfold Spec.Md6.par
  simp only []  -- the body's `let`s
  rw [Fold.length_flatMap_const _ 16 _ (fun i _ => compress_length P.r hr _), List.length_range, Nat.mul_comm]

/-- a PAR level either leaves one chaining value or shrinks the message; `fuel` counts the levels still allowed.
    A level that does not end with one chaining value has read k ≥ 1 whole blocks of 512 bytes and at least one byte
    more, and writes k + 1 chaining values of 128 bytes: from at least 512k + 1 bytes to 128(k + 1), which is at least
    513 bytes fewer when k ≥ 2, and 256 out of at least 513 when k = 1.  So 513 bytes of message pay for one level. -/
theorem par_shrinks (P : Spec.Md6.Params) (hr : 1 ≤ P.r) (level : Nat) (M : List Nat) (m fuel : Nat)
    (h : (m + 7) / 8 < 513 * (fuel + 1)) :
    (Spec.Md6.par P level M m).length = 16 ∨
      ((Spec.Md6.par P level M m).length ≠ 16 ∧ 64 * (Spec.Md6.par P level M m).length ≤ m ∧
        (64 * (Spec.Md6.par P level M m).length + 7) / 8 < 513 * fuel) := by
  obtain ⟨k, hj, -, -, hk⟩ := Md6Pad.numBlocks_spec 4096 m (by omega)
  rw [par_length P hr level M m, hj]
  by_cases hk0 : k = 0
  · exact .inl (by rw [hk0])
  · have := hk (by omega)
    have : 1 ≤ fuel := by omega
    exact .inr ⟨by omega, by omega, by omega⟩

/-- the level loop, by induction on `fuel`: a level is SEQ, or a PAR that either ends the loop or hands a shorter
    message (`par_shrinks`) to the next level, which reads it whole (`bitlen = none`) -/
theorem loop_refines {d L r : Nat} {key : List Nat} (hdom : Dom d L r key) (hd : d ≤ 1024) (fuel : Nat) :
    ∀ (l : Nat) (M : List Nat) (bitlen : Option Nat), l ≤ L → (∀ x ∈ M, x < 256) →
      bitlen.getD (8 * M.length) ≤ 8 * M.length → 8 * M.length < 2 ^ 64 →
      (bitlen.getD (8 * M.length) + 7) / 8 < 513 * fuel →
      levelLoop (Md6.new d key L (some r)) fuel l M bitlen =
        .ok (Spec.Md6.chop d (Spec.Md6.levels ⟨d, key, L, r⟩ fuel (l + 1) M (bitlen.getD (8 * M.length)))) := by
  induction fuel with
  | zero =>
    intro l M bitlen _ _ _ _ hfuel
    omega
  | succ fuel ih =>
    intro l M bitlen hl hM hbl hlen hfuel
    have hpar := par_refines hdom (l + 1) (by have := hdom.hL; omega) M hM bitlen hbl hlen
    have hseq := seq_refines hdom hd M hM bitlen hbl hlen
    generalize bitlen.getD (8 * M.length) = m at hbl hfuel hpar hseq ⊢
    unfold levelLoop Spec.Md6.levels
    show (if l + 1 = L + 1 then _ else _) = Except.ok (Spec.Md6.chop d (if l + 1 = L + 1 then _ else _))
    by_cases hlL : l + 1 = L + 1
    · rw [if_pos hlL, if_pos hlL, hseq]
    · rw [if_neg hlL, if_neg hlL, hpar]
      simp only [bind, Except.bind, ofWords_length, Spec.Md6.c]
      rcases par_shrinks ⟨d, key, L, r⟩ hdom.hr1 (l + 1) M m fuel hfuel with h16 | ⟨hne, hle, hlt⟩
      · simp only [h16, if_true]
        exact chop_refines d hd _ h16
      · have hne2 : ¬ 8 * (Spec.Md6.par ⟨d, key, L, r⟩ (l + 1) M m).length = 128 := by omega
        simp only [hne, hne2, if_false]
        have := ih (l + 1) (Spec.Md6.ofWords (Spec.Md6.par ⟨d, key, L, r⟩ (l + 1) M m)) none (by omega)
          (ofWords_lt _) (by simp) (by rw [ofWords_length]; omega)
          (by simpa only [Option.getD_none, ofWords_length, ← Nat.mul_assoc] using hlt)
        simp only [Option.getD_none, ofWords_length] at this
        rw [this]
        congr 3
        omega

theorem chop_low_bits (d : Nat) (h8 : d % 8 ≠ 0) (C : List Spec.Md6.Word) :
    (Spec.Md6.chop d C).getD (d / 8) 0 % 2 ^ (8 - d % 8) = 0 := by
  unfold Spec.Md6.chop
  simp only
  have hnb : (d + 7) / 8 = d / 8 + 1 := by omega
  have hi : d / 8 < (d + 7) / 8 := by omega
  rw [List.getD_eq_getElem?_getD, List.getElem?_map, List.getElem?_range hi]
  simp only [Option.map_some, Option.getD_some, hnb, Nat.add_sub_cancel, Nat.sub_self, Nat.pow_zero, Nat.div_one]
  have e : 8 * (d / 8 + 1) - d = 8 - d % 8 := by omega
  rw [e]
  generalize List.foldl (fun acc x => acc * 256 + x) 0 (Spec.Md6.ofWords C) % 2 ^ d = x
  have h256 : (256 : Nat) = 2 ^ (d % 8) * 2 ^ (8 - d % 8) := by
    rw [← Nat.pow_add, show d % 8 + (8 - d % 8) = 8 by omega]
  rw [h256, Nat.mod_mul_left_mod, Nat.mul_mod_left]

theorem seq_length (P : Spec.Md6.Params) (hr : 1 ≤ P.r) (M : List Nat) (m : Nat) :
    (Spec.Md6.seq P M m).length = 16 := by
  unfold Spec.Md6.seq
  obtain ⟨k, hj, -⟩ := Md6Pad.numBlocks_spec 3072 m (by omega)
  simp only [hj]
  rw [List.range_succ, List.foldl_append]
  exact compress_length P.r hr _

/-- the specification's level loop never runs out of its iteration bound: the result is one chaining value -/
theorem levels_length (P : Spec.Md6.Params) (hr : 1 ≤ P.r) (fuel : Nat) :
    ∀ (level : Nat) (M : List Nat) (m : Nat), (m + 7) / 8 < 513 * fuel →
      (Spec.Md6.levels P fuel level M m).length = 16 := by
  induction fuel with
  | zero =>
    intro level M m hf
    omega
  | succ fuel ih =>
    intro level M m hf
    unfold Spec.Md6.levels
    split
    · exact seq_length P hr M m
    · rcases par_shrinks P hr level M m fuel hf with h16 | ⟨hne, -, hlt⟩
      · simp only [h16, Spec.Md6.c, if_true]
      · simp only [Spec.Md6.c, hne, if_false]
        exact ih _ _ _ hlt

end Proofs.Lemmas.Md6Mode
