/-
  Index expressions on a `Bits` (an int index over a length, `slice.indices` and `range` are Lemmas/PySeq): the
  `__getitem__` / `__setitem__` paths of `Model.Bits`, each path as an equation, what it reads or writes bit by bit, and
  the contiguous assignment as arithmetic on fields (`setSlice_field`).
-/
import Model.Bits
import Proofs.Lemmas.BitsBasic
import Proofs.Lemmas.BitsOps
import Proofs.Lemmas.BitsView
import Proofs.Lemmas.PySeq
import Proofs.Lemmas.Fold
namespace Proofs.Lemmas.Bits
open Model Model.Bits Model.Py
open Proofs.Lemmas.PySeq

theorem bit_eq (b : Bits) (i : Int) :
    b.bit i = match normIndex i b.size with
      | some p => .ok (b.ival.testBit p).toNat
      | none => .error "IndexError" := by
  have c : (0 < -i ∧ -i ≤ (b.size : Int)) ↔ (i < 0 ∧ -i ≤ (b.size : Int)) := by omega
  simp only [bit, normIndex, c, Int.add_comm (b.size : Int), shr_and_one]
  split
  · rfl
  · split <;> rfl

theorem listVal_testBit (l : List Nat) (j : Nat) :
    (listVal l).testBit j = decide (l.getD j 0 % 2 = 1) := by
  induction l generalizing j with
  | nil => simp [listVal]
  | cons x xs ih =>
    simp only [listVal, Nat.testBit_or, Nat.testBit_shiftLeft, Nat.and_one_is_mod]
    cases j with
    | zero =>
      simp only [ge_iff_le, Nat.le_zero_eq, Nat.succ_ne_self, decide_false, Bool.false_and, Bool.false_or,
        List.getD_cons_zero]
      have := Nat.mod_two_eq_zero_or_one x
      rcases this with h | h <;> simp [h]
    | succ j =>
      have h2 : (x % 2).testBit (j + 1) = false := testBit_of_lt (n := 1) (by omega) (by omega)
      simp [ih, h2]

theorem listVal_lt (l : List Nat) : listVal l < 2 ^ l.length := by
  apply Nat.lt_pow_two_of_testBit
  intro i hi
  rw [listVal_testBit]
  simp [List.getD_eq_getElem?_getD, List.getElem?_eq_none hi]

theorem listVal_pick_testBit {α} (v : Nat) (f : α → Nat) (l : List α) (j : Nat) :
    (listVal (l.map fun x => (v >>> f x) &&& 1)).testBit j = if h : j < l.length then v.testBit (f l[j]) else false := by
  rw [listVal_testBit]
  split
  · rename_i hj
    rw [← List.getElem_eq_getD (h := by simpa using hj), List.getElem_map, shr_and_one]
    cases v.testBit (f l[j]) <;> rfl
  · rename_i hj
    simp [hj]

theorem getList_ok (b : Bits) (idx : List Int) (h : ∀ x ∈ idx, 0 ≤ x) :
    b.getList idx = .ok (ofNatSz (listVal (idx.map fun x => (b.ival >>> x.toNat) &&& 1)) idx.length) := by
  unfold getList
  have : idx.any (· < 0) = false := by
    rw [List.any_eq_false]
    intro x hx
    have := h x hx
    simp
    omega
  simp [this]

theorem getList_error (b : Bits) (idx : List Int) (h : ∃ x ∈ idx, x < 0) : ∃ err, b.getList idx = .error err := by
  unfold getList
  have : idx.any (· < 0) = true := by
    rw [List.any_eq_true]
    obtain ⟨x, hx, hlt⟩ := h
    exact ⟨x, hx, by simpa using hlt⟩
  exact ⟨"ValueError:negative shift count", by simp [this]⟩

theorem getList_testBit (b : Bits) (idx : List Int) (j : Nat) :
    (ofNatSz (listVal (idx.map fun x => (b.ival >>> x.toNat) &&& 1)) idx.length).ival.testBit j =
      if h : j < idx.length then b.ival.testBit (idx[j]).toNat else false := by
  rw [ofNatSz_ival, Nat.mod_eq_of_lt (by simpa using listVal_lt (idx.map fun x => (b.ival >>> x.toNat) &&& 1))]
  exact listVal_pick_testBit b.ival Int.toNat idx j

theorem getSlice_def (b : Bits) (start stop step : Option Int) {s e st : Int}
    (h : sliceIndices start stop step b.size = .ok (s, e, st)) :
    b.getSlice start stop step =
      if st = 1 ∧ e ≥ s then .ok (b.sliceFast s.toNat e.toNat) else b.getList (Py.range s e st) := by
  unfold getSlice
  rw [h]
  rfl

theorem getSlice_fast (b : Bits) (start stop step : Option Int) {s e : Int}
    (h : sliceIndices start stop step b.size = .ok (s, e, 1)) (hes : s ≤ e) :
    b.getSlice start stop step = .ok (b.sliceFast s.toNat e.toNat) := by
  rw [getSlice_def b start stop step h, if_pos ⟨rfl, hes⟩]

theorem getSlice_nat (b : Bits) (s e : Nat) (hse : s ≤ e) (he : e ≤ b.size) :
    b.getSlice (some (s : Int)) (some (e : Int)) none = .ok (b.sliceFast s e) := by
  rw [getSlice_fast b _ _ _ (sliceIndices_nat s e b.size hse he) (by omega), Int.toNat_natCast, Int.toNat_natCast]

/-- the slice selects `range(*slice.indices(size))`; the fast path and the generic path agree with it -/
theorem getSlice_spec (b : Bits) (start stop step : Option Int) {s e st : Int}
    (h : sliceIndices start stop step b.size = .ok (s, e, st)) :
    ∃ r, b.getSlice start stop step = .ok r ∧ r.WF ∧ r.size = (Py.range s e st).length ∧
      ∀ j, r.ival.testBit j =
        if hj : j < (Py.range s e st).length then b.ival.testBit ((Py.range s e st)[j]).toNat else false := by
  rw [getSlice_def b start stop step h]
  by_cases hf : st = 1 ∧ e ≥ s
  · obtain ⟨rfl, hes⟩ := hf
    obtain ⟨a, c, rfl, rfl, _, _⟩ := sliceIndices_one h
    refine ⟨_, if_pos ⟨rfl, hes⟩, sliceFast_wf _ _ _, ?_, fun j => ?_⟩
    · simp only [sliceFast_size, Int.toNat_natCast, range_one, List.length_map, List.length_range]
    · simp only [sliceFast_testBit, Int.toNat_natCast, range_one, List.length_map, List.length_range, List.getElem_map,
        List.getElem_range]
      by_cases hj : j < c - a <;> simp [hj]
  · have hnn : ∀ x ∈ Py.range s e st, 0 ≤ x := by
      intro x hx
      obtain ⟨j, hj, rfl⟩ := (mem_range_iff _ _ _ _).1 hx
      exact (range_in_bounds h hj).1
    rw [if_neg hf]
    exact ⟨_, getList_ok b _ hnn, ofNatSz_wf _ _, rfl, getList_testBit b _⟩

theorem getSlice_reverse (b : Bits) :
    ∃ r, b.getSlice none none (some (-1)) = .ok r ∧ r.size = b.size ∧
      ∀ j, r.ival.testBit j = (decide (j < b.size) && b.ival.testBit (b.size - 1 - j)) := by
  have hi : sliceIndices none none (some (-1)) b.size = .ok ((b.size : Int) - 1, -1, -1) := rfl
  have hlen : rangeLen ((b.size : Int) - 1) (-1) (-1) = b.size := by
    simp only [rangeLen, Int.neg_neg, Int.ediv_one]
    split
    · omega
    · split <;> omega
  obtain ⟨r, h1, _, h3, h4⟩ := getSlice_spec b none none (some (-1)) hi
  rw [range_length, hlen] at h3
  refine ⟨r, h1, h3, fun j => ?_⟩
  rw [h4 j]
  simp only [range_length, hlen]
  split
  · rename_i hj
    rw [range_getElem _ _ _ _ (by rw [range_length, hlen]; exact hj)]
    simp only [hj, decide_true, Bool.true_and]
    congr 1
    omega
  · rename_i hj
    simp [hj]

theorem setInt_eq (b : Bits) (i : Int) (v : Nat) :
    b.setInt i v =
      if v ≠ 0 ∧ v ≠ 1 then .error "AssertionError" else
      match normIndex i b.size with
      | none => .error "IndexError"
      | some p => if v = 0 then .ok ⟨b.ival &&& (b.mask ^^^ 2 ^ p), b.size⟩ else .ok ⟨b.ival ||| 2 ^ p, b.size⟩ := by
  have c : (0 < -i ∧ -i < (b.size : Int) + 1) ↔ (i < 0 ∧ -i ≤ (b.size : Int)) := by omega
  have hp : (if 0 ≤ i ∧ i < (b.size : Int) then some i.toNat
             else if 0 < -i ∧ -i < (b.size : Int) + 1 then some ((b.size : Int) + i).toNat else none)
            = normIndex i b.size := by
    simp only [normIndex, c, Int.add_comm (b.size : Int) i]
  simp only [setInt, hp, Nat.one_shiftLeft]
  rfl

theorem setInt_spec (b : Bits) (hb : b.WF) (i : Int) (v : Nat) (r : Bits) (h : b.setInt i v = .ok r) :
    ∃ p, normIndex i b.size = some p ∧ v ≤ 1 ∧ r.size = b.size ∧
      ∀ q, r.ival.testBit q = if q = p then decide (v = 1) else b.ival.testBit q := by
  rw [setInt_eq] at h
  split at h
  · cases h
  · cases hn : normIndex i b.size with
    | none =>
      rw [hn] at h
      cases h
    | some p =>
      rw [hn] at h
      have hp := normIndex_lt hn
      refine ⟨p, rfl, by omega, ?_⟩
      simp only at h
      split at h
      all_goals
        injection h with h
        subst h
        refine ⟨rfl, fun q => ?_⟩
      · simp only [mask, Nat.testBit_and, Nat.testBit_xor, Nat.testBit_two_pow_sub_one, Nat.testBit_two_pow]
        by_cases hq : q = p
        · subst hq
          simp [*]
        · by_cases hqs : q < b.size
          · simp [hq, Ne.symm hq, hqs]
          · simp [hq, wf_testBit hb (Nat.le_of_not_lt hqs)]
      · simp only [Nat.testBit_or, Nat.testBit_two_pow]
        by_cases hq : q = p
        · subst hq
          simp
          omega
        · simp [hq, Ne.symm hq]

theorem setInt_wf (b : Bits) (hb : b.WF) (i : Int) (v : Nat) (r : Bits) (h : b.setInt i v = .ok r) : r.WF := by
  obtain ⟨p, hp, _, hs, hbits⟩ := setInt_spec b hb i v r h
  have hp' := normIndex_lt hp
  unfold WF
  apply Nat.lt_pow_two_of_testBit
  intro q hq
  rw [hbits q, hs] at *
  have : q ≠ p := by omega
  simp only [this, ↓reduceIte]
  exact wf_testBit hb hq

theorem setInt_bool (b : Bits) (hb : b.WF) (p : Nat) (hp : p < b.size) (x : Bool) :
    ∃ r, b.setInt p x.toNat = .ok r ∧ r.size = b.size ∧ r.WF ∧
      ∀ i, r.ival.testBit i = if i = p then x else b.ival.testBit i := by
  have hn : Py.normIndex (p : Int) b.size = some p := normIndex_of_bounds (Int.natCast_nonneg p) (by exact_mod_cast hp)
  obtain ⟨r, hr⟩ : ∃ r, b.setInt p x.toNat = .ok r := by
    rw [setInt_eq, if_neg (by cases x <;> decide), hn]
    cases x <;> exact ⟨_, rfl⟩
  obtain ⟨q, hq, _, hs, hbits⟩ := setInt_spec b hb p x.toNat r hr
  obtain rfl : p = q := Option.some.inj (hn.symm.trans hq)
  refine ⟨r, hr, hs, setInt_wf b hb _ _ r hr, fun i => ?_⟩
  rw [hbits]
  cases x <;> rfl

theorem setInt_error_iff (b : Bits) (i : Int) (v : Nat) :
    (∃ err, b.setInt i v = .error err) ↔ (1 < v ∨ normIndex i b.size = none) := by
  rw [setInt_eq]
  split
  · exact ⟨fun _ => Or.inl (by omega), fun _ => ⟨_, rfl⟩⟩
  · cases hn : normIndex i b.size with
    | none => exact ⟨fun _ => Or.inr rfl, fun _ => ⟨_, rfl⟩⟩
    | some p =>
      refine ⟨fun ⟨err, h⟩ => ?_, fun h => ?_⟩
      · simp only at h
        split at h <;> cases h
      · rcases h with h | h
        · omega
        · cases h

theorem setBits_spec (b : Bits) (hb : b.WF) (js : List Int) (xs : List Nat) (r : Bits)
    (h : b.setBits js xs = .ok r) :
    r.WF ∧ r.size = b.size ∧ ∀ q, r.ival.testBit q =
      (js.zip xs).foldl (fun x p => if normIndex p.1 b.size = some q then decide (p.2 = 1) else x) (b.ival.testBit q) := by
  induction js generalizing b xs with
  | nil =>
    unfold setBits at h
    injection h with h
    subst h
    exact ⟨hb, rfl, fun q => rfl⟩
  | cons j js ih =>
    cases xs with
    | nil =>
      unfold setBits at h
      injection h with h
      subst h
      exact ⟨hb, rfl, fun q => rfl⟩
    | cons x xs =>
      unfold setBits at h
      obtain ⟨b', h1, h'⟩ := Proofs.Lemmas.Fold.bind_eq_ok h
      obtain ⟨p, hp, _, hs, hbits⟩ := setInt_spec b hb j x b' h1
      obtain ⟨hw, hsz, hq⟩ := ih b' (setInt_wf b hb j x b' h1) xs h'
      refine ⟨hw, by omega, fun q => ?_⟩
      rw [hq q, hs, hbits q, List.zip_cons_cons, List.foldl_cons, hp]
      simp only [Option.some.injEq, eq_comm (a := p)]

theorem setList_spec (b : Bits) (hb : b.WF) (idx : List Int) (v : Bits) (r : Bits) (h : b.setList idx v = .ok r) :
    idx.length = v.size ∧ r.WF ∧ r.size = b.size ∧
    (∀ t (ht : t < idx.length) p, normIndex idx[t] b.size = some p →
      (∀ t' (h' : t' < idx.length), t < t' → normIndex idx[t'] b.size ≠ some p) → r.ival.testBit p = v.ival.testBit t) ∧
    ∀ q, (∀ j ∈ idx, normIndex j b.size ≠ some q) → r.ival.testBit q = b.ival.testBit q := by
  unfold setList at h
  split at h
  · cases h
  · rename_i hlen
    obtain ⟨hw, hs, hq⟩ := setBits_spec b hb idx v.toBitList r h
    refine ⟨by omega, hw, hs, fun t ht p hp hlast => ?_, fun q hno => ?_⟩
    · rw [hq p, PySeq.foldl_zip_last (hit := fun i => normIndex i b.size = some p) (val := fun x => decide (x = 1))
        idx v.toBitList _ t ht (by rw [toBitList_length]; omega) hp hlast, toBitList_getElem]
      cases v.ival.testBit t <;> rfl
    · rw [hq q]
      exact PySeq.foldl_zip_none (hit := fun i => normIndex i b.size = some q) (val := fun x => decide (x = 1)) _ _ _ hno

theorem setSlice_eq (b : Bits) (start stop step : Option Int) (v : Bits) {s e st : Int}
    (h : sliceIndices start stop step b.size = .ok (s, e, st)) :
    b.setSlice start stop step v =
      if st = 1 ∧ e > s then
        .ok ⟨(b.ival &&& (b.mask ^^^ (2 ^ e.toNat - 1) ^^^ (2 ^ s.toNat - 1))) ||| (v.ival <<< s.toNat), b.size⟩
      else b.setList (Py.range s e st) v := by
  unfold setSlice
  rw [h]
  rfl

theorem setSlice_nat (b : Bits) (s e : Nat) (hse : s < e) (he : e ≤ b.size) (v : Bits) :
    b.setSlice (some (s : Int)) (some (e : Int)) none v =
      .ok ⟨(b.ival &&& (b.mask ^^^ (2 ^ e - 1) ^^^ (2 ^ s - 1))) ||| (v.ival <<< s), b.size⟩ := by
  rw [setSlice_eq b _ _ _ v (sliceIndices_nat s e b.size (Nat.le_of_lt hse) he), if_pos ⟨rfl, by omega⟩,
    Int.toNat_natCast, Int.toNat_natCast]

/-- the fast path `ival = (ival & mask) | (v.ival << start)`, for a value that fits the selection -/
theorem setSlice_fast_testBit (b : Bits) (s e : Nat) (hse : s ≤ e) (he : e ≤ b.size)
    (v : Bits) (hv : v.ival < 2 ^ (e - s)) (q : Nat) :
    ((b.ival &&& (b.mask ^^^ (2 ^ e - 1) ^^^ (2 ^ s - 1))) ||| (v.ival <<< s)).testBit q =
      if s ≤ q ∧ q < e then v.ival.testBit (q - s) else (decide (q < b.size) && b.ival.testBit q) := by
  simp only [mask, Nat.testBit_or, Nat.testBit_and, Nat.testBit_xor, Nat.testBit_two_pow_sub_one,
    Nat.testBit_shiftLeft, ge_iff_le]
  by_cases h1 : q < s
  · have h2 : q < e := by omega
    have h3 : q < b.size := by omega
    have h4 : ¬ s ≤ q := by omega
    simp [h1, h2, h3, h4]
  · have h4 : s ≤ q := by omega
    by_cases h2 : q < e
    · have h3 : q < b.size := by omega
      simp [h1, h2, h3, h4]
    · have hv' : v.ival.testBit (q - s) = false := testBit_of_lt hv (by omega)
      by_cases h3 : q < b.size <;> simp [h1, h2, h3, h4, hv']

/-- `x[s:s+w] = v` on an n-bit word replaces exactly the field [s, s+w) (`lo` below it, `mid` in it, `hi` above) by `v`.
    `x` and `y` are variables so that a caller's sums of fields are matched by linear arithmetic, never by unification. -/
theorem setSlice_field {x y lo mid hi v vs s w n : Nat} (hx : x = lo + mid * 2 ^ s + hi * 2 ^ (s + w))
    (hy : y = lo + v * 2 ^ s + hi * 2 ^ (s + w)) (hlo : lo < 2 ^ s) (hmid : mid < 2 ^ w) (hv : v < 2 ^ w)
    (hhi : hi < 2 ^ (n - (s + w))) (hsw : s + w ≤ n) (hw : 0 < w) :
    (⟨x, n⟩ : Bits).setSlice (some (s : Int)) (some ((s + w : Nat) : Int)) none ⟨v, vs⟩ = .ok ⟨y, n⟩ := by
  have hsub : s + w - s = w := Nat.add_sub_cancel_left s w
  have hbit : ∀ u, u < 2 ^ w → ∀ q, (lo + u * 2 ^ s + hi * 2 ^ (s + w)).testBit q =
      if q < s + w then (if q < s then lo.testBit q else u.testBit (q - s)) else hi.testBit (q - (s + w)) := fun u hu q => by
    rw [show lo + u * 2 ^ s + hi * 2 ^ (s + w) = 2 ^ (s + w) * hi + (2 ^ s * u + lo) by
        rw [Nat.mul_comm u, Nat.mul_comm hi]; omega,
      Nat.testBit_two_pow_mul_add _ (field_lt (Nat.le_add_right s w) (hsub.symm ▸ hu) hlo), Nat.testBit_two_pow_mul_add _ hlo]
  rw [setSlice_nat ⟨x, n⟩ s (s + w) (by omega) hsw]
  refine congrArg (fun u => Except.ok (Bits.mk u n)) (Nat.eq_of_testBit_eq fun q => ?_)
  rw [setSlice_fast_testBit ⟨x, n⟩ s (s + w) (by omega) hsw ⟨v, vs⟩ (hsub.symm ▸ hv) q, hy, hbit v hv]
  show (if s ≤ q ∧ q < s + w then v.testBit (q - s) else (decide (q < n) && x.testBit q)) = _
  rw [hx, hbit mid hmid]
  by_cases h1 : q < s
  · simp [h1, show q < s + w by omega, show ¬ s ≤ q by omega, show q < n by omega]
  · by_cases h2 : q < s + w
    · simp [h1, h2, show s ≤ q by omega]
    · by_cases h3 : q < n
      · simp [h2, h3]
      · simp [h2, h3, testBit_of_lt hhi (show n - (s + w) ≤ q - (s + w) by omega)]

/-- two paths: the contiguous one (step 1, non-empty) ORs the whole of `v` in, so `v` must fit (`hfit`, else bits above
    `e` change); the stepped one is `setList` over the range, which checks `len(v)` itself -/
theorem setSlice_spec (b : Bits) (hb : b.WF) (start stop step : Option Int) (v : Bits) {s e st : Int}
    (h : sliceIndices start stop step b.size = .ok (s, e, st))
    (hfit : st = 1 → s < e → v.ival < 2 ^ (e - s).toNat)
    (r : Bits) (hr : b.setSlice start stop step v = .ok r) :
    r.WF ∧ r.size = b.size ∧
    (∀ j (hj : j < (Py.range s e st).length), r.ival.testBit ((Py.range s e st)[j]).toNat = v.ival.testBit j) ∧
    (∀ q : Nat, (q : Int) ∉ Py.range s e st → r.ival.testBit q = b.ival.testBit q) := by
  rw [setSlice_eq b start stop step v h] at hr
  by_cases hf : st = 1 ∧ e > s
  · rw [if_pos hf] at hr
    obtain ⟨rfl, hes⟩ := hf
    obtain ⟨a, c, rfl, rfl, _, hc⟩ := sliceIndices_one h
    simp only [Int.toNat_natCast] at hr
    obtain rfl := Except.ok.inj hr
    have hbit : ∀ q, Nat.testBit _ q = if a ≤ q ∧ q < c then v.ival.testBit (q - a) else b.ival.testBit q := fun q => by
      rw [setSlice_fast_testBit b a c (by omega) hc v (by simpa [Int.toNat_sub] using hfit rfl hes)]
      by_cases hq : q < b.size
      · simp [hq]
      · simp [hq, wf_testBit hb (Nat.le_of_not_lt hq)]
    refine ⟨Nat.lt_pow_two_of_testBit _ fun q (hq : b.size ≤ q) => ?_, rfl, fun j hj => ?_, fun q hq => ?_⟩
    · show Nat.testBit _ _ = _
      rw [hbit, if_neg (by omega)]
      exact wf_testBit hb hq
    · simp only [range_one, List.length_map, List.length_range] at hj
      simp only [range_one, List.getElem_map, List.getElem_range, Int.toNat_natCast]
      show Nat.testBit _ _ = _
      rw [hbit, if_pos (by omega), Nat.add_sub_cancel_left]
    · rw [range_one] at hq
      show Nat.testBit _ _ = _
      rw [hbit, if_neg]
      exact fun hqq => hq (List.mem_map.2 ⟨q - a, List.mem_range.2 (by omega), by omega⟩)
  · rw [if_neg hf] at hr
    obtain ⟨_, hw, hsz, hsel, hframe⟩ := setList_spec b hb _ v r hr
    have h0 := (sliceIndices_bounds h).1
    have hnorm : ∀ j : Nat, j < rangeLen s e st →
        0 ≤ s + st * (j : Int) ∧ normIndex (s + st * (j : Int)) b.size = some (s + st * (j : Int)).toNat :=
      fun j hj => ⟨(range_in_bounds h hj).1, normIndex_of_bounds (range_in_bounds h hj).1 (range_in_bounds h hj).2⟩
    refine ⟨hw, hsz, ?_, ?_⟩
    · intro j hj
      have hj' : j < rangeLen s e st := by simpa using hj
      refine hsel j hj _ (by rw [range_getElem]; exact (hnorm j hj').2) fun t' ht' hlt heq => ?_
      have ht'' : t' < rangeLen s e st := by simpa using ht'
      rw [range_getElem, (hnorm t' ht'').2] at heq
      injection heq with heq
      rw [range_getElem] at heq
      have h1 := (hnorm j hj').1
      have h2 := (hnorm t' ht'').1
      have := Int.eq_of_mul_eq_mul_left h0 (show st * (t' : Int) = st * (j : Int) by omega)
      omega
    · intro q hqn
      refine hframe q fun x hx hnx => ?_
      obtain ⟨j, hj, rfl⟩ := (mem_range_iff _ _ _ _).1 hx
      rw [(hnorm j hj).2] at hnx
      injection hnx with hnx
      exact hqn ((mem_range_iff _ _ _ _).2 ⟨j, hj, by have := (hnorm j hj).1; omega⟩)

end Proofs.Lemmas.Bits
