/-
  The four transformations of Model.Aes with their inverses, each as one `Pair`: on its domain the two maps stay in
  the domain, undo each other, and are the FIPS 197 transformations of Spec.Aes.  SubBytes is the pair of S-box tables
  applied entry by entry, MixColumns the pair on one column applied to the four columns.
-/
import Proofs.Lemmas.AesMix
import Proofs.Lemmas.AesGmul
import Proofs.Lemmas.Pair
namespace Proofs.Aes
open Model Model.Aes Model.Gen.Aes
open Proofs.Lemmas (Pair)
open Proofs.Lemmas.Bytes (AllBytes)

theorem wd_mk {a b c d : Nat} (ha : a < 256) (hb : b < 256) (hc : c < 256) (hd : d < 256) : Wd [a, b, c, d] :=
  ⟨rfl, bytes4.mpr ⟨ha, hb, hc, hd⟩⟩

theorem wd_cases {w : List Nat} (h : Wd w) : ∃ a b c d, w = [a, b, c, d] ∧ a < 256 ∧ b < 256 ∧ c < 256 ∧ d < 256 := by
  obtain ⟨a, b, c, d, rfl⟩ := Lemmas.Fold.exists_of_length_4 h.1
  exact ⟨a, b, c, d, rfl, bytes4.mp h.2⟩

theorem st_of_wds {w0 w1 w2 w3 : List Nat} (h0 : Wd w0) (h1 : Wd w1) (h2 : Wd w2) (h3 : Wd w3) :
    St (w0 ++ w1 ++ w2 ++ w3) :=
  ⟨by simp [h0.1, h1.1, h2.1, h3.1], AllBytes.append (AllBytes.append (AllBytes.append h0.2 h1.2) h2.2) h3.2⟩

theorem st_length {s : List Nat} (h : St s) : s.length = 16 := h.1

theorem sbox_pair : Pair (· < 256) sbox sboxInv Spec.Aes.sbox Spec.Aes.invSbox :=
  .of_spec (fun _ => ⟨sbox_lt _, sboxInv_lt _⟩) (fun h => ⟨sbox_spec _ h, sboxInv_spec _ h⟩)
    spec_invSbox_sbox

theorem subBytes_pair : Pair IsBytes subBytes invSubBytes Spec.Aes.subBytes Spec.Aes.invSubBytes := sbox_pair.map

/-- for states (n = 16) and for the words of the key schedule (n = 4) -/
theorem subBytes_bytes {n : Nat} {s : List Nat} (h : s.length = n ∧ IsBytes s) :
    ((subBytes s).length = n ∧ IsBytes (subBytes s)) ∧ (invSubBytes s).length = n ∧ IsBytes (invSubBytes s) :=
  ⟨⟨(List.length_map ..).trans h.1, (subBytes_pair.st h.2).1⟩, (List.length_map ..).trans h.1, (subBytes_pair.st h.2).2⟩

theorem gather_isBytes {idx s : List Nat} (h : IsBytes s) : IsBytes (gather idx s) :=
  List.forall_mem_map.mpr fun j _ => AllBytes.getD_lt h j

theorem shiftRows_length (s : List Nat) : (shiftRows s).length = 16 := by
  rw [shiftRows, gather, List.length_map, shiftRowsIdx_eq]
  rfl
theorem invShiftRows_length (s : List Nat) : (invShiftRows s).length = 16 := by
  rw [invShiftRows, gather, List.length_map, invShiftRowsIdx_eq]
  rfl

theorem shiftRows_spec (s : List Nat) : shiftRows s = Spec.Aes.shiftRows s := by
  rw [shiftRows, gather, shiftRowsIdx_spec, List.map_map]
  rfl

theorem invShiftRows_spec (s : List Nat) : invShiftRows s = Spec.Aes.invShiftRows s := by
  rw [invShiftRows, gather, invShiftRowsIdx_spec, List.map_map]
  rfl

theorem gather_gather {i1 i2 s : List Nat} (h : ∀ j ∈ i2, j < i1.length) :
    gather i2 (gather i1 s) = gather (gather i2 i1) s := by
  unfold gather
  rw [List.map_map]
  apply List.map_congr_left
  intro j hj
  simp [List.getD_eq_getElem?_getD, List.getElem?_eq_getElem (h j hj)]

theorem gather_range (s : List Nat) : gather (List.range s.length) s = s :=
  (Lemmas.Fold.map_getD_range s 0 _ (Nat.le_refl _)).trans (List.take_length ..)

theorem shiftRows_pair : Pair (·.length = 16) shiftRows invShiftRows Spec.Aes.shiftRows Spec.Aes.invShiftRows where
  st _ := ⟨shiftRows_length _, invShiftRows_length _⟩
  undo h := by
    have e : gather invShiftRowsIdx shiftRowsIdx = List.range 16 ∧ gather shiftRowsIdx invShiftRowsIdx = List.range 16 := by
      decide +kernel
    simp only [invShiftRows, shiftRows]
    rw [gather_gather (by decide +kernel), gather_gather (by decide +kernel), e.1, e.2, ← h, gather_range]
    exact ⟨rfl, rfl⟩
  spec _ := ⟨shiftRows_spec _, invShiftRows_spec _⟩

/-- `mixColumns` and `invMixColumns` of the model are of this form as they stand -/
def colMap (f : List Nat → List Nat) (s : List Nat) : List Nat :=
  f (column s 0) ++ f (column s 1) ++ f (column s 2) ++ f (column s 3)

/-- the form of Spec.Aes.mixColumns and invMixColumns -/
theorem flatten_colMap (f : List Nat → List Nat) (s : List Nat) :
    ((List.range 4).map fun c => f (column s c)).flatten = colMap f s := by
  simp [colMap, show List.range 4 = [0, 1, 2, 3] from rfl]

theorem column_wd {s : List Nat} (h : St s) (i : Nat) (hi : i < 4 := by decide) : Wd (column s i) :=
  ⟨by simp only [column, List.length_take, List.length_drop, h.1]; omega,
    fun b hb => h.2 b (List.mem_of_mem_drop (List.mem_of_mem_take hb))⟩

theorem column_append {w0 w1 w2 w3 : List Nat} (h0 : w0.length = 4) (h1 : w1.length = 4) (h2 : w2.length = 4)
    (h3 : w3.length = 4) :
    column (w0 ++ w1 ++ w2 ++ w3) 0 = w0 ∧ column (w0 ++ w1 ++ w2 ++ w3) 1 = w1 ∧
      column (w0 ++ w1 ++ w2 ++ w3) 2 = w2 ∧ column (w0 ++ w1 ++ w2 ++ w3) 3 = w3 := by
  simp [column, List.drop_append, List.drop_eq_nil_of_le, List.take_of_length_le, h0, h1, h2, h3]

theorem colMap_self {s : List Nat} (h : s.length = 16) : colMap (fun w => w) s = s := by
  have e : ∀ n, (s.drop n).take 4 ++ s.drop (n + 4) = s.drop n := fun n => by
    rw [← List.drop_drop, List.take_append_drop]
  have z : (s.drop 12).take 4 = s.drop 12 := List.take_of_length_le (by rw [List.length_drop, h]; decide)
  rw [colMap, column, column, column, column, z, List.append_assoc, List.append_assoc, e 8, e 4, e 0, List.drop_zero]

theorem colMap_congr {f g : List Nat → List Nat} {s : List Nat} (h : St s) (hfg : ∀ w, Wd w → f w = g w) :
    colMap f s = colMap g s := by
  rw [colMap, colMap, hfg _ (column_wd h 0), hfg _ (column_wd h 1), hfg _ (column_wd h 2), hfg _ (column_wd h 3)]

theorem colMap_st {f : List Nat → List Nat} {s : List Nat} (h : St s) (hf : ∀ w, Wd w → Wd (f w)) : St (colMap f s) :=
  st_of_wds (hf _ (column_wd h 0)) (hf _ (column_wd h 1)) (hf _ (column_wd h 2)) (hf _ (column_wd h 3))

theorem colMap_undo {f g : List Nat → List Nat} {s : List Nat} (h : St s) (hf : ∀ w, Wd w → Wd (f w))
    (hgf : ∀ w, Wd w → g (f w) = w) : colMap g (colMap f s) = s := by
  obtain ⟨e0, e1, e2, e3⟩ := column_append (hf _ (column_wd h 0)).1 (hf _ (column_wd h 1)).1
    (hf _ (column_wd h 2)).1 (hf _ (column_wd h 3)).1
  rw [colMap, colMap, e0, e1, e2, e3]
  exact (colMap_congr h hgf).trans (colMap_self h.1)

theorem colMap_pair {f g f' g' : List Nat → List Nat} (a : Pair Wd f g f' g') :
    Pair St (colMap f) (colMap g) (colMap f') (colMap g') where
  st h := ⟨colMap_st h fun _ hw => (a.st hw).1, colMap_st h fun _ hw => (a.st hw).2⟩
  undo h := ⟨colMap_undo h (fun _ hw => (a.st hw).1) fun _ hw => (a.undo hw).1,
    colMap_undo h (fun _ hw => (a.st hw).2) fun _ hw => (a.undo hw).2⟩
  spec h := ⟨colMap_congr h fun _ hw => (a.spec hw).1, colMap_congr h fun _ hw => (a.spec hw).2⟩

theorem mixColumn_pair : Pair Wd mixColumn invMixColumn Spec.Aes.mixColumn Spec.Aes.invMixColumn := by
  refine .of_spec (fun h => ?_) (fun h => ?_) (fun h => ?_) <;>
    obtain ⟨a, b, c, d, rfl, ha, hb, hc, hd⟩ := wd_cases h
  · have g := gmulB_lt
    exact ⟨wd_mk (xor4_lt (g ..) (g ..) hc hd) (xor4_lt ha (g ..) (g ..) hd) (xor4_lt ha hb (g ..) (g ..))
        (xor4_lt (g ..) hb hc (g ..)),
      wd_mk (xor4_lt (g ..) (g ..) (g ..) (g ..)) (xor4_lt (g ..) (g ..) (g ..) (g ..))
        (xor4_lt (g ..) (g ..) (g ..) (g ..)) (xor4_lt (g ..) (g ..) (g ..) (g ..))⟩
  · constructor <;>
      simp (disch := decide) only [mixColumn, Spec.Aes.mixColumn, invMixColumn, Spec.Aes.invMixColumn, gmulB_eq ha,
        gmulB_eq hb, gmulB_eq hc, gmulB_eq hd]
  · exact spec_invMixColumn_mixColumn h.2

theorem mixColumns_pair : Pair St mixColumns invMixColumns Spec.Aes.mixColumns Spec.Aes.invMixColumns := by
  have e1 : Spec.Aes.mixColumns = colMap Spec.Aes.mixColumn := funext (flatten_colMap _)
  have e2 : Spec.Aes.invMixColumns = colMap Spec.Aes.invMixColumn := funext (flatten_colMap _)
  rw [e1, e2]
  -- the model's `mixColumns`, `invMixColumns` unfold to `colMap mixColumn`, `colMap invMixColumn`
  exact colMap_pair mixColumn_pair

theorem addRoundKey_eq {s k : List Nat} (h : k.length = s.length) : addRoundKey s k = List.zipWith (· ^^^ ·) s k := by
  unfold addRoundKey
  rw [h, Nat.sub_self]
  simp

theorem addRoundKey_length (s k : List Nat) : (addRoundKey s k).length = s.length := by
  simp only [addRoundKey, List.length_zipWith, List.length_append, List.length_replicate]
  omega

theorem addRoundKey_st {s k : List Nat} (hs : St s) (hk : St k) : St (addRoundKey s k) := by
  rw [addRoundKey_eq (by rw [hs.1, hk.1])]
  exact ⟨by simp [hs.1, hk.1], AllBytes.zipWith_xor hs.2 hk.2⟩

theorem addRoundKey_addRoundKey {s k : List Nat} (h : k.length = s.length) : addRoundKey (addRoundKey s k) k = s := by
  rw [addRoundKey_eq h, addRoundKey_eq (by simp [h])]
  exact Lemmas.Fold.zipWith_cancel Lemmas.Bits.xor_cancel_right s k (Nat.le_of_eq h.symm)

theorem addRoundKey_spec {s : List Nat} {w : List (List Nat)} {r : Nat} (h : (roundKey w r).length = s.length) :
    addRoundKey s (roundKey w r) = Spec.Aes.addRoundKey s w r := by
  rw [addRoundKey_eq h]
  rfl

theorem addRoundKey_pair {w : List (List Nat)} {r : Nat} (hk : St (roundKey w r)) :
    Pair St (addRoundKey · (roundKey w r)) (addRoundKey · (roundKey w r)) (Spec.Aes.addRoundKey · w r)
      (Spec.Aes.addRoundKey · w r) :=
  .involution (addRoundKey_st · hk) (fun h => addRoundKey_addRoundKey (hk.1.trans h.1.symm))
    fun h => addRoundKey_spec (hk.1.trans h.1.symm)

end Proofs.Aes
