/-
  End to end: key bytes, nonce bytes, rounds, message → `Spec.Salsa20.encFrom` / `Spec.Chacha.encFrom`.
  The case distinction on the key size is made once, in `half0`/`half1`/`constOf`: both constructors and both
  specifications use the two 16-byte halves of the key (a 16-byte key twice) and the constant of that size.
-/
import Proofs.Lemmas.SalsaInit
namespace Proofs.Lemmas.SalsaEnd
open Model Proofs.Lemmas.StreamPoly Proofs.Lemmas.SalsaRounds Proofs.Lemmas.StreamEnc Proofs.Lemmas.SalsaKey
  Proofs.Lemmas.SalsaInit

def half0 (key : List Byte) : List Byte := if key.length = 32 then key.take 16 else key
def half1 (key : List Byte) : List Byte := if key.length = 32 then key.drop 16 else key
def constOf (key : List Byte) : List Byte := if key.length = 32 then Spec.Salsa20.sigma else Spec.Salsa20.tau

theorem halves_length (key : List Byte) (hk : key.length = 16 ∨ key.length = 32) :
    (half0 key).length = 16 ∧ (half1 key).length = 16 := by
  unfold half0 half1
  rcases hk with hk | hk <;> simp [hk]

theorem constOf_length (key : List Byte) : (constOf key).length = 16 := by
  unfold constOf
  split <;> simp [Spec.Salsa20.sigma, Spec.Salsa20.tau, Spec.Salsa20.ascii]

/-- Salsa20 state words of a key: what `Salsa20.__init__` leaves in `p` -/
def salsaP (key : List Byte) : List Word :=
  salsaLayout (Spec.Salsa20.words (constOf key)) (Spec.Salsa20.words (half0 key)) (Spec.Salsa20.words (half1 key))

def chachaP (key : List Byte) : List Word :=
  chachaLayout (Spec.Salsa20.words (constOf key)) (Spec.Salsa20.words (half0 key)) (Spec.Salsa20.words (half1 key))

theorem salsaP_length (key : List Byte) : (salsaP key).length = 16 := by
  simp [salsaP, salsaLayout, setW_length]

theorem chachaP_length (key : List Byte) : (chachaP key).length = 16 := by
  simp [chachaP, chachaLayout, setW_length]

theorem spec_expand (key n : List Byte) (hk : key.length = 16 ∨ key.length = 32) :
    Spec.Salsa20.expand key n =
      some ((constOf key).take 4 ++ half0 key ++ ((constOf key).drop 4).take 4 ++ n ++ ((constOf key).drop 8).take 4
        ++ half1 key ++ (constOf key).drop 12) := by
  unfold Spec.Salsa20.expand half0 half1 constOf
  rcases hk with hk | hk <;> simp [hk]

theorem spec_input (key v : List Byte) (i : Nat) (hk : key.length = 16 ∨ key.length = 32) :
    Spec.Chacha.input key v i = some (constOf key ++ (half0 key ++ half1 key) ++ Spec.Salsa20.le64 i ++ v) := by
  unfold Spec.Chacha.input half0 half1 constOf
  rcases hk with hk | hk <;> simp [hk]

theorem salsa_spec_block (dr : Nat) (key v : List Byte) (hk : key.length = 16 ∨ key.length = 32) (hv : v.length = 8) (i : Nat) :
    Spec.Salsa20.block dr key v i = some (ksBlock Spec.Salsa20.coreWords dr 8 (nonceSet 6 (salsaP key) (leVal v)) i) := by
  obtain ⟨h0, h1⟩ := halves_length key hk
  rw [Spec.Salsa20.block, spec_expand key _ hk, Option.map_some, Spec.Salsa20.hashR,
    salsa_input_words _ _ _ v (constOf_length key) h0 h1 hv i]
  rfl

theorem chacha_spec_block (dr : Nat) (key v : List Byte) (hk : key.length = 16 ∨ key.length = 32) (hv : v.length = 8) (i : Nat) :
    Spec.Chacha.block dr key v i = some (ksBlock Spec.Chacha.coreWords dr 12 (nonceSet 14 (chachaP key) (leVal v)) i) := by
  obtain ⟨h0, h1⟩ := halves_length key hk
  rw [Spec.Chacha.block, spec_input key v i hk, Option.map_some,
    chacha_input_words _ _ _ v (constOf_length key) h0 h1 hv i]
  rfl

theorem salsa_spec_enc (dr : Nat) (key v : List Byte) (blk : Nat → List Byte)
    (h : ∀ i, Spec.Salsa20.block dr key v i = some (blk i)) (hv : v.length = 8)
    (b0 : Nat) (M : List Byte) (hb : b0 + (M.length + 63) / 64 ≤ 2 ^ 64) :
    Spec.Salsa20.encFrom dr key v b0 M = some (encW blk b0 M) := by
  unfold Spec.Salsa20.encFrom
  rw [if_neg (by omega), ksFrom_of_rec (ks := Spec.Salsa20.keystream dr key v) h (fun _ => rfl) (fun _ _ => rfl)]
  rfl

theorem chacha_spec_enc (dr : Nat) (key v : List Byte) (blk : Nat → List Byte)
    (h : ∀ i, Spec.Chacha.block dr key v i = some (blk i)) (hv : v.length = 8)
    (b0 : Nat) (M : List Byte) (hb : b0 + (M.length + 63) / 64 ≤ 2 ^ 64) :
    Spec.Chacha.encFrom dr key v b0 M = some (encW blk b0 M) := by
  unfold Spec.Chacha.encFrom
  rw [if_neg (by omega), ksFrom_of_rec (ks := Spec.Chacha.keystream dr key v) h (fun _ => rfl) (fun _ _ => rfl)]
  rfl

/-- `Salsa20(K, rounds)` for `K = Bits(key,bitorder=1)` -/
theorem salsa_init_key (key : List Byte) (hk : key.length = 16 ∨ key.length = 32) (rounds : Int)
    (hr : rounds > 0 ∧ rounds % 2 = 0) :
    Salsa.init (some ⟨leVal key, 8 * key.length⟩) rounds =
      .ok ⟨some [⟨leVal (half0 key), 128⟩, ⟨leVal (half1 key), 128⟩], ofBV (salsaP key), (rounds / 2).toNat⟩ := by
  unfold salsaP half0 half1 constOf
  rcases hk with hk | hk
  · simp only [hk, Nat.reduceEqDiff, ↓reduceIte, Nat.reduceMul]
    exact tau_words ▸ salsa_init_halves _ (Or.inl rfl) _ (split128_k16 key hk) _ rfl key key hk hk rfl rounds hr
  · simp only [hk, ↓reduceIte, Nat.reduceMul]
    have h0 : (key.take 16).length = 16 := by simp [hk]
    have h1 : (key.drop 16).length = 16 := by simp [hk]
    have := salsa_init_halves _ (Or.inr rfl) _ (split128_k32 _ _ h0 h1) _ rfl _ _ h0 h1 rfl rounds hr
    rw [List.take_append_drop] at this
    exact sigma_words ▸ this

/-- `ChaCha(K, rounds)` for the same `K` -/
theorem chacha_init_key (key : List Byte) (hk : key.length = 16 ∨ key.length = 32) (rounds : Int)
    (hr : rounds > 0 ∧ rounds % 2 = 0) :
    Chacha.init (some ⟨leVal key, 8 * key.length⟩) rounds =
      .ok ⟨some [⟨leVal (half0 key), 128⟩, ⟨leVal (half1 key), 128⟩], ofBV (chachaP key), (rounds / 2).toNat⟩ :=
  chacha_init_of_salsa _ rounds _ _ (words_length 4 _ (constOf_length key)) _ _ (halves_length key hk).1 (halves_length key hk).2
    (salsa_init_key key hk rounds hr)

end Proofs.Lemmas.SalsaEnd
