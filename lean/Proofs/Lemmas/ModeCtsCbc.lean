/-
  Helper lemmas for C05: CBC with ciphertext stealing (CBC-CS2 of the SP 800-38A addendum, IV in front).  As for ECB
  (ModeCts.lean): the model and the Spec are computed on the two shapes of a message, `enc` and `dec` refine the Spec
  maps, and the round trip is proved for the Spec maps.
-/
import Proofs.Lemmas.ModeCts
namespace Proofs.Lemmas.ModeL
open Model Model.Mode Proofs.Lemmas.Bytes
variable {c : BlockCipher} {k : Spec.Mode.Cipher}

/-- for the message P' ‖ pl ‖ b: C_{n-2}, the last CBC block of P' (the IV when P' is empty) -/
def csPrev (k : Spec.Mode.Cipher) (iv : List Nat) (P' : List (List Nat)) : List Nat :=
  (Spec.Mode.cbcEncrypt k iv P').getLastD iv
/-- C_{n-1}, the CBC block of the last full block pl -/
def csCl (k : Spec.Mode.Cipher) (iv : List Nat) (P' : List (List Nat)) (pl : List Nat) : List Nat :=
  k.E (xorstr pl (csPrev k iv P'))
/-- the block that takes the place of C_{n-1}: the short block b, padded with zeros, chained after C_{n-1} -/
def csY (k : Spec.Mode.Cipher) (l : Nat) (iv : List Nat) (P' : List (List Nat)) (pl b : List Nat) : List Nat :=
  k.E (xorstr (b ++ List.replicate (l - b.length) 0) (csCl k iv P' pl))

theorem csCl_isBlock (h : Implements c k) (iv : List Nat) (hiv : IsBlock c.len iv) (P' : List (List Nat))
    (hP' : ∀ b ∈ P', IsBlock c.len b) (pl : List Nat) (hpl : IsBlock c.len pl) : IsBlock c.len (csCl k iv P' pl) :=
  h.E_block _ (xor_isBlock hpl (isBlock_cons hiv (cbcChain_eq h P' iv hiv hP').2 _ List.getLastD_mem_cons))

theorem padded_isBlock {l : Nat} {b : List Nat} (hb : Bytes b) (hbl : b.length < l) :
    IsBlock l (b ++ List.replicate (l - b.length) 0) :=
  ⟨by simp; omega, hb.append (AllBytes.replicate (by omega) _)⟩

theorem cts_cbc_enc_partial (h : Implements c k) (iv : List Nat) (hiv : IsBlock c.len iv)
    (P' : List (List Nat)) (hP' : ∀ b ∈ P', IsBlock c.len b)
    (pl : List Nat) (hpl : IsBlock c.len pl) (b : List Nat) (hb : Bytes b) (hb0 : 0 < b.length) (hbl : b.length < c.len) :
    CTS_CBC.enc c iv .no (join (P' ++ [pl]) ++ b)
      = .ok (join ((iv :: Spec.Mode.cbcEncrypt k iv P') ++ [csY k c.len iv P' pl b, (csCl k iv P' pl).take b.length])) := by
  have hall := isBlock_snoc hP' hpl
  obtain ⟨hn, hp⟩ := split_len c.len h.len_pos (P' ++ [pl]) (isBlock_len hall) b hbl
  have hjl := length_join_of_all c.len (P' ++ [pl]) (isBlock_len hall)
  have hcl : IsBlock c.len (k.E (xorstr pl ((Spec.Mode.cbcEncrypt k iv P').getLastD iv))) :=
    csCl_isBlock h iv hiv P' hP' pl hpl
  unfold CTS_CBC.enc csY csCl csPrev
  rw [mkPad_ok c _ h.len_pos]
  simp only [hn, hp, List.take_left' hjl, List.drop_left' hjl, hiv.1, ne_eq, not_true_eq_false, if_false]
  rw [iter_no_blocks c.len h.len_pos _ (by simp) (isBlock_len hall), forBlocks_none,
    (cbcChain_eq h _ iv hiv hall).1]
  simp only [hb0, if_true, cbcEncrypt_snoc, ← List.cons_append, List.getLast_concat, List.dropLast_concat]
  rw [← xorstr_eq_spec, h.enc_ok _ (xor_isBlock (padded_isBlock hb hbl) hcl)]

theorem cts_cbc_enc_full (h : Implements c k) (iv : List Nat) (hiv : IsBlock c.len iv) (Bs : List (List Nat)) (hne : Bs ≠ [])
    (hB : ∀ b ∈ Bs, IsBlock c.len b) :
    CTS_CBC.enc c iv .no (join Bs) = .ok (join (iv :: Spec.Mode.cbcEncrypt k iv Bs)) := by
  have hjl := length_join_of_all c.len Bs (isBlock_len hB)
  unfold CTS_CBC.enc
  rw [mkPad_ok c _ h.len_pos]
  simp only [hjl, Nat.mul_mod_left, Nat.mul_div_cancel _ h.len_pos, Nat.lt_irrefl, gt_iff_lt, if_false, hiv.1, ne_eq,
    not_true_eq_false]
  rw [List.take_of_length_le (by omega), iter_no_blocks c.len h.len_pos _ hne (isBlock_len hB), forBlocks_none,
    (cbcChain_eq h _ iv hiv hB).1]

/-- the object's own IV is not used: the first block of the input is -/
theorem cts_cbc_dec_general_full (h : Implements c k) (iv : List Nat) (hivl : iv.length = c.len) (iv0 : List Nat)
    (hiv0 : IsBlock c.len iv0) (rs : List (List Nat)) (hrs : ∀ x ∈ rs, IsBlock c.len x) :
    CTS_CBC.dec c iv .no (join (iv0 :: rs)) = .ok (join (Spec.Mode.cbcDecrypt k iv0 rs)) := by
  have hjl := length_join_of_all c.len _ (isBlock_len (isBlock_cons hiv0 hrs))
  unfold CTS_CBC.dec
  rw [mkPad_ok c _ h.len_pos]
  simp only [hivl, ne_eq, not_true_eq_false, if_false]
  rw [cbcUnchain_join h iv0 hiv0.1 rs hrs, List.append_nil, hjl]
  simp only [Nat.mul_mod_left, Nat.lt_irrefl, gt_iff_lt, if_false]

theorem cts_cbc_dec_general (h : Implements c k) (iv : List Nat) (hivl : iv.length = c.len) (iv0 : List Nat)
    (hiv0 : IsBlock c.len iv0) (rs : List (List Nat)) (hrs : ∀ x ∈ rs, IsBlock c.len x) (cn : List Nat)
    (hcn : IsBlock c.len cn) (b : List Nat) (hb : Bytes b) (hb0 : 0 < b.length) (hbl : b.length < c.len) :
    CTS_CBC.dec c iv .no (join ((iv0 :: rs) ++ [cn]) ++ b)
      = .ok (join (Spec.Mode.cbcDecrypt k iv0 (rs ++ [b ++ (k.D cn).drop b.length]) ++ [xorstr b ((k.D cn).take b.length)])) := by
  have hA := isBlock_cons hiv0 hrs
  obtain ⟨_, hp⟩ := split_len c.len h.len_pos _ (isBlock_len (isBlock_snoc hA hcn)) b hbl
  have hlast := last_of_join c.len iv0 rs hiv0.1 (isBlock_len hrs)
  unfold CTS_CBC.dec
  rw [mkPad_ok c _ h.len_pos]
  simp only [hp, hivl, ne_eq, not_true_eq_false, if_false, Fold.drop_len_sub _ _ _ rfl, Fold.take_len_sub _ _ _ rfl, hb0, if_true]
  rw [join_snoc]
  simp only [Fold.drop_len_sub _ _ _ hcn.1, Fold.take_len_sub _ _ _ hcn.1, h.dec_ok _ hcn,
    h.dec_ok _ (steal_isBlock hb hbl (h.D_block cn hcn)), hlast]
  rw [cbcUnchain_join h iv0 hiv0.1 rs hrs, cbcDecrypt_snoc, ← xorstr_eq_spec, xor_comm (k.D _), List.append_assoc]
  rfl

theorem cs2_cons (l d : Nat) (a : List Nat) : ∀ (L : List (List Nat)), 2 ≤ L.length →
    Spec.Mode.cs2Assemble l d (a :: L) = a :: Spec.Mode.cs2Assemble l d L
  | _ :: _ :: _, _ => rfl

theorem cs2_partial (l d : Nat) (hd : d ≠ l) (cl y : List Nat) : ∀ (C : List (List Nat)),
    Spec.Mode.cs2Assemble l d (C ++ [cl, y]) = C ++ [y, cl.take d]
  | [] => by simp [Spec.Mode.cs2Assemble, hd]
  | a :: C => by
    rw [List.cons_append, cs2_cons l d a _ (by simp), cs2_partial l d hd cl y C, List.cons_append]

theorem cs2_full (l : Nat) : ∀ (C : List (List Nat)), Spec.Mode.cs2Assemble l l C = C
  | [] => rfl
  | [a] => rfl
  | [a, b] => by simp [Spec.Mode.cs2Assemble]
  | a :: b :: r :: rest => by rw [cs2_cons l l a _ (by simp), cs2_full l (b :: r :: rest)]

theorem cbcCts_full (h : Implements c k) (iv : List Nat) (Bs : List (List Nat)) (hB : ∀ x ∈ Bs, IsBlock c.len x) :
    Spec.Mode.cbcCts k iv (join Bs) = join (iv :: Spec.Mode.cbcEncrypt k iv Bs) := by
  unfold Spec.Mode.cbcCts Spec.Mode.cbcCS2 Spec.Mode.concat Spec.Mode.zeroExtend Spec.Mode.lastLen
  rw [h.len_eq, length_join_of_all c.len Bs (isBlock_len hB)]
  simp only [Nat.mul_mod_left, if_true, Nat.sub_self, List.replicate_zero, List.append_nil]
  rw [blocks_full c.len h.len_pos Bs (isBlock_len hB), cs2_full]
  rfl

theorem cbcCts_partial (h : Implements c k) (iv : List Nat) (P' : List (List Nat)) (hP' : ∀ x ∈ P', IsBlock c.len x)
    (pl : List Nat) (hpl : IsBlock c.len pl) (b : List Nat) (hb0 : 0 < b.length) (hbl : b.length < c.len) :
    Spec.Mode.cbcCts k iv (join (P' ++ [pl]) ++ b)
      = join ((iv :: Spec.Mode.cbcEncrypt k iv P') ++ [csY k c.len iv P' pl b, (csCl k iv P' pl).take b.length]) := by
  have hall : ∀ x ∈ P' ++ [pl] ++ [b ++ List.replicate (c.len - b.length) 0], x.length = c.len := by
    intro x hx
    rcases List.mem_append.1 hx with hx | hx
    · exact isBlock_len (isBlock_snoc hP' hpl) x hx
    · rw [List.mem_singleton.1 hx, List.length_append, List.length_replicate]
      omega
  have hz : join (P' ++ [pl]) ++ b ++ List.replicate (c.len - b.length) 0
      = join (P' ++ [pl] ++ [b ++ List.replicate (c.len - b.length) 0]) := by simp [join]
  have henc : Spec.Mode.cbcEncrypt k iv (P' ++ [pl] ++ [b ++ List.replicate (c.len - b.length) 0])
      = Spec.Mode.cbcEncrypt k iv P' ++ [csCl k iv P' pl, csY k c.len iv P' pl b] := by
    rw [cbcEncrypt_snoc, cbcEncrypt_snoc, List.getLastD_concat, List.append_assoc]
    rfl
  unfold Spec.Mode.cbcCts Spec.Mode.cbcCS2 Spec.Mode.concat Spec.Mode.zeroExtend Spec.Mode.lastLen
  rw [h.len_eq, (split_len c.len h.len_pos _ (isBlock_len (isBlock_snoc hP' hpl)) b hbl).2, if_neg (by omega), hz,
    blocks_full c.len h.len_pos _ hall, henc, cs2_partial c.len b.length (by omega)]
  rfl

theorem cbcCtsInv_full (h : Implements c k) (iv0 : List Nat) (hiv0 : IsBlock c.len iv0) (rs : List (List Nat))
    (hrs : ∀ x ∈ rs, IsBlock c.len x) :
    Spec.Mode.cbcCtsInv k (join (iv0 :: rs)) = join (Spec.Mode.cbcDecrypt k iv0 rs) := by
  have e : join (iv0 :: rs) = iv0 ++ join rs := rfl
  unfold Spec.Mode.cbcCtsInv Spec.Mode.cbcCS2Inv Spec.Mode.concat
  rw [h.len_eq, e, List.take_left' hiv0.1, List.drop_left' hiv0.1, length_join_of_all c.len rs (isBlock_len hrs),
    if_pos (Nat.mul_mod_left _ _), blocks_full c.len h.len_pos rs (isBlock_len hrs)]

theorem cbcCtsInv_partial (h : Implements c k) (iv0 : List Nat) (hiv0 : IsBlock c.len iv0) (rs : List (List Nat))
    (hrs : ∀ x ∈ rs, IsBlock c.len x) (cn : List Nat) (hcn : IsBlock c.len cn) (b : List Nat) (hb0 : 0 < b.length)
    (hbl : b.length < c.len) :
    Spec.Mode.cbcCtsInv k (join ((iv0 :: rs) ++ [cn]) ++ b)
      = join (Spec.Mode.cbcDecrypt k iv0 (rs ++ [b ++ (k.D cn).drop b.length]) ++ [xorstr b ((k.D cn).take b.length)]) := by
  have hl := isBlock_len (isBlock_snoc hrs hcn)
  have e : join ((iv0 :: rs) ++ [cn]) ++ b = iv0 ++ (join (rs ++ [cn]) ++ b) := by simp [join]
  have erev : (rs ++ [cn] ++ [b]).reverse = b :: cn :: rs.reverse := by simp
  unfold Spec.Mode.cbcCtsInv Spec.Mode.cbcCS2Inv Spec.Mode.concat
  rw [h.len_eq, e, List.take_left' hiv0.1, List.drop_left' hiv0.1, (split_len c.len h.len_pos _ hl b hbl).2, if_neg (by omega),
    blocks_partial c.len h.len_pos _ hl b hb0 hbl, erev]
  simp only [Spec.Mode.cbcCS1Decrypt, List.reverse_reverse]
  rfl

theorem cts_cbc_enc_spec (h : Implements c k) (iv : List Nat) (hiv : IsBlock c.len iv) (M : List Nat) (hM : Bytes M)
    (hlen : c.len ≤ M.length) : CTS_CBC.enc c iv .no M = .ok (Spec.Mode.cbcCts k iv M) := by
  refine cts_cases h.len_pos ?_ ?_ M hM hlen
  · intro Bs hne hB
    rw [cts_cbc_enc_full h iv hiv Bs hne hB, cbcCts_full h iv Bs hB]
  · intro P' pl b hP' hpl hb hb0 hbl
    rw [cts_cbc_enc_partial h iv hiv P' hP' pl hpl b hb hb0 hbl, cbcCts_partial h iv P' hP' pl hpl b hb0 hbl]

theorem cts_cbc_dec_spec (h : Implements c k) (iv : List Nat) (hivl : iv.length = c.len) (C : List Nat) (hC : Bytes C)
    (hlen : 2 * c.len ≤ C.length) : CTS_CBC.dec c iv .no C = .ok (Spec.Mode.cbcCtsInv k C) := by
  have hl1 : c.len ≤ C.length := by omega
  revert hlen
  refine cts_cases h.len_pos ?_ ?_ C hC hl1
  · intro Bs hne hB _
    obtain ⟨iv0, rs, rfl⟩ := List.exists_cons_of_ne_nil hne
    have hrs := fun x hx => hB x (List.mem_cons_of_mem iv0 hx)
    rw [cts_cbc_dec_general_full h iv hivl iv0 (hB iv0 (by simp)) rs hrs, cbcCtsInv_full h iv0 (hB iv0 (by simp)) rs hrs]
  · intro P' pl b hP' hpl hb hb0 hbl hlen
    obtain ⟨iv0, rs, rfl⟩ : ∃ iv0 rs, P' = iv0 :: rs := by
      cases P' with
      | nil =>
        rw [List.length_append] at hlen
        simp [join, hpl.1] at hlen
        omega
      | cons a as => exact ⟨a, as, rfl⟩
    have hrs := fun x hx => hP' x (List.mem_cons_of_mem iv0 hx)
    rw [cts_cbc_dec_general h iv hivl iv0 (hP' iv0 (by simp)) rs hrs pl hpl b hb hb0 hbl,
      cbcCtsInv_partial h iv0 (hP' iv0 (by simp)) rs hrs pl hpl b hb0 hbl]

theorem cbcCts_facts (h : Implements c k) (iv : List Nat) (hiv : IsBlock c.len iv) (M : List Nat) (hM : Bytes M)
    (hlen : c.len ≤ M.length) :
    Bytes (Spec.Mode.cbcCts k iv M) ∧ (Spec.Mode.cbcCts k iv M).length = M.length + c.len ∧
    (Spec.Mode.cbcCts k iv M).take c.len = iv ∧ Spec.Mode.cbcCtsInv k (Spec.Mode.cbcCts k iv M) = M := by
  refine cts_cases h.len_pos ?_ ?_ M hM hlen
  · intro Bs hne hB
    have hC0 := (cbcChain_eq h Bs iv hiv hB).2
    have hC := isBlock_cons hiv hC0
    rw [cbcCts_full h iv Bs hB]
    refine ⟨AllBytes.flatten fun x hx => (hC x hx).2, ?_, List.take_left' hiv.1, ?_⟩
    · rw [length_join_of_all c.len _ (isBlock_len hC), length_join_of_all c.len _ (isBlock_len hB), List.length_cons,
        cbcEncrypt_length, Nat.succ_mul]
    · rw [cbcCtsInv_full h iv hiv _ hC0, cbcDecrypt_encrypt h Bs iv hiv hB]
  · intro P' pl b hP' hpl hb hb0 hbl
    have hC0 := (cbcChain_eq h P' iv hiv hP').2
    have hcl := csCl_isBlock h iv hiv P' hP' pl hpl
    have hxy := xor_isBlock (padded_isBlock hb hbl) hcl
    have hy : IsBlock c.len (csY k c.len iv P' pl b) := h.E_block _ hxy
    have hA := isBlock_snoc (isBlock_cons hiv hC0) hy
    have ht : ((csCl k iv P' pl).take b.length).length = b.length := by rw [List.length_take, hcl.1]; omega
    rw [cbcCts_partial h iv P' hP' pl hpl b hb0 hbl, join_snoc2]
    refine ⟨(AllBytes.flatten fun x hx => (hA x hx).2).append (AllBytes.take hcl.2 _), ?_, ?_, ?_⟩
    · rw [List.length_append, List.length_append, length_join_of_all c.len _ (isBlock_len hA),
        length_join_of_all c.len _ (isBlock_len (isBlock_snoc hP' hpl)), ht]
      simp [cbcEncrypt_length, Nat.succ_mul]
      omega
    · simp only [join, List.cons_append, List.flatten_cons, List.append_assoc]
      exact List.take_left' hiv.1
    · rw [cbcCtsInv_partial h iv hiv _ hC0 _ hy _ (by rw [ht]; exact hb0) (by rw [ht]; exact hbl), ht]
      have hDy : k.D (csY k c.len iv P' pl b) = xorstr (b ++ List.replicate (c.len - b.length) 0) (csCl k iv P' pl) :=
        h.D_E _ hxy
      have hdrop : (xorstr (b ++ List.replicate (c.len - b.length) 0) (csCl k iv P' pl)).drop b.length
          = (csCl k iv P' pl).drop b.length := by
        unfold xorstr
        rw [List.drop_zipWith, List.drop_left' rfl]
        exact xor_zeros_left _ _ (by rw [List.length_drop, hcl.1]; omega)
      have htake : (xorstr (b ++ List.replicate (c.len - b.length) 0) (csCl k iv P' pl)).take b.length
          = xorstr b ((csCl k iv P' pl).take b.length) := by
        unfold xorstr
        rw [List.take_zipWith, List.take_left' rfl]
      have hsn : Spec.Mode.cbcEncrypt k iv P' ++ [csCl k iv P' pl] = Spec.Mode.cbcEncrypt k iv (P' ++ [pl]) :=
        (cbcEncrypt_snoc k P' iv pl).symm
      rw [hDy, hdrop, htake, List.take_append_drop, hsn, cbcDecrypt_encrypt h _ iv hiv (isBlock_snoc hP' hpl),
        xor_comm _ (xorstr b _), xor_cancel_right b _ (by rw [ht]; exact Nat.le_refl _), join_snoc]

theorem cts_cbc_dec_of (h : Implements c k) (iv : List Nat) (hiv : IsBlock c.len iv) (M : List Nat) (hM : Bytes M)
    (hlen : c.len ≤ M.length) : CTS_CBC.dec c iv .no (Spec.Mode.cbcCts k iv M) = .ok M := by
  obtain ⟨hb, hl, _, hi⟩ := cbcCts_facts h iv hiv M hM hlen
  rw [cts_cbc_dec_spec h iv hiv.1 _ hb (by omega), hi]

end Proofs.Lemmas.ModeL
