/-
  The table of `dynprog` holds, for every key, a minimum-cardinality collection of items of l
  WITH repetition whose weights sum to the key (and the key is absent iff there is none).  Positive weights.
-/
import Model.Knapsack
import Proofs.Lemmas.KnapsackL
import Proofs.Lemmas.Fold
namespace Proofs.Lemmas.DynprogL
open Model.Knapsack Proofs.Lemmas

def Rep (l : List Item) (x : Int) (c : List Item) : Prop := (∀ it ∈ c, it ∈ l) ∧ wsum c = x

def Good (l : List Item) (y : Int) : Option Entry → Prop
  | some e => e.1 = e.2.length ∧ Rep l y e.2 ∧ ∀ c, Rep l y c → e.1 ≤ c.length
  | none => ∀ c, ¬ Rep l y c

theorem rep_cons (l : List Item) (y : Int) (it : Item) (c : List Item) :
    Rep l y (it :: c) ↔ it ∈ l ∧ Rep l (y - weight it) c := by
  unfold Rep
  rw [KnapsackL.wsum_cons, List.forall_mem_cons]
  constructor
  · rintro ⟨⟨h1, h2⟩, h3⟩
    exact ⟨h1, h2, by omega⟩
  · rintro ⟨h1, h2, h3⟩
    exact ⟨⟨h1, h2⟩, by omega⟩

theorem rep_nonneg (l : List Item) (hpos : ∀ it ∈ l, 0 < weight it) (y : Int) (c : List Item) (h : Rep l y c) : 0 ≤ y := by
  rw [← h.2]
  exact KnapsackL.wsum_nonneg c (fun it hit => hpos it (h.1 it hit))

theorem mem_enum (l : List Item) (iw : Nat × Item) : iw ∈ enum l ↔ l[iw.1]? = some iw.2 := by
  unfold enum
  rw [List.mem_iff_getElem?]
  constructor
  · rintro ⟨j, hj⟩
    obtain ⟨h1, h2⟩ := List.getElem?_zip_eq_some.1 hj
    obtain ⟨_, h3⟩ := List.getElem?_eq_some_iff.1 h1
    rw [List.getElem_range] at h3
    rw [← h3]
    exact h2
  · intro h
    obtain ⟨hlt, _⟩ := List.getElem?_eq_some_iff.1 h
    refine ⟨iw.1, List.getElem?_zip_eq_some.2 ⟨?_, h⟩⟩
    rw [List.getElem?_eq_getElem (by rw [List.length_range]; exact hlt), List.getElem_range]

/-- the inner loop keeps a running minimum of the counts that the items reach from key x, with the index of the first
    item reaching it: a step either keeps `best` or takes the entry its item reaches -/
theorem dpScan_sel (p : Table) (x : Nat) (best : Option (Nat × Nat)) (iw : Nat × Item) :
    dpScan p x best iw = best ∨
      ∃ e, tget p ((x : Int) - weight iw.2) = some e ∧ dpScan p x best iw = some (e.1, iw.1) := by
  unfold dpScan
  cases tget p ((x : Int) - weight iw.2) with
  | none => exact Or.inl rfl
  | some e =>
    cases best with
    | none => exact Or.inr ⟨e, rfl, rfl⟩
    | some b =>
      obtain ⟨m, im⟩ := b
      dsimp only
      split
      · exact Or.inr ⟨e, rfl, rfl⟩
      · exact Or.inl rfl

theorem dpScan_le {p : Table} {x : Nat} {iw : Nat × Item} {e : Entry} (he : tget p ((x : Int) - weight iw.2) = some e)
    (best : Option (Nat × Nat)) : ∃ b, dpScan p x best iw = some b ∧ b.1 ≤ e.1 := by
  unfold dpScan
  rw [he]
  cases best with
  | none => exact ⟨_, rfl, Nat.le_refl _⟩
  | some b =>
    obtain ⟨m, im⟩ := b
    dsimp only
    split
    · exact ⟨_, rfl, Nat.le_refl _⟩
    · exact ⟨_, rfl, Nat.le_of_not_lt ‹_›⟩

theorem dpScan_mono {p : Table} {x : Nat} {best : Option (Nat × Nat)} {m : Nat} (h : ∃ b, best = some b ∧ b.1 ≤ m)
    (iw : Nat × Item) : ∃ b, dpScan p x best iw = some b ∧ b.1 ≤ m := by
  obtain ⟨b, rfl, hb⟩ := h
  unfold dpScan
  cases tget p ((x : Int) - weight iw.2) with
  | none => exact ⟨b, rfl, hb⟩
  | some e =>
    obtain ⟨m', im⟩ := b
    dsimp only
    split
    · exact ⟨_, rfl, Nat.le_trans (Nat.le_of_lt ‹_›) hb⟩
    · exact ⟨_, rfl, hb⟩

/-- after the loop `best` names an item of `ps` and the count it reaches, and no item of `ps` reaches a smaller one
    (in particular `best` is `none` only if no item reaches an entry) -/
theorem scan_best (p : Table) (x : Nat) (ps : List (Nat × Item)) :
    (∀ b, ps.foldl (dpScan p x) none = some b →
      ∃ iw ∈ ps, iw.1 = b.2 ∧ ∃ e, tget p ((x : Int) - weight iw.2) = some e ∧ e.1 = b.1) ∧
    ∀ iw ∈ ps, ∀ e, tget p ((x : Int) - weight iw.2) = some e →
      ∃ b, ps.foldl (dpScan p x) none = some b ∧ b.1 ≤ e.1 := by
  constructor
  · refine Fold.foldl_inv (fun best => ∀ b, best = some b →
        ∃ iw ∈ ps, iw.1 = b.2 ∧ ∃ e, tget p ((x : Int) - weight iw.2) = some e ∧ e.1 = b.1) (dpScan p x) ps
      (fun iw hiw best hbest b hb => ?_) (a := none) (fun _ h => nomatch h)
    rcases dpScan_sel p x best iw with h | ⟨e, he, h⟩ <;> rw [h] at hb
    · exact hbest b hb
    · cases hb
      exact ⟨iw, hiw, rfl, e, he, rfl⟩
  · exact Fold.foldl_dominates
      (fun best (iw : Nat × Item) => ∀ e, tget p ((x : Int) - weight iw.2) = some e → ∃ b, best = some b ∧ b.1 ≤ e.1)
      (dpScan p x) (fun best _ e he => dpScan_le he best) (fun _ iw _ h e he => dpScan_mono (h e he) iw) ps none

theorem dpEntry_good (l : List Item) (hpos : ∀ it ∈ l, 0 < weight it) (p : Table) (x : Nat)
    (hp : ∀ u : Int, u ≤ x → Good l u (tget p u)) : Good l ((x + 1 : Nat) : Int) (dpEntry l p (x + 1)) := by
  obtain ⟨hsel, hdom⟩ := scan_best p (x + 1) (enum l)
  have hsub : ∀ iw ∈ enum l, Good l (((x + 1 : Nat) : Int) - weight iw.2) (tget p (((x + 1 : Nat) : Int) - weight iw.2)) := by
    intro iw hiw
    have := hpos iw.2 (List.mem_of_getElem? ((mem_enum l iw).1 hiw))
    exact hp _ (by omega)
  -- a collection of weight x+1 is an item of l in front of a collection for the smaller key that the item reaches; the
  -- table holds that key with a least count, and `best` is at most that
  have hlow : ∀ c, Rep l ((x + 1 : Nat) : Int) c →
      ∃ b, (enum l).foldl (dpScan p (x + 1)) none = some b ∧ b.1 + 1 ≤ c.length := by
    intro c hc
    cases c with
    | nil =>
      have := hc.2
      rw [show wsum [] = 0 from rfl] at this
      omega
    | cons it c' =>
      obtain ⟨hit, hc'⟩ := (rep_cons l _ it c').1 hc
      obtain ⟨i, hi, hli⟩ := List.getElem_of_mem hit
      have hmem : (i, it) ∈ enum l := (mem_enum l (i, it)).2 (by rw [List.getElem?_eq_getElem hi, hli])
      have hg := hsub _ hmem
      cases ht : tget p (((x + 1 : Nat) : Int) - weight it) with
      | none =>
        rw [ht] at hg
        exact absurd hc' (hg c')
      | some e =>
        rw [ht] at hg
        obtain ⟨b, hb, h1⟩ := hdom _ hmem e ht
        have h2 := hg.2.2 c' hc'
        exact ⟨b, hb, by rw [List.length_cons]; omega⟩
  unfold dpEntry
  cases hscan : (enum l).foldl (dpScan p (x + 1)) none with
  | none =>
    intro c hc
    obtain ⟨b, hb, _⟩ := hlow c hc
    rw [hscan] at hb
    cases hb
  | some b =>
    obtain ⟨iw, hiw, him, e, he, hem⟩ := hsel b hscan
    have hget := (mem_enum l iw).1 hiw
    rw [him] at hget
    have hgood := hsub iw hiw
    rw [he] at hgood
    obtain ⟨hlen, hrep, _⟩ := hgood
    simp only [hget, he]
    rw [List.take_of_length_le (by omega)]
    refine ⟨by simp; omega, ⟨fun z hz => ?_, ?_⟩, fun c hc => ?_⟩
    · rcases List.mem_append.1 hz with hz | hz
      · exact hrep.1 z hz
      · rw [List.mem_singleton.1 hz]
        exact List.mem_of_getElem? hget
    · rw [KnapsackL.wsum_append, hrep.2, KnapsackL.wsum_cons, show wsum [] = 0 from rfl]
      omega
    · obtain ⟨b', hb', h⟩ := hlow c hc
      rw [hscan] at hb'
      cases hb'
      exact h

theorem dpTable_length (l : List Item) (x : Nat) : (dpTable l x).length = x + 1 := by
  induction x with
  | zero => rfl
  | succ x ih => rw [dpTable, List.length_append, ih, List.length_singleton]

theorem dpTable_good (l : List Item) (hpos : ∀ it ∈ l, 0 < weight it) : ∀ (x : Nat) (u : Int), u ≤ x →
    Good l u (tget (dpTable l x) u) := by
  intro x
  induction x with
  | zero =>
    intro u hu
    unfold tget
    split
    next hneg =>
      intro c hc
      have := rep_nonneg l hpos u c hc
      omega
    next hneg =>
      obtain rfl : u = 0 := by omega
      show Good l 0 (some (0, []))
      exact ⟨rfl, ⟨fun _ h => (nomatch h), rfl⟩, fun _ _ => Nat.zero_le _⟩
  | succ x ih =>
    intro u hu
    have hlen := dpTable_length l x
    by_cases hux : u ≤ x
    · have : tget (dpTable l (x + 1)) u = tget (dpTable l x) u := by
        unfold tget
        split
        · rfl
        · rw [dpTable, List.getElem?_append_left (by omega)]
      rw [this]
      exact ih u hux
    · obtain rfl : u = ((x + 1 : Nat) : Int) := by omega
      have : tget (dpTable l (x + 1)) ((x + 1 : Nat) : Int) = dpEntry l (dpTable l x) (x + 1) := by
        unfold tget
        rw [if_neg (by omega), Int.toNat_natCast, dpTable, ← hlen, List.getElem?_concat_length]
        rfl
      rw [this]
      exact dpEntry_good l hpos _ x ih

end Proofs.Lemmas.DynprogL
