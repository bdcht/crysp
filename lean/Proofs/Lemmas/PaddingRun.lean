/-
  One padded `iterblocks` call in closed form (`iterblocks_closed`): block i of the emitted bytes together with the
  object state at yield i as a function of i.  Everything observable about the call (`run_facts`) is read off it.
  At the end the two calls BLAKE2 makes: Nullpadding's last block (`null_last_yield`) and an unpadded call of one block
  (`one_block_run`).
-/
import Proofs.Lemmas.PaddingSpec
namespace Proofs.Lemmas.Padding
open Model Model.Padder Spec.Padding

def tailBlocks (p : Padder) (r : Nat) : Nat :=
  if p.scheme ≠ .no ∧ ¬ r + minPad p.scheme ≤ p.blocksize then 2 else 1

theorem tailBlocks_cases (p : Padder) (r : Nat) : tailBlocks p r = 1 ∨ tailBlocks p r = 2 := by
  unfold tailBlocks
  split <;> simp

/-- the unpadded scheme never needs the second block: its shortest pad is empty -/
theorem tailBlocks_eq (p : Padder) (r : Nat) (hr : r ≤ p.blocksize) :
    tailBlocks p r = if r + minPad p.scheme ≤ p.blocksize then 1 else 2 := by
  unfold tailBlocks
  by_cases hc : r + minPad p.scheme ≤ p.blocksize
  · rw [if_pos hc, if_neg (fun h => h.2 hc)]
  · rw [if_neg hc, if_pos ⟨fun hno => hc (by rw [hno]; exact hr), hc⟩]

theorem tailBytes_length (p : Padder) (hv : Valid p) (st : PadState) (m : List Nat) (L : Option Nat)
    (hL : effLen m L ≤ 8 * m.length) (hbg : L ≠ none → BitGranular p.scheme) :
    8 * (tailBytes p st m L).length = rOf p m L + (modelTail p 0 (rOf p m L)).length ∧
    (p.scheme ≠ .no → (tailBytes p st m L).length = tailBlocks p (rOf p m L) * p.blocklen) ∧
    (p.scheme = .no → tailBlocks p (rOf p m L) = 1 ∧ (tailBytes p st m L).length ≤ p.blocklen) := by
  obtain ⟨e, h1, h2, h3, h4, h5, h6⟩ := call_facts p hv m L hL
  have hB := hv.size_eq
  have hbyte := fun hb => (rOf_byte p hv m L hL hbg hb).2
  have hlen : (tailBytes p st m L).length = (rOf p m L + (modelTail p 0 (rOf p m L)).length + 7) / 8 := by
    rw [modelTail_length_base p 0 (st.bitcnt + kOf p m L * p.blocksize)]
    simp only [tailBytes, bitsToBytes_length, List.length_append, pieceBits_length]
  by_cases hno : p.scheme = .no
  · have hr8 := hbyte (by simp [hno, BitGranular])
    have h0 : (modelTail p 0 (rOf p m L)).length = 0 := by simp [modelTail, hno]
    rw [hlen, h0]
    exact ⟨by omega, fun h => absurd hno h, fun _ => ⟨by simp [tailBlocks, hno], by omega⟩⟩
  · have ht := modelTail_total p hv 0 (rOf p m L) h2 hbyte hno
    have htb : rOf p m L + (modelTail p 0 (rOf p m L)).length = tailBlocks p (rOf p m L) * p.blocksize := by
      rw [ht, tailBlocks_eq p _ h2]
      split <;> simp
    rw [hlen, htb, hB, Nat.mul_left_comm]
    exact ⟨by omega, fun _ => by omega, fun h => absurd h hno⟩

/-- blocks emitted = ⌈(Le + mp)/B⌉, at least one: with Le = K·B + R the K loop blocks split off, and ⌈(R + mp)/B⌉ is
    0, 1 or 2 because R, mp ≤ B -/
theorem count_formula (B K R mp Le : Nat) (hB : 0 < B) (hLe : Le = K * B + R) (hR : R ≤ B) (hpos : 0 < Le → 0 < R)
    (h0 : Le = 0 → K = 0) (hmp : mp ≤ B) :
    K + (if R + mp ≤ B then 1 else 2) = max 1 ((Le + mp + B - 1) / B) := by
  have e : (Le + mp + B - 1) / B = K + (R + mp + B - 1) / B := by
    rw [hLe, show K * B + R + mp + B - 1 = (R + mp + B - 1) + K * B by omega, Nat.add_mul_div_right _ _ hB]
    omega
  have q0 : R + mp = 0 → (R + mp + B - 1) / B = 0 := fun h => Nat.div_eq_of_lt (by omega)
  have q1 : 0 < R + mp → R + mp ≤ B → (R + mp + B - 1) / B = 1 := fun h h' => Nat.div_eq_of_lt_le (by omega) (by omega)
  have q2 : ¬ R + mp ≤ B → (R + mp + B - 1) / B = 2 := fun h => Nat.div_eq_of_lt_le (by omega) (by omega)
  rw [e, Nat.max_def]
  generalize (R + mp + B - 1) / B = q at *
  split <;> split <;> omega

theorem count_closed (p : Padder) (hv : Valid p) (m : List Nat) (L : Option Nat) (hL : effLen m L ≤ 8 * m.length) :
    kOf p m L + tailBlocks p (rOf p m L) = max 1 ((effLen m L + minPad p.scheme + p.blocksize - 1) / p.blocksize) := by
  obtain ⟨e, h1, h2, h4, _, _, _⟩ := call_facts p hv m L hL
  rw [tailBlocks_eq p _ h2]
  exact count_formula p.blocksize (kOf p m L) (rOf p m L) (minPad p.scheme) (effLen m L) hv.pos
    (by simp only [rOf]; omega) h2 h4 (loopCount_spec p hv.pos (effLen m L)).2.2.2 (minPad_le p hv)

/-- the object state observable at the i-th yield of a padded call -/
def yieldState (p : Padder) (st : PadState) (m : List Nat) (L : Option Nat) (i : Nat) : PadState :=
  stateAt p st { padflag := true, bitcnt := st.bitcnt + kOf p m L * p.blocksize + rOf p m L,
                 padcnt := tailPadcnt p st.padcnt (rOf p m L) } (kOf p m L) (effLen m L) i

theorem emitted_length (p : Padder) (hv : Valid p) (st : PadState) (m : List Nat) (L : Option Nat)
    (hL : effLen m L ≤ 8 * m.length) (hbg : L ≠ none → BitGranular p.scheme) :
    (p.scheme ≠ .no → (emitted p st m L).length = (kOf p m L + tailBlocks p (rOf p m L)) * p.blocklen) ∧
    (p.scheme = .no → tailBlocks p (rOf p m L) = 1 ∧ kOf p m L * p.blocklen ≤ (emitted p st m L).length ∧
      (emitted p st m L).length ≤ kOf p m L * p.blocklen + p.blocklen) := by
  obtain ⟨e, h1, h2, h3, h4, h5, h6⟩ := call_facts p hv m L hL
  obtain ⟨_, hlen1, hlen2⟩ := tailBytes_length p hv st m L hL hbg
  have hkm := kOf_le p hv.size_eq hv.blocklen_pos m L hL
  have hE : (emitted p st m L).length = kOf p m L * p.blocklen + (tailBytes p st m L).length := by
    rw [emitted, List.length_append, List.length_take, Nat.min_eq_left hkm]
  rw [hE]
  refine ⟨fun hno => by rw [hlen1 hno, Nat.add_mul], fun hno => ?_⟩
  obtain ⟨htb, hle⟩ := hlen2 hno
  exact ⟨htb, by omega, by omega⟩

theorem iterblocks_closed (p : Padder) (hv : Valid p) (st : PadState) (hflag : st.padflag = false) (m : List Nat)
    (hm : ¬ BitGranular p.scheme → Bytes m) (L : Option Nat) (hL : effLen m L ≤ 8 * m.length) (hbg : L ≠ none → BitGranular p.scheme) :
    p.iterblocks st m L true =
      ⟨(List.range (kOf p m L + tailBlocks p (rOf p m L))).map fun i =>
          (p.blockAt (emitted p st m L) i, yieldState p st m L i),
        yieldState p st m L (kOf p m L + tailBlocks p (rOf p m L) - 1), none⟩ := by
  obtain ⟨e, h1, h2, h3, h4, h5, h6⟩ := call_facts p hv m L hL
  obtain ⟨_, hlen1, hlen2⟩ := tailBytes_length p hv st m L hL hbg
  have hbl := hv.blocklen_pos
  have h12 := tailBlocks_cases p (rOf p m L)
  have hT : (tailBytes p st m L).length ≤ 2 * p.blocklen ∧ tailCount p (tailBytes p st m L) = tailBlocks p (rOf p m L) := by
    unfold tailCount
    by_cases hno : p.scheme = .no
    · obtain ⟨g1, g2⟩ := hlen2 hno
      exact ⟨by omega, by rw [g1, if_neg (by omega)]⟩
    · rw [hlen1 hno]
      rcases h12 with h | h <;> rw [h]
      · exact ⟨by omega, by rw [if_neg (by omega)]⟩
      · exact ⟨by omega, by rw [if_pos (by omega)]⟩
  rw [iterblocks_ok p hv.size_eq hbl st hflag m L hL _ _ (lastblock_piece p hv st m hm L hL hbg)
    (by simp only [rOf]; omega) hT.1, hT.2]
  rfl

theorem run_facts (p : Padder) (hv : Valid p) (st : PadState) (hflag : st.padflag = false) (m : List Nat)
    (hm : ¬ BitGranular p.scheme → Bytes m) (L : Option Nat) (hL : effLen m L ≤ 8 * m.length) (hbg : L ≠ none → BitGranular p.scheme) :
    (p.iterblocks st m L true).err = none ∧
    ((p.iterblocks st m L true).yields.map (·.1)).flatten = emitted p st m L ∧
    (p.iterblocks st m L true).yields.length = kOf p m L + tailBlocks p (rOf p m L) ∧
    (∀ i (h : i < (p.iterblocks st m L true).yields.length),
      ((p.iterblocks st m L true).yields[i]).1.length = p.blocklen ∨
        (p.scheme = .no ∧ i + 1 = (p.iterblocks st m L true).yields.length ∧
          ((p.iterblocks st m L true).yields[i]).1.length ≤ p.blocklen)) ∧
    (∀ i (h : i < (p.iterblocks st m L true).yields.length),
      ((p.iterblocks st m L true).yields[i]).2.bitcnt =
        if i * p.blocksize < effLen m L then st.bitcnt + min (effLen m L) ((i + 1) * p.blocksize) else 0) ∧
    (∀ i (h : i < (p.iterblocks st m L true).yields.length),
      ((p.iterblocks st m L true).yields[i]).2.padflag = decide (kOf p m L ≤ i) ∧
      ((p.iterblocks st m L true).yields[i]).2.padcnt =
        if kOf p m L ≤ i then tailPadcnt p st.padcnt (rOf p m L) else st.padcnt) ∧
    (p.iterblocks st m L true).final.padflag = true ∧
    (p.iterblocks st m L true).final.padcnt = tailPadcnt p st.padcnt (rOf p m L) ∧
    (p.iterblocks st m L true).final.bitcnt =
      (if tailBlocks p (rOf p m L) = 2 ∨ rOf p m L = 0 then 0 else st.bitcnt + effLen m L) := by
  obtain ⟨e, h1, h2, h3, h4, h5, h6⟩ := call_facts p hv m L hL
  obtain ⟨hE1, hE2⟩ := emitted_length p hv st m L hL hbg
  have hbl := hv.blocklen_pos
  have h12 := tailBlocks_cases p (rOf p m L)
  rw [iterblocks_closed p hv st hflag m hm L hL hbg]
  simp only [List.length_map, List.length_range, List.getElem_map, List.getElem_range, List.map_map]
  refine ⟨trivial, ?_, trivial, ?_, fun _ _ => rfl, fun i _ => ?_, ?_, ?_, ?_⟩
  · rw [Function.comp_def, flatten_blocks, Nat.add_mul]
    apply List.take_of_length_le
    by_cases hno : p.scheme = .no
    · obtain ⟨htb, _, hle⟩ := hE2 hno
      rw [htb, Nat.one_mul]
      exact hle
    · rw [hE1 hno, Nat.add_mul]
      exact Nat.le_refl _
  · intro i hi
    rw [blockAt_length]
    have hi' : (i + 1) * p.blocklen ≤ (kOf p m L + tailBlocks p (rOf p m L)) * p.blocklen :=
      Nat.mul_le_mul_right _ hi
    rw [Nat.succ_mul] at hi'
    by_cases hno : p.scheme = .no
    · obtain ⟨htb, hge, hle⟩ := hE2 hno
      rcases Nat.lt_or_ge i (kOf p m L) with hik | hik
      · have : (i + 1) * p.blocklen ≤ kOf p m L * p.blocklen := Nat.mul_le_mul_right _ hik
        rw [Nat.succ_mul] at this
        left
        omega
      · right
        exact ⟨hno, by omega, by omega⟩
    · left
      rw [hE1 hno]
      omega
  · simp only [yieldState, stateAt]
    by_cases h : i < kOf p m L
    · simp [h, hflag, Nat.not_le.mpr h]
    · simp [h, Nat.not_lt.mp h]
  · simp only [yieldState, stateAt]
    rw [if_neg (by omega)]
  · simp only [yieldState, stateAt]
    rw [if_neg (by omega)]
  · have hr : rOf p m L = effLen m L - kOf p m L * p.blocksize := rfl
    have e2 : ∀ j, (j + 1) * p.blocksize = j * p.blocksize + p.blocksize := fun j => Nat.succ_mul _ _
    simp only [yieldState, stateAt]
    rcases h12 with h | h <;> rw [h]
    · rw [Nat.add_sub_cancel]
      by_cases hr : rOf p m L = 0
      · rw [if_neg (by omega), if_pos (by omega)]
      · rw [if_pos (by omega), if_neg (by omega), Nat.min_eq_left (by have := e2 (kOf p m L); omega)]
    · rw [show kOf p m L + 2 - 1 = kOf p m L + 1 from rfl, if_neg (by have := e2 (kOf p m L); omega), if_pos (by omega)]

theorem iterblocks_refines (p : Padder) (hv : Valid p) (st : PadState) (hflag : st.padflag = false)
    (hfresh : st.bitcnt = 0) (m : List Nat) (hm : Bytes m) (L : Option Nat) (hL : effLen m L ≤ 8 * m.length)
    (hbg : L ≠ none → BitGranular p.scheme) :
    p.iterblocks st m L true =
      ⟨(List.range (kOf p m L + tailBlocks p (rOf p m L))).map fun i =>
          (p.blockAt (padBytes (specOf p.scheme) p.blocksize m (effLen m L)) i, yieldState p st m L i),
        yieldState p st m L (kOf p m L + tailBlocks p (rOf p m L) - 1), none⟩ := by
  rw [iterblocks_closed p hv st hflag m (fun _ => hm) L hL hbg, concat_eq_spec p hv st hfresh m hm L hL hbg]

theorem padded_yields (p : Padder) (hv : Valid p) (hbg : BitGranular p.scheme) (st : PadState) (hpf : st.padflag = false)
    (m : List Nat) (kw : Option Nat) (hL : effLen m kw ≤ 8 * m.length) :
    (p.iterblocks st m kw true).err = none ∧
    (p.iterblocks st m kw true).yields.map (·.2.bitcnt) =
      (List.range (max 1 ((effLen m kw + minPad p.scheme + p.blocksize - 1) / p.blocksize))).map
        (fun i => if i * p.blocksize < effLen m kw then st.bitcnt + min (effLen m kw) ((i + 1) * p.blocksize) else 0) ∧
    ∀ y ∈ (p.iterblocks st m kw true).yields, y.1.length = p.blocklen := by
  have hno : p.scheme ≠ .no := fun h => by rw [h] at hbg; exact hbg
  have hE := (emitted_length p hv st m kw hL (fun _ => hbg)).1 hno
  rw [iterblocks_closed p hv st hpf m (fun h => absurd hbg h) kw hL (fun _ => hbg), ← count_closed p hv m kw hL]
  refine ⟨rfl, by rw [List.map_map]; rfl, fun y hy => ?_⟩
  obtain ⟨i, hi, rfl⟩ := List.mem_map.mp hy
  have := Nat.mul_le_mul_right p.blocklen (Nat.succ_le_of_lt (List.mem_range.mp hi))
  rw [Nat.succ_mul] at this
  rw [blockAt_length, hE]
  omega

theorem padded_yields_pos (p : Padder) (hv : Valid p) (hbg : BitGranular p.scheme)
    (st : PadState) (hpf : st.padflag = false) (m : List Nat) (kw : Option Nat) (hL : effLen m kw ≤ 8 * m.length) :
    0 < (p.iterblocks st m kw true).yields.length := by
  have h := congrArg List.length (padded_yields p hv hbg st hpf m kw hL).2.1
  rw [List.length_map, List.length_map, List.length_range] at h
  rw [h]
  exact Nat.le_max_left _ _

theorem null_yields_core (p : Padder) (hs : p.scheme = .null) (hv : Valid p) (st : PadState) (hpf : st.padflag = false)
    (m : List Nat) :
    (p.iterblocks st m none true).err = none ∧
    (p.iterblocks st m none true).yields.map (·.2.bitcnt) =
      (List.range (if m.length = 0 then 1 else (8 * m.length + p.blocksize - 1) / p.blocksize)).map
        (fun i => if m.length = 0 then 0 else st.bitcnt + min (8 * m.length) ((i + 1) * p.blocksize)) := by
  obtain ⟨he, hc, _⟩ := padded_yields p hv (by rw [hs]; trivial) st hpf m none (Nat.le_refl _)
  refine ⟨he, hc.trans ?_⟩
  have hpos := hv.pos
  rw [hs]
  show List.map (fun i => if i * p.blocksize < 8 * m.length then _ else 0) (List.range (max 1 ((8 * m.length + 0 + _ - 1) / _))) = _
  rw [Nat.add_zero]
  by_cases h0 : m.length = 0
  · have : (8 * m.length + p.blocksize - 1) / p.blocksize = 0 := Nat.div_eq_of_lt (by omega)
    rw [this, if_pos h0]
    simp [h0]
  · have : 1 ≤ (8 * m.length + p.blocksize - 1) / p.blocksize := Nat.div_pos (by omega) hpos
    rw [Nat.max_eq_right this, if_neg h0]
    apply List.map_congr_left
    intro i hi
    have := Nat.div_mul_le_self (8 * m.length + p.blocksize - 1) p.blocksize
    have := Nat.mul_le_mul_right p.blocksize (Nat.succ_le_of_lt (List.mem_range.mp hi))
    rw [Nat.succ_mul] at this
    rw [if_neg h0, if_pos (by omega)]
    rfl

theorem null_last_yield (p : Padder) (hs : p.scheme = .null) (hv : Valid p) (st : PadState) (hpf : st.padflag = false)
    (d : List Nat) (hd : Bytes d) (hle : d.length ≤ p.blocklen) :
    p.iterblocks st d none true =
      ⟨[(d ++ List.replicate (p.blocklen - d.length) 0, yieldState p st d none 0)], yieldState p st d none 0, none⟩ := by
  have hB := hv.size_eq
  have hk : kOf p d none = 0 := by
    show (if 8 * d.length = 0 then 0 else (8 * d.length - 1) / p.blocksize) = 0
    split
    · rfl
    · exact Nat.div_eq_of_lt (by omega)
  have hr : rOf p d none = 8 * d.length := by rw [rOf, hk, Nat.zero_mul]; rfl
  have ht : tailBlocks p (8 * d.length) = 1 := if_neg fun h => h.2 (by rw [hs]; show _ + 0 ≤ _; omega)
  have hblk : p.blockAt d 0 = d := by
    rw [Padder.blockAt, Nat.zero_mul, List.drop_zero, List.take_of_length_le hle]
  have hE : emitted p st d none = d ++ List.replicate (p.blocklen - d.length) 0 := by
    rw [emitted, tailBytes, hk, hr, hblk, Nat.zero_mul, List.take_zero, List.nil_append,
      modelTail_null p hs _ _ (by omega), pieceBits_bytes d hd _ (Nat.le_refl _), List.take_of_length_le (by simp),
      bitsToBytes_bytesToBits_append d hd, hB, ← Nat.mul_sub, bitsToBytes_zeros]
  rw [iterblocks_closed p hv st hpf d (fun _ => hd) none (Nat.le_refl _) (fun h => absurd rfl h), hk, hr, ht, hE]
  simp only [Nat.zero_add, List.range_one, List.map_cons, List.map_nil, Nat.sub_self, Padder.blockAt, Nat.zero_mul,
    List.drop_zero]
  rw [List.take_of_length_le (by simp; omega)]

theorem one_block_run (p : Padder) (hv : Valid p) (st : PadState) (hpf : st.padflag = false) (a : List Nat)
    (ha : a.length = p.blocklen) :
    p.iterblocks st a none false =
      ⟨[(a, { st with bitcnt := st.bitcnt + p.blocksize })], { st with bitcnt := st.bitcnt + p.blocksize }, none⟩ := by
  have he : effLen a none = p.blocksize := by show 8 * a.length = _; rw [ha, hv.size_eq]
  rw [unpadded_run p hv.pos st hpf a none (Nat.le_refl _) (by rw [he, Nat.mod_self]), he, Nat.div_self hv.pos,
    Padder.loopYields, List.range_one, List.map_singleton, Padder.blockAt, Nat.zero_mul, List.drop_zero,
    List.take_of_length_le (Nat.le_of_eq ha), Nat.zero_add, Nat.one_mul]

end Proofs.Lemmas.Padding
