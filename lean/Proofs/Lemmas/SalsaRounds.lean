/-
  Word-level behaviour of the round functions of Model.Salsa / Model.Chacha on `ofBV` vectors.
  The inherited `rowround`/`columnround` are treated once, for any variant whose quarterround acts on words as some
  `q` (`rowW`, and `rowW` between the gathers by `cM` and `cMinv`), `doubleround`/`core` once for any variant whose two
  rounds are known on words; the written-out rounds of the two specifications are these at the index maps of the two modules.
-/
import Proofs.Lemmas.StreamPoly
import Model.Chacha
import Spec.Salsa20
import Spec.Chacha
namespace Proofs.Lemmas.SalsaRounds
open Model Model.Poly Model.Gen.Streams Proofs.Lemmas.StreamPoly

abbrev Word := BitVec 32

theorem rol_ofBV (a : Word) (n : Nat) (hn : n < 32) :
    Salsa.rol (ofBV [a]) n = .ok (ofBV [a.rotateLeft n]) := by
  unfold Salsa.rol
  have h1 : ¬ (n > 32) := by omega
  simp only [ofBV_size, h1, ↓reduceIte]
  rw [shl_ofBV (by decide), shr_ofBV, or_ofBV (by decide) _ _ (by simp)]
  simp only [List.map_cons, List.map_nil, List.zipWith_cons_cons, List.zipWith_nil_right]
  rw [BitVec.rotateLeft_eq_rotateLeftAux_of_lt hn]
  rfl

theorem add1 (a b : Word) : binop .add (ofBV [a]) (ofBV [b]) = .ok (ofBV [a + b]) :=
  add_ofBV (by decide) [a] [b] rfl

theorem xor1 (a b : Word) : binop .xor (ofBV [a]) (ofBV [b]) = .ok (ofBV [a ^^^ b]) :=
  xor_ofBV (by decide) [a] [b] rfl

theorem foldl_concat_ofBV {α} (f : α → List Word) (l : List α) (acc : List Word) :
    (l.map fun i => ofBV (f i)).foldl Poly.concat (ofBV acc) = ofBV (acc ++ l.flatMap f) := by
  induction l generalizing acc with
  | nil => simp
  | cons a t ih => rw [List.map_cons, List.foldl_cons, concat_ofBV, ih, List.flatMap_cons, List.append_assoc]

/-- `concat(L)` of a non-empty list of vectors -/
theorem concatP_ofBV {α} (f : α → List Word) (a : α) (l : List α) :
    Salsa.concatP ((a :: l).map fun i => ofBV (f i)) = .ok (ofBV ((a :: l).flatMap f)) :=
  congrArg Except.ok (foldl_concat_ofBV f l (f a))

/-- `y[0]`, `y[1]`, `y[2]`, `y[3]` at the head of both quarterrounds -/
theorem read4 (y0 y1 y2 y3 : Word) {β} (k : Poly → Poly → Poly → Poly → Except Err β) :
    (do let a ← (ofBV [y0, y1, y2, y3]).getInt 0
        let b ← (ofBV [y0, y1, y2, y3]).getInt 1
        let c ← (ofBV [y0, y1, y2, y3]).getInt 2
        let d ← (ofBV [y0, y1, y2, y3]).getInt 3
        k a b c d) = k (ofBV [y0]) (ofBV [y1]) (ofBV [y2]) (ofBV [y3]) := by
  rw [show (0 : Int) = ((0 : Nat) : Int) from rfl, getInt_ofBV _ 0 (by simp), Fold.ok_bind]
  rw [show (1 : Int) = ((1 : Nat) : Int) from rfl, getInt_ofBV _ 1 (by simp), Fold.ok_bind]
  rw [show (2 : Int) = ((2 : Nat) : Int) from rfl, getInt_ofBV _ 2 (by simp), Fold.ok_bind]
  rw [show (3 : Int) = ((3 : Nat) : Int) from rfl, getInt_ofBV _ 3 (by simp), Fold.ok_bind]
  rfl

def quad (r : Word × Word × Word × Word) : List Word := [r.1, r.2.1, r.2.2.1, r.2.2.2]

/-- `Salsa20.quarterround` on four words.  Rewriting one operation after the other from the top keeps the proof
    term linear; `simp` under the binders of the `do` block costs the kernel seconds. -/
theorem salsa_qr (y0 y1 y2 y3 : Word) :
    Salsa.quarterround (ofBV [y0, y1, y2, y3]) = .ok (ofBV (quad (Spec.Salsa20.quarterround y0 y1 y2 y3))) := by
  unfold Salsa.quarterround
  rw [read4]
  rw [add1, Fold.ok_bind, rol_ofBV _ _ (by decide), Fold.ok_bind, xor1, Fold.ok_bind]
  rw [add1, Fold.ok_bind, rol_ofBV _ _ (by decide), Fold.ok_bind, xor1, Fold.ok_bind]
  rw [add1, Fold.ok_bind, rol_ofBV _ _ (by decide), Fold.ok_bind, xor1, Fold.ok_bind]
  rw [add1, Fold.ok_bind, rol_ofBV _ _ (by decide), Fold.ok_bind, xor1, Fold.ok_bind]
  exact concatP_ofBV (fun z => [z]) _ [_, _, _]

theorem chacha_qr (a b c d : Word) :
    Chacha.quarterround (ofBV [a, b, c, d]) = .ok (ofBV (quad (Spec.Chacha.quarterround a b c d))) := by
  unfold Chacha.quarterround
  rw [read4]
  rw [add1, Fold.ok_bind, xor1, Fold.ok_bind, rol_ofBV _ _ (by decide), Fold.ok_bind]
  rw [add1, Fold.ok_bind, xor1, Fold.ok_bind, rol_ofBV _ _ (by decide), Fold.ok_bind]
  rw [add1, Fold.ok_bind, xor1, Fold.ok_bind, rol_ofBV _ _ (by decide), Fold.ok_bind]
  rw [add1, Fold.ok_bind, xor1, Fold.ok_bind, rol_ofBV _ _ (by decide), Fold.ok_bind]
  exact concatP_ofBV (fun z => [z]) _ [_, _, _]

abbrev QR := Word → Word → Word → Word → Word × Word × Word × Word

def sliceQ (q : QR) (g : List Word) (i : Nat) : List Word :=
  quad (q (g.getD i 0) (g.getD (i + 1) 0) (g.getD (i + 2) 0) (g.getD (i + 3) 0))

/-- `rowround`: `y[rM]`, the quarterround on the four slices, `z[rMinv]` -/
def rowW (q : QR) (rM rMinv : List Nat) (ws : List Word) : List Word :=
  gather rMinv ([0, 4, 8, 12].flatMap (sliceQ q (gather rM ws)))

structure Rounds (V : Salsa.Variant) (q : QR) : Prop where
  qr : ∀ a b c d, V.qr (ofBV [a, b, c, d]) = .ok (ofBV (quad (q a b c d)))
  rM : V.rM.length = 16 ∧ ∀ i ∈ V.rM, i < 16
  rMinv : V.rMinv.length = 16 ∧ ∀ i ∈ V.rMinv, i < 16
  cM : V.cM.length = 16 ∧ ∀ i ∈ V.cM, i < 16
  cMinv : V.cMinv.length = 16 ∧ ∀ i ∈ V.cMinv, i < 16

theorem salsaRounds : Rounds Salsa.salsa Spec.Salsa20.quarterround :=
  ⟨salsa_qr, by decide, by decide, by decide, by decide⟩

theorem chachaRounds : Rounds Chacha.chacha Spec.Chacha.quarterround :=
  ⟨chacha_qr, by decide, by decide, by decide, by decide⟩

theorem range_0_16_4 : Py.range 0 16 4 = ([0, 4, 8, 12] : List Nat).map fun (i : Nat) => (i : Int) := by decide

namespace Rounds
variable {V : Salsa.Variant} {q : QR} (hV : Rounds V q)
include hV

theorem rowround (ws : List Word) (h : ws.length = 16) :
    Salsa.rowround V (ofBV ws) = .ok (ofBV (rowW q V.rM V.rMinv ws)) := by
  unfold Salsa.rowround
  rw [getList_ofBV ws V.rM (by rw [h]; exact hV.rM.2), Fold.ok_bind, range_0_16_4, List.mapM_map]
  rw [Fold.mapM_ok _ (fun i => ofBV (sliceQ q (gather V.rM ws) i)), Fold.ok_bind]
  · rw [concatP_ofBV, Fold.ok_bind]
    exact getList_ofBV _ V.rMinv (by simpa [sliceQ, quad] using hV.rMinv.2)
  · intro i hi
    have hi4 : i + 4 ≤ (gather V.rM ws).length := by
      rw [gather_length, hV.rM.1]
      simp only [List.mem_cons, List.not_mem_nil, or_false] at hi
      omega
    exact (congrArg (· >>= V.qr) (getSlice_ofBV _ i 4 hi4)).trans (hV.qr ..)

/-- `columnround`: `rowround(x[cM])[cMinv]` -/
theorem columnround (ws : List Word) (h : ws.length = 16) :
    Salsa.columnround V (ofBV ws) = .ok (ofBV (gather V.cMinv (rowW q V.rM V.rMinv (gather V.cM ws)))) := by
  unfold Salsa.columnround
  rw [getList_ofBV ws V.cM (by rw [h]; exact hV.cM.2), Fold.ok_bind,
    hV.rowround _ (by rw [gather_length, hV.cM.1]), Fold.ok_bind]
  exact getList_ofBV _ V.cMinv (by rw [rowW, gather_length, hV.rMinv.1]; exact hV.cMinv.2)

end Rounds

structure Core (V : Salsa.Variant) (R C : List Word → List Word) : Prop where
  row : ∀ ws, ws.length = 16 → Salsa.rowround V (ofBV ws) = .ok (ofBV (R ws))
  col : ∀ ws, ws.length = 16 → Salsa.columnround V (ofBV ws) = .ok (ofBV (C ws))
  row_length : ∀ ws, ws.length = 16 → (R ws).length = 16
  col_length : ∀ ws, ws.length = 16 → (C ws).length = 16

namespace Core
variable {V : Salsa.Variant} {R C : List Word → List Word} (hV : Core V R C)
include hV

theorem doubleround (ws : List Word) (h : ws.length = 16) :
    Salsa.doubleround V (ofBV ws) = .ok (ofBV (R (C ws))) := by
  unfold Salsa.doubleround
  rw [hV.col ws h, Fold.ok_bind]
  exact hV.row _ (hV.col_length ws h)

theorem iter_length (n : Nat) (ws : List Word) (h : ws.length = 16) :
    (Spec.Salsa20.iterate (fun x => R (C x)) n ws).length = 16 := by
  induction n generalizing ws with
  | zero => exact h
  | succ n ih => exact ih _ (hV.row_length _ (hV.col_length ws h))

theorem iter (n : Nat) (ws : List Word) (h : ws.length = 16) :
    Salsa.iter (Salsa.doubleround V) n (ofBV ws) = .ok (ofBV (Spec.Salsa20.iterate (fun x => R (C x)) n ws)) := by
  induction n generalizing ws with
  | zero => rfl
  | succ n ih =>
    unfold Salsa.iter
    rw [hV.doubleround ws h, Fold.ok_bind]
    exact ih _ (hV.row_length _ (hV.col_length ws h))

theorem core (n : Nat) (ws : List Word) (h : ws.length = 16) :
    Salsa.core V (ofBV ws) n =
      .ok (ofBV (List.zipWith (· + ·) ws (Spec.Salsa20.iterate (fun x => R (C x)) n ws))) := by
  unfold Salsa.core
  rw [hV.iter n ws h, Fold.ok_bind]
  exact add_ofBV (by decide) _ _ (by rw [hV.iter_length n ws h, h])

theorem core_length (n : Nat) (ws : List Word) (h : ws.length = 16) :
    (List.zipWith (· + ·) ws (Spec.Salsa20.iterate (fun x => R (C x)) n ws)).length = 16 := by
  rw [List.length_zipWith, hV.iter_length n ws h, h, Nat.min_self]

end Core

theorem salsa_rowW : ∀ ws : List Word, ws.length = 16 →
    rowW Spec.Salsa20.quarterround salsaRM salsaRMinv ws = Spec.Salsa20.rowround ws :=
  Fold.forall16 fun _ _ _ _ _ _ _ _ _ _ _ _ _ _ _ _ => by
    unfold rowW gather
    rfl

/-- section 5 of Bernstein's Salsa20 specification: the columnround is the rowround of the transposed matrix -/
theorem salsa_col_row : ∀ ws : List Word, ws.length = 16 →
    gather salsaCMinv (Spec.Salsa20.rowround (gather salsaCM ws)) = Spec.Salsa20.columnround ws :=
  Fold.forall16 fun _ _ _ _ _ _ _ _ _ _ _ _ _ _ _ _ => by
    unfold gather
    rfl

theorem chacha_rowW : ∀ ws : List Word, ws.length = 16 →
    rowW Spec.Chacha.quarterround chachaRM chachaRMinv ws = Spec.Chacha.diagonalround ws :=
  Fold.forall16 fun _ _ _ _ _ _ _ _ _ _ _ _ _ _ _ _ => by
    unfold rowW gather
    rfl

/-- `x[cM]` turns the columns into the diagonals -/
theorem chacha_col_row : ∀ ws : List Word, ws.length = 16 →
    gather chachaCMinv (Spec.Chacha.diagonalround (gather chachaCM ws)) = Spec.Chacha.columnround ws :=
  Fold.forall16 fun _ _ _ _ _ _ _ _ _ _ _ _ _ _ _ _ => by
    unfold gather
    rfl

theorem Rounds.core {V : Salsa.Variant} {q : QR} (hV : Rounds V q) (R C : List Word → List Word)
    (hR : ∀ ws, ws.length = 16 → rowW q V.rM V.rMinv ws = R ws)
    (hC : ∀ ws, ws.length = 16 → gather V.cMinv (R (gather V.cM ws)) = C ws) : Core V R C where
  row ws h := hR ws h ▸ hV.rowround ws h
  col ws h := by
    rw [← hC ws h, ← hR _ (by rw [gather_length, hV.cM.1])]
    exact hV.columnround ws h
  row_length ws h := by rw [← hR ws h, rowW, gather_length, hV.rMinv.1]
  col_length ws h := by rw [← hC ws h, gather_length, hV.cMinv.1]

theorem salsaCore : Core Salsa.salsa Spec.Salsa20.rowround Spec.Salsa20.columnround :=
  salsaRounds.core _ _ salsa_rowW salsa_col_row

theorem chachaCore : Core Chacha.chacha Spec.Chacha.diagonalround Spec.Chacha.columnround :=
  chachaRounds.core _ _ chacha_rowW chacha_col_row

end Proofs.Lemmas.SalsaRounds
