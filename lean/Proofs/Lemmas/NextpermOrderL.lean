/-
  Order facts behind "next lexicographic permutation" on `List Int` with the core lexicographic order
  (`<`, and `a ≤ b` = `¬ b < a`).
-/
import Spec.Perms
import Proofs.Lemmas.Fold
namespace Proofs.Lemmas.NextpermOrderL
open Spec.Perms

theorem sorted_lex_least {r : Int → Int → Prop} (hirr : ∀ a, ¬ r a a) (s : List Int) :
    s.Pairwise (fun a b => ¬ r b a) → ∀ q : List Int, q.Perm s → ¬ List.Lex r q s := by
  induction s with
  | nil =>
    intro _ q hq
    rw [List.perm_nil.1 hq]
    exact fun h => nomatch h
  | cons a s ih =>
    intro hs q hq hlex
    obtain ⟨h1, h2⟩ := List.pairwise_cons.1 hs
    cases hlex with
    | nil => exact List.not_perm_cons_nil hq.symm
    | rel h =>
      rcases List.mem_cons.1 (hq.subset List.mem_cons_self) with rfl | hy
      · exact hirr _ h
      · exact h1 _ hy h
    | cons h => exact ih h2 _ hq.cons_inv h

/-- between lists of one length, below for `r` is above for its converse (a proper prefix is below for both) -/
theorem lex_flip {r : Int → Int → Prop} {s q : List Int} (h : List.Lex r s q) : s.length = q.length →
    List.Lex (fun a b => r b a) q s := by
  induction h with
  | nil => exact fun hl => nomatch hl
  | rel h => exact fun _ => .rel h
  | cons _ ih => exact fun hl => .cons (ih (Nat.succ.inj hl))

theorem asc_least (s : List Int) (hs : s.Pairwise (· ≤ ·)) (q : List Int) (hq : q.Perm s) : s ≤ q :=
  sorted_lex_least Int.lt_irrefl s (hs.imp Int.not_lt.2) q hq

theorem desc_greatest (s : List Int) (hs : s.Pairwise (· ≥ ·)) (q : List Int) (hq : q.Perm s) : q ≤ s := fun hlt =>
  sorted_lex_least (r := (· > ·)) Int.lt_irrefl s (hs.imp Int.not_lt.2) q hq (lex_flip hlt hq.length_eq.symm)

variable {a c : Int} {suf lo hi : List Int}

theorem pivot_perm (hsplit : suf.reverse = lo ++ c :: hi) : (c :: (lo ++ a :: hi)).Perm (a :: suf) := by
  have h := (List.reverse_perm suf).cons a
  rw [hsplit] at h
  exact ((List.perm_middle.cons c).trans (List.Perm.swap a c _)).trans ((List.perm_middle.symm.cons a).trans h)

/-- pivot form: `suf` descending, `c` the first element above the pivot `a` in the (ascending) reversal of `suf`;
    exchanging `a` and `c` there gives the least arrangement above `pre ++ a :: suf` -/
theorem pivot_least (hsuf : suf.Pairwise (· ≥ ·)) (hsplit : suf.reverse = lo ++ c :: hi) (hlo : ∀ x ∈ lo, x ≤ a)
    (hac : a < c) :
    ∀ (pre p : List Int), p.Perm (pre ++ a :: suf) → pre ++ a :: suf < p → pre ++ c :: (lo ++ a :: hi) ≤ p := by
  have hasc : (lo ++ c :: hi).Pairwise (· ≤ ·) := by
    rw [← hsplit, List.pairwise_reverse]
    exact hsuf
  obtain ⟨h1, h2, h3⟩ := List.pairwise_append.1 hasc
  obtain ⟨h4, h5⟩ := List.pairwise_cons.1 h2
  have hrest : (lo ++ a :: hi).Pairwise (· ≤ ·) := by
    refine List.pairwise_append.2 ⟨h1, List.pairwise_cons.2 ⟨fun y hy => ?_, h5⟩, fun x hx y hy => ?_⟩
    · exact Int.le_trans (Int.le_of_lt hac) (h4 y hy)
    · rcases List.mem_cons.1 hy with rfl | hy
      · exact hlo x hx
      · exact h3 x hx y (List.mem_cons_of_mem _ hy)
  have hmin : ∀ y ∈ suf, a < y → c ≤ y := by
    intro y hy hay
    rw [← List.mem_reverse, hsplit] at hy
    rcases List.mem_append.1 hy with h | h
    · exact absurd (hlo y h) (Int.not_le.2 hay)
    · rcases List.mem_cons.1 h with rfl | h
      · exact Int.le_refl _
      · exact h4 y h
  intro pre
  induction pre with
  | nil =>
    intro p hp hlt
    cases p with
    | nil => exact absurd hlt (List.not_lt_nil _)
    | cons y q =>
      rw [List.nil_append, List.cons_lt_cons_iff] at hlt
      have hay : a < y := by
        rcases hlt with h | ⟨rfl, hq⟩
        · exact h
        · exact absurd hq (desc_greatest suf hsuf q hp.cons_inv)
      have hy : y ∈ suf := by
        rcases List.mem_cons.1 (hp.subset List.mem_cons_self) with rfl | h
        · exact absurd hay (Int.lt_irrefl _)
        · exact h
      rw [List.nil_append, List.cons_le_cons_iff]
      rcases Int.lt_or_eq_of_le (hmin y hy hay) with h | rfl
      · exact Or.inl h
      · exact Or.inr ⟨rfl, asc_least _ hrest q (hp.trans (pivot_perm hsplit).symm).cons_inv⟩
  | cons x pre ih =>
    intro p hp hlt
    cases p with
    | nil => exact absurd hlt (List.not_lt_nil _)
    | cons y q =>
      rw [List.cons_append, List.cons_lt_cons_iff] at hlt
      rw [List.cons_append, List.cons_le_cons_iff]
      rcases hlt with h | ⟨rfl, hq⟩
      · exact Or.inl h
      · exact Or.inr ⟨rfl, ih q hp.cons_inv hq⟩

theorem lexMin_spec (cs : List (List Int)) (c : List Int) :
    lexMin c cs ∈ c :: cs ∧ ∀ p ∈ c :: cs, lexMin c cs ≤ p := by
  have hpres : ∀ m p j : List Int, m ≤ j → (if p < m then p else m) ≤ j := by
    intro m p j h
    split
    · exact List.le_trans (List.le_of_lt ‹_›) h
    · exact h
  refine ⟨Fold.foldl_inv (· ∈ c :: cs) _ cs (fun p hp m hm => ?_) List.mem_cons_self, fun p hp => ?_⟩
  · split
    · exact List.mem_cons_of_mem _ hp
    · exact hm
  · rcases List.mem_cons.1 hp with rfl | hp
    · exact Fold.foldl_inv (· ≤ p) _ cs (fun q _ m hm => hpres m q p hm) (List.le_refl p)
    · refine Fold.foldl_dominates (fun m p : List Int => m ≤ p) _ (fun m p => ?_) hpres cs c p hp
      split
      · exact List.le_refl p
      · exact List.not_lt.1 ‹_›

/-- `lexMin c cs` is whatever is least in `c :: cs`.  Written with `¬ p < r`: a file that imports Mathlib sees a second
    `LE (List Int)` instance, with which a `≤` of this file does not unify. -/
theorem lexMin_eq {c : List Int} {cs : List (List Int)} {r : List Int} (hr : r ∈ c :: cs) (hle : ∀ p ∈ c :: cs, ¬ p < r) :
    lexMin c cs = r :=
  List.le_antisymm ((lexMin_spec cs c).2 r hr) (List.not_lt.1 (hle _ (lexMin_spec cs c).1))

end Proofs.Lemmas.NextpermOrderL
