/-
  Lemmas about Spec.Keccak itself (no model involved): bit strings and the numbers they write, the state array as a
  string of 25w bits, the r-bit pieces of a string, the squeezing loop, the length of pad10*1, bytes as bits.
-/
import Spec.Keccak
import Proofs.Lemmas.Fold
namespace Proofs.Lemmas.KeccakString
open Spec.Keccak (bitsToNat stateOfString stringOfState xorString fString keccakF squeezeBlocks pad101)

def bit (l : List Bool) (i : Nat) : Bool := l.getD i false

theorem bit_take (n : Nat) (l : List Bool) (i : Nat) : bit (l.take n) i = (decide (i < n) && bit l i) :=
  Fold.getD_take_false l n i

theorem bit_drop (n : Nat) (l : List Bool) (i : Nat) : bit (l.drop n) i = bit l (n + i) := Fold.getD_drop l n i false

theorem bit_replicate_false (n i : Nat) : bit (List.replicate n false) i = false := by
  simp only [bit, List.getD_eq_getElem?_getD, List.getElem?_replicate]
  split <;> rfl

theorem bit_of_length_le {l : List Bool} {i : Nat} (h : l.length ≤ i) : bit l i = false := by
  simp [bit, List.getD_eq_getElem?_getD, List.getElem?_eq_none h]

theorem bit_map_range (w : Nat) (g : Nat → Bool) (z : Nat) : bit ((List.range w).map g) z = (decide (z < w) && g z) := by
  by_cases hz : z < w
  · simp [bit, List.getD_eq_getElem?_getD, hz]
  · rw [bit_of_length_le (by simp; omega)]; simp [hz]

theorem bit_set (l : List Bool) (p : Nat) (v : Bool) (z : Nat) :
    bit (l.set p v) z = if p = z ∧ p < l.length then v else bit l z := by
  simp only [bit, List.getD_eq_getElem?_getD, List.getElem?_set]
  by_cases h1 : p = z
  · subst h1
    by_cases h2 : p < l.length
    · simp [h2]
    · simp [h2]
  · simp [h1]

theorem ext_bit {a b : List Bool} (hl : a.length = b.length) (h : ∀ i < a.length, bit a i = bit b i) : a = b := by
  apply List.ext_getElem hl
  intro i h1 h2
  have := h i h1
  simpa [bit, List.getD_eq_getElem?_getD, List.getElem?_eq_getElem h1, List.getElem?_eq_getElem h2] using this

theorem bit_xorString (s p : List Bool) (hl : s.length = p.length) (j : Nat) :
    bit (xorString s p) j = (bit s j != bit p j) := by
  by_cases h : j < s.length
  · simp [bit, xorString, List.getD_eq_getElem?_getD, List.getElem?_zipWith, List.getElem?_eq_getElem h,
      List.getElem?_eq_getElem (hl ▸ h)]
  · rw [bit_of_length_le (by simp [xorString]; omega), bit_of_length_le (by omega : s.length ≤ j),
      bit_of_length_le (by omega : p.length ≤ j)]
    rfl

theorem bitsToNat_eq_foldr (l : List Bool) : bitsToNat l = l.foldr (fun (b : Bool) a => 2 * a + b.toNat) 0 := by
  induction l with
  | nil => rfl
  | cons b bs ih => rw [bitsToNat, ih, List.foldr_cons, Nat.add_comm]

theorem testBit_bitsToNat (l : List Bool) (i : Nat) : (bitsToNat l).testBit i = bit l i := by
  rw [bitsToNat_eq_foldr, Fold.testBit_foldr_bits, bit]

theorem bitsToNat_lt (l : List Bool) : bitsToNat l < 2 ^ l.length := by
  induction l with
  | nil => simp [bitsToNat]
  | cons b bs ih =>
    simp only [bitsToNat, List.length_cons, Nat.pow_succ]
    cases b <;> simp <;> omega

theorem getLsbD_ofNat_bitsToNat (w : Nat) (X : List Bool) (t : Nat) :
    (BitVec.ofNat w (bitsToNat X)).getLsbD t = (decide (t < w) && bit X t) := by
  simp [BitVec.getLsbD, BitVec.toNat_ofNat, Nat.testBit_mod_two_pow, testBit_bitsToNat]

theorem getElem_mkState {w} (g : Nat → Nat → BitVec w) (i : Nat) (hi : i < 25) :
    (Spec.Keccak.mkState g)[i] = g (i % 5) (i / 5) := by
  simp only [Spec.Keccak.mkState, Vector.getElem_ofFn]

theorem lane_mkState {w} (g : Nat → Nat → BitVec w) (x y : Nat) :
    Spec.Keccak.lane (Spec.Keccak.mkState g) x y = g (x % 5) (y % 5) := by
  rw [Spec.Keccak.lane, getElem_mkState]
  congr 1 <;> omega

theorem state_ext {w} {A B : Spec.Keccak.State w}
    (h : ∀ i (hi : i < 25) z, z < w → A[i].getLsbD z = B[i].getLsbD z) : A = B :=
  Vector.ext fun i hi => BitVec.eq_of_getLsbD_eq fun z hz => h i hi z hz

/-- §3.1.2: A[x,y,z] = S[w(5y+x)+z] -/
theorem getLsbD_stateOfString (w : Nat) (X : List Bool) (i : Nat) (hi : i < 25) (z : Nat) :
    (stateOfString w X)[i].getLsbD z = (decide (z < w) && bit X (w * i + z)) := by
  simp only [stateOfString, Vector.getElem_ofFn]
  rw [getLsbD_ofNat_bitsToNat, bit_take, bit_drop, Bool.and_self_left]

theorem bit_flatten_uniform (w : Nat) (hw : 0 < w) (bs : List (List Bool)) (h : ∀ b ∈ bs, b.length = w) (j : Nat) :
    bit bs.flatten j = bit (bs.getD (j / w) []) (j % w) := by
  simp only [bit, List.getD_eq_getElem?_getD, ← List.flatMap_id, Fold.getElem?_flatMap_uniform id w hw bs h j]
  cases bs[j / w]? <;> rfl

theorem stringOfState_eq {w} (A : Spec.Keccak.State w) :
    stringOfState A = (A.toList.map fun l => (List.range w).map l.getLsbD).flatten := rfl

theorem stringOfState_length {w} (A : Spec.Keccak.State w) : (stringOfState A).length = 25 * w := by
  rw [stringOfState_eq, ← List.flatMap_def, Fold.length_flatMap_const _ w _ (by simp)]
  simp

/-- §3.1.2 read the other way -/
theorem bit_stringOfState {w} (A : Spec.Keccak.State w) (i : Nat) (hi : i < 25) (z : Nat) (hz : z < w) :
    bit (stringOfState A) (w * i + z) = A[i].getLsbD z := by
  have h1 : (A.toList.map fun l => (List.range w).map l.getLsbD).getD i [] = (List.range w).map A[i].getLsbD := by
    simp [List.getD_eq_getElem?_getD, hi]
  rw [stringOfState_eq, bit_flatten_uniform w (by omega) _ (by simp), Fold.mul_add_div_lt i hz, Fold.mul_add_mod_lt i hz, h1,
    bit_map_range]
  simp [hz]

theorem stringOfState_eq_of_bits {w} (hw : 0 < w) (A : Spec.Keccak.State w) (s : List Bool) (hl : s.length = 25 * w)
    (h : ∀ i (hi : i < 25) z, z < w → bit s (w * i + z) = A[i].getLsbD z) : stringOfState A = s := by
  apply ext_bit (by rw [stringOfState_length, hl])
  intro j hj
  rw [stringOfState_length] at hj
  have hjw : j / w < 25 := by rw [Nat.div_lt_iff_lt_mul hw]; omega
  rw [← Nat.div_add_mod j w, bit_stringOfState A _ hjw _ (Nat.mod_lt _ hw), h _ hjw _ (Nat.mod_lt _ hw)]

theorem stateOfString_stringOfState {w} (A : Spec.Keccak.State w) :
    stateOfString w (stringOfState A) = A := by
  refine state_ext fun i hi z hz => ?_
  rw [getLsbD_stateOfString, bit_stringOfState A i hi z hz, decide_eq_true hz, Bool.true_and]

theorem fString_stringOfState {w} (A : Spec.Keccak.State w) :
    fString w (stringOfState A) = stringOfState (keccakF w A) := by
  simp only [fString, stateOfString_stringOfState]

theorem stringOfState_zero {w} (hw : 0 < w) :
    stringOfState (Vector.replicate 25 (0 : BitVec w)) = List.replicate (25 * w) false := by
  refine stringOfState_eq_of_bits hw _ _ List.length_replicate fun i hi z _ => ?_
  rw [bit_replicate_false]
  simp

theorem stringOfState_stateOfString {w} (hw : 0 < w) (s : List Bool) (hs : s.length ≤ 25 * w) :
    stringOfState (stateOfString w s) = s ++ List.replicate (25 * w - s.length) false := by
  refine stringOfState_eq_of_bits hw _ _ (by simp; omega) fun i hi z hz => ?_
  rw [getLsbD_stateOfString, decide_eq_true hz, Bool.true_and]
  exact Fold.getD_append_replicate s _ _ false

theorem stringOfState_xor {w} (hw : 0 < w) (A B : Spec.Keccak.State w) :
    stringOfState (Vector.zipWith (· ^^^ ·) A B) = xorString (stringOfState A) (stringOfState B) := by
  refine stringOfState_eq_of_bits hw _ _ (by simp [stringOfState_length, xorString]) fun i hi z hz => ?_
  rw [bit_xorString _ _ (by rw [stringOfState_length, stringOfState_length]), bit_stringOfState A i hi z hz,
    bit_stringOfState B i hi z hz, Vector.getElem_zipWith, BitVec.getLsbD_xor]

def nblk (r m : Nat) : Nat := (m + r - 1) / r

theorem nblk_zero (r : Nat) (hr : 0 < r) : nblk r 0 = 0 := Fold.ceilDiv_zero r hr

theorem nblk_step (r m : Nat) (hr : 0 < r) (hm : 0 < m) : nblk r m = nblk r (m - r) + 1 := Fold.ceilDiv_step r m hr hm

theorem nblk_mul (r k : Nat) (hr : 0 < r) : nblk r (r * k) = k := Fold.ceilDiv_mul r k hr

theorem chunksOf_go_eq {α} (r : Nat) (hr : 0 < r) : ∀ (fuel : Nat) (l : List α), l.length ≤ fuel →
    Spec.Keccak.chunksOf.go r fuel l = (List.range (nblk r l.length)).map fun j => (l.drop (r * j)).take r := by
  simp only [Nat.mul_comm r]
  intro fuel
  induction fuel with
  | zero =>
    intro l hl
    have : l = [] := List.eq_nil_of_length_eq_zero (by omega)
    subst this; simp [Spec.Keccak.chunksOf.go, nblk_zero r hr]
  | succ fuel ih =>
    intro l hl
    cases l with
    | nil => simp [Spec.Keccak.chunksOf.go, nblk_zero r hr]
    | cons a as =>
      have hlen : ((a :: as).drop r).length ≤ fuel := by
        simp only [List.length_drop, List.length_cons] at hl ⊢; omega
      simp only [Spec.Keccak.chunksOf.go, List.isEmpty_cons, Bool.false_eq_true, if_false]
      rw [ih _ hlen, nblk_step r (a :: as).length hr (by simp), Fold.pieces_succ, List.length_drop]

theorem chunksOf_eq {α} (r : Nat) (hr : 0 < r) (l : List α) :
    Spec.Keccak.chunksOf r l = (List.range (nblk r l.length)).map fun j => (l.drop (r * j)).take r :=
  chunksOf_go_eq r hr _ l (Nat.le_refl _)

theorem chunksOf_blocks {α} (r : Nat) (hr : 0 < r) (bs : List (List α)) (hb : ∀ b ∈ bs, b.length = r) :
    Spec.Keccak.chunksOf r bs.flatten = bs := by
  have hl : bs.flatten.length = r * bs.length := by
    rw [← List.flatMap_id, Fold.length_flatMap_const id r bs hb, Nat.mul_comm]
  rw [chunksOf_eq r hr, hl, nblk_mul r _ hr]
  simpa only [Nat.mul_comm r] using Fold.pieces_flatten r bs hb

theorem sq_succ (g : List Bool → List Bool) (r k : Nat) (s : List Bool) :
    squeezeBlocks g r (k + 1) s = s.take r ++ squeezeBlocks g r k (g s) := by
  cases k with
  | zero => simp [squeezeBlocks]
  | succ k => simp [squeezeBlocks]

theorem squeeze_done (g : List Bool → List Bool) (r : Nat) (hr : 0 < r) {d n : Nat} (h : d ≤ n) (s : List Bool) :
    squeezeBlocks g r (nblk r (d - n)) s = [] := by
  rw [Nat.sub_eq_zero_of_le h, nblk_zero r hr, squeezeBlocks]

theorem squeeze_more (g : List Bool → List Bool) (r : Nat) (hr : 0 < r) {d n : Nat} (h : n < d) (s : List Bool) :
    squeezeBlocks g r (nblk r (d - n)) s = s.take r ++ squeezeBlocks g r (nblk r (d - (n + r))) (g s) := by
  rw [nblk_step r (d - n) hr (by omega), sq_succ, Nat.sub_sub]

theorem pad101_length (r m : Nat) : (pad101 r m).length = 2 + (r - (m + 2) % r) % r := by
  simp [pad101]; omega

/-- the number of zeros of pad10*1 after m bits, from the fill m mod r of the last block -/
theorem pad_zeros (r q m : Nat) (hq : q < r) (hm : m % r = q) :
    (r - (m + 2) % r) % r = if q + 1 = r then r - 1 else r - q - 2 := by
  have hm2 : (m + 2) % r = (q + 2) % r := by
    conv => lhs; rw [← Nat.div_add_mod m r, hm, Nat.add_assoc, Nat.mul_add_mod]
  rw [hm2]
  by_cases h1 : q + 1 = r
  · simp only [h1, if_true]
    have : q + 2 = r + 1 := by omega
    rw [this]
    by_cases hr1 : r = 1
    · subst hr1; simp
    · have : (r + 1) % r = 1 := by rw [Nat.add_mod_left]; exact Nat.mod_eq_of_lt (by omega)
      rw [this]; exact Nat.mod_eq_of_lt (by omega)
  · simp only [h1, if_false]
    by_cases h2 : q + 2 = r
    · rw [h2, Nat.mod_self]; simp; omega
    · rw [Nat.mod_eq_of_lt (by omega : q + 2 < r)]
      exact Nat.mod_eq_of_lt (by omega)

theorem pad101_length_fit (r m : Nat) (h : m + 2 ≤ r) : (pad101 r m).length = r - m := by
  rw [pad101_length, pad_zeros r m m (by omega) (Nat.mod_eq_of_lt (by omega)), if_neg (by omega)]
  omega

theorem bitsOfBytes_length (s : List Nat) : (Spec.Keccak.bitsOfBytes s).length = 8 * s.length := by
  induction s with
  | nil => rfl
  | cons b bs ih => simp [Spec.Keccak.bitsOfBytes] at ih ⊢; omega

theorem bitsOfBytes_append (a b : List Nat) :
    Spec.Keccak.bitsOfBytes (a ++ b) = Spec.Keccak.bitsOfBytes a ++ Spec.Keccak.bitsOfBytes b := by
  simp [Spec.Keccak.bitsOfBytes]

end Proofs.Lemmas.KeccakString
