/-
  The enumerations of Spec.Perms against Mathlib's: `perms` (arrangements in selection order) ~ `List.permutations` and
  `combs` ~ `List.sublistsLen` as multisets, for every list (repeated elements included: each arrangement / sub-list as
  often as it arises by position).
-/
import Mathlib.Data.List.Permutation
import Mathlib.Data.List.Sublists
import Spec.Perms
import Proofs.Lemmas.PermsEqL
namespace Proofs.Lemmas.PermsSpecL
open Spec.Perms Proofs.Lemmas.PermsEqL

variable {α β : Type}

theorem mem_perms_unfold (t : List α) (ht : t ≠ []) (p : List α) :
    p ∈ perms t ↔ ∃ i, ∃ hi : i < t.length, ∃ q ∈ perms (t.eraseIdx i), p = t[i] :: q := by
  rw [perms_unfold t ht, List.mem_flatMap]
  constructor
  · rintro ⟨i, hi, hp⟩
    have hi' : i < t.length := List.mem_range.1 hi
    rw [List.getElem?_eq_getElem hi'] at hp
    simp only [List.mem_map] at hp
    obtain ⟨q, hq, rfl⟩ := hp
    exact ⟨i, hi', q, hq, rfl⟩
  · rintro ⟨i, hi, q, hq, rfl⟩
    refine ⟨i, List.mem_range.2 hi, ?_⟩
    rw [List.getElem?_eq_getElem hi]
    exact List.mem_map.2 ⟨q, hq, rfl⟩

theorem eraseIdx_induction {P : List α → Prop} (nil : P [])
    (step : ∀ t : List α, t ≠ [] → (∀ i, i < t.length → P (t.eraseIdx i)) → P t) : ∀ t, P t := by
  intro t
  generalize hn : t.length = n
  induction n generalizing t with
  | zero =>
    rw [List.length_eq_zero_iff.1 hn]
    exact nil
  | succ n ih =>
    refine step t (List.ne_nil_of_length_eq_add_one hn) (fun i hi => ih _ ?_)
    rw [List.length_eraseIdx, if_pos hi, hn]
    rfl

theorem mem_perms : ∀ (t p : List α), p ∈ perms t ↔ p.Perm t := by
  intro t
  induction t using eraseIdx_induction with
  | nil =>
    intro p
    rw [perms_nil, List.perm_nil, List.mem_singleton]
  | step t hne ih =>
    intro p
    rw [mem_perms_unfold t hne]
    constructor
    · rintro ⟨i, hi, q, hq, rfl⟩
      exact (((ih i hi q).1 hq).cons t[i]).trans (List.getElem_cons_eraseIdx_perm hi)
    · intro hp
      cases p with
      | nil => exact absurd (List.perm_nil.1 hp.symm) hne
      | cons x q =>
        obtain ⟨i, hi, rfl⟩ := List.getElem_of_mem (hp.subset List.mem_cons_self)
        exact ⟨i, hi, q, (ih i hi q).2 (hp.trans (List.getElem_cons_eraseIdx_perm hi).symm).cons_inv, rfl⟩

theorem perms_map (f : α → β) : ∀ t : List α, perms (t.map f) = (perms t).map (List.map f) := by
  intro t
  induction t using eraseIdx_induction with
  | nil => rfl
  | step t hne ih =>
    rw [perms_unfold _ (mt List.map_eq_nil_iff.1 hne), perms_unfold _ hne, List.map_flatMap, List.length_map]
    apply Proofs.Lemmas.Fold.flatMap_congr_mem
    intro i hi
    have hi' : i < t.length := List.mem_range.1 hi
    rw [List.getElem?_map, List.getElem?_eq_getElem hi']
    simp only [Option.map_some]
    rw [List.eraseIdx_map, ih i hi', List.map_map, List.map_map]
    rfl

theorem nodup_perms : ∀ t : List α, t.Nodup → (perms t).Nodup := by
  intro t
  induction t using eraseIdx_induction with
  | nil =>
    intro _
    exact List.nodup_singleton _
  | step t hne ih =>
    intro hnd
    rw [perms_unfold t hne, List.nodup_flatMap]
    refine ⟨?_, ?_⟩
    · intro i hi
      have hi' : i < t.length := List.mem_range.1 hi
      rw [List.getElem?_eq_getElem hi']
      exact (ih i hi' (hnd.eraseIdx i)).map List.cons_injective
    · apply List.nodup_range.pairwise_of_forall_ne
      intro i hi j hj hij
      have hi' : i < t.length := List.mem_range.1 hi
      have hj' : j < t.length := List.mem_range.1 hj
      show List.Disjoint _ _
      simp only []
      rw [List.getElem?_eq_getElem hi', List.getElem?_eq_getElem hj', List.disjoint_left]
      intro p hp1 hp2
      obtain ⟨q1, _, rfl⟩ := List.mem_map.1 hp1
      obtain ⟨q2, _, h2⟩ := List.mem_map.1 hp2
      exact hij ((hnd.getElem_inj_iff).1 (List.cons.inj h2).1).symm

theorem perms_perm_permutations (t : List α) : (perms t).Perm t.permutations := by
  -- `t` may repeat elements, so tag each with its position (`zipIdx`): on the tagged list both sides are duplicate-free
  -- with the same members, hence permutations of each other; mapping the tags away gives the claim for `t`
  have hu : (t.zipIdx).Nodup := by
    apply List.Nodup.of_map Prod.snd
    have : (t.zipIdx).map Prod.snd = List.range' 0 t.length := by
      have := List.unzip_zipIdx_eq_prod (l := t) (i := 0)
      rw [List.unzip_eq_map] at this
      exact (Prod.mk.inj this).2
    rw [this]
    exact List.nodup_range' 1
  have h1 : (perms t.zipIdx).Perm t.zipIdx.permutations := by
    rw [List.perm_ext_iff_of_nodup (nodup_perms _ hu) (List.nodup_permutations _ hu)]
    intro p
    rw [mem_perms, List.mem_permutations]
  have h2 := h1.map (List.map Prod.fst)
  rw [← perms_map Prod.fst, List.map_permutations, List.zipIdx_map_fst] at h2
  exact h2

theorem length_perms (t : List α) : (perms t).length = t.length.factorial := by
  rw [(perms_perm_permutations t).length_eq, List.length_permutations]

theorem combs_perm_sublistsLen : ∀ (l : List α) (p : Nat), (combs p l).Perm (List.sublistsLen p l) := by
  intro l
  induction l with
  | nil =>
    intro p
    cases p with
    | zero => simp [combs]
    | succ p => simp [combs]
  | cons x xs ih =>
    intro p
    cases p with
    | zero => simp [combs]
    | succ p =>
      simp only [combs]
      rw [List.sublistsLen_succ_cons]
      exact (((ih p).map (x :: ·)).append (ih (p + 1))).trans List.perm_append_comm

end Proofs.Lemmas.PermsSpecL
