/-
  The bit-expression lambdas translated from the source (Model.Gen.Hashes) equal the functions of the standards
  on all words: the code's expression is pushed through the Bits↔BitVec bridge operator by operator; where the
  standard writes the function differently, a bitwise identity (extensionality + truth table) remains.
-/
import Proofs.Lemmas.BitsBitVec
import Spec.Hash
namespace Proofs.Lemmas.RoundFns
open Model Model.Gen.Hashes Proofs.Lemmas.BitsBitVec

section
variable {w : Nat}

/-- code: `z^(x&(y^z))`; FIPS 180-4: (x ∧ y) ⊕ (¬x ∧ z) -/
theorem Ch_ofBV (x y z : BitVec w) : Ch (ofBV x) (ofBV y) (ofBV z) = ofBV (Spec.Sha2.Ch x y z) := by
  rw [Ch, xor_ofBV, and_ofBV, xor_ofBV]
  congr 1
  ext i hi
  simp only [Spec.Sha2.Ch, BitVec.getElem_xor, BitVec.getElem_and, BitVec.getElem_not]
  cases x[i] <;> cases y[i] <;> cases z[i] <;> rfl

/-- the two halves of Ch never overlap, so RFC 1320/1321 may join them with ∨ where FIPS 180-4 has ⊕ -/
theorem Ch_or (x y z : BitVec w) : Spec.Sha2.Ch x y z = (x &&& y) ||| (~~~x &&& z) := by
  ext i hi
  simp only [Spec.Sha2.Ch, BitVec.getElem_xor, BitVec.getElem_and, BitVec.getElem_not, BitVec.getElem_or]
  cases x[i] <;> cases y[i] <;> cases z[i] <;> rfl

/-- code: `(x&y)|(x&z)|(y&z)`, which is how RFC 1320 writes G -/
theorem Maj_or (x y z : BitVec w) : Maj (ofBV x) (ofBV y) (ofBV z) = ofBV ((x &&& y) ||| (x &&& z) ||| (y &&& z)) := by
  rw [Maj, and_ofBV, and_ofBV, and_ofBV, or_ofBV, or_ofBV]

/-- FIPS 180-4: (x ∧ y) ⊕ (x ∧ z) ⊕ (y ∧ z) -/
theorem Maj_ofBV (x y z : BitVec w) : Maj (ofBV x) (ofBV y) (ofBV z) = ofBV (Spec.Sha2.Maj x y z) := by
  refine (Maj_or x y z).trans (congrArg ofBV ?_)
  ext i hi
  simp only [Spec.Sha2.Maj, BitVec.getElem_xor, BitVec.getElem_and, BitVec.getElem_or]
  cases x[i] <;> cases y[i] <;> cases z[i] <;> rfl

theorem Parity_ofBV (x y z : BitVec w) : Parity (ofBV x) (ofBV y) (ofBV z) = ofBV (x ^^^ y ^^^ z) := by
  rw [Parity, xor_ofBV, xor_ofBV]

theorem bigSigma_ofBV (x : BitVec w) {a b c : Nat} (ha : a ≤ w) (hb : b ≤ w) (hc : c ≤ w) :
    ((ror (ofBV x) a).xor (ror (ofBV x) b)).xor (ror (ofBV x) c) = ofBV (Spec.Sha2.bigSigma a b c x) := by
  rw [ror_ofBV x a ha, ror_ofBV x b hb, ror_ofBV x c hc, xor_ofBV, xor_ofBV, Spec.Sha2.bigSigma]

theorem smallSigma_ofBV (x : BitVec w) {a b : Nat} (c : Nat) (ha : a ≤ w) (hb : b ≤ w) :
    ((ror (ofBV x) a).xor (ror (ofBV x) b)).xor ((ofBV x).shr c) = ofBV (Spec.Sha2.smallSigma a b c x) := by
  rw [ror_ofBV x a ha, ror_ofBV x b hb, shr_ofBV, xor_ofBV, xor_ofBV, Spec.Sha2.smallSigma]

end

theorem Sigma_0_32_ofBV (x : BitVec 32) : Sigma_0_32 (ofBV x) = ofBV (Spec.Sha2.fam256.Sigma0 x) :=
  bigSigma_ofBV x (by decide) (by decide) (by decide)
theorem Sigma_1_32_ofBV (x : BitVec 32) : Sigma_1_32 (ofBV x) = ofBV (Spec.Sha2.fam256.Sigma1 x) :=
  bigSigma_ofBV x (by decide) (by decide) (by decide)
theorem sigma_0_32_ofBV (x : BitVec 32) : sigma_0_32 (ofBV x) = ofBV (Spec.Sha2.fam256.sigma0 x) :=
  smallSigma_ofBV x 3 (by decide) (by decide)
theorem sigma_1_32_ofBV (x : BitVec 32) : sigma_1_32 (ofBV x) = ofBV (Spec.Sha2.fam256.sigma1 x) :=
  smallSigma_ofBV x 10 (by decide) (by decide)
theorem Sigma_0_64_ofBV (x : BitVec 64) : Sigma_0_64 (ofBV x) = ofBV (Spec.Sha2.fam512.Sigma0 x) :=
  bigSigma_ofBV x (by decide) (by decide) (by decide)
theorem Sigma_1_64_ofBV (x : BitVec 64) : Sigma_1_64 (ofBV x) = ofBV (Spec.Sha2.fam512.Sigma1 x) :=
  bigSigma_ofBV x (by decide) (by decide) (by decide)
theorem sigma_0_64_ofBV (x : BitVec 64) : sigma_0_64 (ofBV x) = ofBV (Spec.Sha2.fam512.sigma0 x) :=
  smallSigma_ofBV x 7 (by decide) (by decide)
theorem sigma_1_64_ofBV (x : BitVec 64) : sigma_1_64 (ofBV x) = ofBV (Spec.Sha2.fam512.sigma1 x) :=
  smallSigma_ofBV x 6 (by decide) (by decide)

theorem sha1_Ch (x y z : BitVec 32) : Ch (ofBV x) (ofBV y) (ofBV z) = ofBV (Spec.Sha1.Ch x y z) := Ch_ofBV x y z
theorem sha1_Maj (x y z : BitVec 32) : Maj (ofBV x) (ofBV y) (ofBV z) = ofBV (Spec.Sha1.Maj x y z) := Maj_ofBV x y z
theorem sha1_Parity (x y z : BitVec 32) : Parity (ofBV x) (ofBV y) (ofBV z) = ofBV (Spec.Sha1.Parity x y z) := Parity_ofBV x y z

/-! MD4 (RFC 1320 §3.4): md.py's `f`, `g`, `h` are the expressions of sha.py's `Ch`, `Maj`, `Parity` -/
theorem md4_f_ofBV (x y z : BitVec 32) : md4_f (ofBV x) (ofBV y) (ofBV z) = ofBV (Spec.Md4.F x y z) :=
  (Ch_ofBV x y z).trans (congrArg ofBV (Ch_or x y z))

theorem md4_g_ofBV (x y z : BitVec 32) : md4_g (ofBV x) (ofBV y) (ofBV z) = ofBV (Spec.Md4.G x y z) := Maj_or x y z

theorem md4_h_ofBV (x y z : BitVec 32) : md4_h (ofBV x) (ofBV y) (ofBV z) = ofBV (Spec.Md4.H x y z) := Parity_ofBV x y z

theorem md5_f_ofBV (x y z : BitVec 32) : md5_f (ofBV x) (ofBV y) (ofBV z) = ofBV (Spec.Md5.F x y z) :=
  (Ch_ofBV x y z).trans (congrArg ofBV (Ch_or x y z))

/-- code: `g = f(z,x,y)`; RFC 1321: G(X,Y,Z) = XZ ∨ Y¬Z -/
theorem md5_g_ofBV (x y z : BitVec 32) : md5_g (ofBV x) (ofBV y) (ofBV z) = ofBV (Spec.Md5.G x y z) := by
  refine (md5_f_ofBV z x y).trans (congrArg ofBV ?_)
  rw [Spec.Md5.F, Spec.Md5.G, BitVec.and_comm z x, BitVec.and_comm (~~~z) y]

theorem md5_h_ofBV (x y z : BitVec 32) : md5_h (ofBV x) (ofBV y) (ofBV z) = ofBV (Spec.Md5.H x y z) := Parity_ofBV x y z

/-- code: `y^(x|~z)`, as RFC 1321 writes I -/
theorem md5_i_ofBV (x y z : BitVec 32) : md5_i (ofBV x) (ofBV y) (ofBV z) = ofBV (Spec.Md5.I x y z) := by
  rw [md5_i, inv_ofBV, or_ofBV, xor_ofBV, Spec.Md5.I]

end Proofs.Lemmas.RoundFns
