/-
  Key schedule of Model.Aes: equals FIPS 197 KeyExpansion for Nk = 4, 6, 8, and is well-formed
  (Nb·(Nr+1) words of 4 bytes), so every round key is a 16-byte state.
-/
import Proofs.Lemmas.AesComp
namespace Proofs.Aes
open Model Model.Aes Model.Gen.Aes
open Proofs.Lemmas.Bytes (AllBytes)

theorem rcon_spec : ∀ j < 11, 0 < j → rcon.getD j 0 % 256 = Spec.Aes.xpow (j - 1) := by decide +kernel

def KsWF (w : List (List Nat)) : Prop := ∀ x ∈ w, Wd x

theorem rotw_wd_spec {w : List Nat} (h : Wd w) : Wd (rotw w) ∧ rotw w = Spec.Aes.rotWord w := by
  obtain ⟨a, b, c, d, rfl, ha, hb, hc, hd⟩ := wd_cases h
  exact ⟨wd_mk hb hc hd ha, rfl⟩

theorem xorW_wd {a b : List Nat} (ha : Wd a) (hb : Wd b) : Wd (xorW a b) :=
  ⟨by simp [xorW, ha.1, hb.1], AllBytes.zipWith_xor ha.2 hb.2⟩

theorem keyWords_spec (K : List Nat) :
    keyWords K = (List.range (K.length / 4)).map fun i => (K.drop (4 * i)).take 4 := rfl

theorem keyWords_wf {K : List Nat} (hK : IsBytes K) :
    KsWF (keyWords K) ∧ (keyWords K).length = K.length / 4 := by
  refine ⟨?_, by simp [keyWords]⟩
  intro x hx
  unfold keyWords at hx
  rw [List.mem_map] at hx
  obtain ⟨j, hj, rfl⟩ := hx
  rw [List.mem_range] at hj
  refine ⟨?_, AllBytes.take (AllBytes.drop hK _) _⟩
  rw [List.length_take, List.length_drop]
  omega

/-- `4 * (Nk + 7)` is the number of words Nb·(Nr+1) of the schedule, Nr = Nk + 6 -/
theorem ksStep_spec {Nk : Nat} {w : List (List Nat)} {i : Nat} (hNk : Nk = 4 ∨ Nk = 6 ∨ Nk = 8)
    (hw : KsWF w) (hl : w.length = i) (hi : Nk ≤ i) (hb : i < 4 * (Nk + 7)) :
    ksStep Nk w i = w ++ [Spec.Aes.nextWord Nk w i] ∧ Wd (Spec.Aes.nextWord Nk w i) := by
  have h1 : Wd (w.getD (i - 1) []) := hw _ (Lemmas.Fold.getD_mem _ (by omega))
  have h2 : Wd (w.getD (i - Nk) []) := hw _ (Lemmas.Fold.getD_mem _ (by omega))
  unfold ksStep Spec.Aes.nextWord
  by_cases c1 : i % Nk = 0
  · simp only [c1, if_true]
    -- `Rcon` has the entries 1..10; the bound on `i` keeps `i / Nk` among them for each of the three `Nk`
    have hj : i / Nk < 11 ∧ 0 < i / Nk := by
      rcases hNk with rfl | rfl | rfl <;> omega
    have hr := rotw_wd_spec h1
    have e : xorW (subBytes (rotw (w.getD (i - 1) []))) [rcon.getD (i / Nk) 0 % 256, 0, 0, 0]
        = Spec.Aes.xorBytes (Spec.Aes.subWord (Spec.Aes.rotWord (w.getD (i - 1) []))) (Spec.Aes.rcon (i / Nk)) := by
      rw [rcon_spec _ hj.1 hj.2, ← hr.2, (subBytes_pair.spec hr.1.2).1]
      rfl
    rw [← e]
    refine ⟨rfl, xorW_wd h2 (xorW_wd (subBytes_bytes hr.1).1 (wd_mk (Nat.mod_lt _ (by decide)) ?_ ?_ ?_))⟩ <;> decide
  · simp only [c1, if_false]
    by_cases c2 : Nk > 6 ∧ i % Nk = 4
    · simp only [c2, and_self, if_true]
      have e : subBytes (w.getD (i - 1) []) = Spec.Aes.subWord (w.getD (i - 1) []) := (subBytes_pair.spec h1.2).1
      rw [← e]
      exact ⟨rfl, xorW_wd h2 (subBytes_bytes h1).1⟩
    · simp only [c2, if_false]
      exact ⟨rfl, xorW_wd h2 h1⟩

theorem expand_fold {Nk : Nat} (hNk : Nk = 4 ∨ Nk = 6 ∨ Nk = 8) :
    ∀ (n : Nat) (w : List (List Nat)) (i : Nat), KsWF w → w.length = i → Nk ≤ i → i + n ≤ 4 * (Nk + 7) →
      (List.range' i n).foldl (ksStep Nk) w = Spec.Aes.expandFrom Nk w i n ∧
      KsWF (Spec.Aes.expandFrom Nk w i n) ∧ (Spec.Aes.expandFrom Nk w i n).length = i + n := by
  intro n
  induction n with
  | zero => intro w i hw hl _ _; exact ⟨rfl, hw, hl⟩
  | succ n ih =>
    intro w i hw hl hi hb
    obtain ⟨e, hx⟩ := ksStep_spec hNk hw hl hi (by omega)
    rw [List.range'_succ, List.foldl_cons, e]
    simp only [Spec.Aes.expandFrom]
    have := ih (w ++ [Spec.Aes.nextWord Nk w i]) (i + 1)
      (List.forall_mem_append.mpr ⟨hw, List.forall_mem_singleton.mpr hx⟩) (by simp [hl]) (by omega) (by omega)
    refine ⟨this.1, this.2.1, ?_⟩
    rw [this.2.2]
    omega

def KeyOk (K : List Nat) : Prop := (K.length = 16 ∨ K.length = 24 ∨ K.length = 32) ∧ IsBytes K

theorem keySchedule_spec_wf {K : List Nat} (h : KeyOk K) :
    keySchedule K = Spec.Aes.keyExpansion K ∧ KsWF (keySchedule K) ∧ (keySchedule K).length = 4 * (K.length / 4 + 7) := by
  have hNk : K.length / 4 = 4 ∨ K.length / 4 = 6 ∨ K.length / 4 = 8 := by
    rcases h.1 with e | e | e <;> omega
  obtain ⟨hw, hl⟩ := keyWords_wf h.2
  obtain ⟨e, hwf, hlen⟩ := expand_fold hNk (4 * (K.length / 4 + 6 + 1) - K.length / 4) (keyWords K) (K.length / 4) hw hl
    (Nat.le_refl _) (by omega)
  have e' : keySchedule K = Spec.Aes.keyExpansion K := e
  rw [e']
  exact ⟨rfl, hwf, hlen.trans (by omega)⟩

theorem roundKey_st {w : List (List Nat)} {r : Nat} (hw : KsWF w) (hr : 4 * r + 4 ≤ w.length) : St (roundKey w r) := by
  have hm : ∀ x ∈ (w.drop (4 * r)).take 4, Wd x := fun x hx => hw x (List.mem_of_mem_drop (List.mem_of_mem_take hx))
  refine ⟨?_, fun b hb => ?_⟩
  · rw [roundKey, ← List.flatMap_id, Lemmas.Fold.length_flatMap_const id 4 _ fun x hx => (hm x hx).1, List.length_take,
      List.length_drop]
    omega
  · obtain ⟨x, hx, hbx⟩ := List.mem_flatten.mp hb
    exact (hm x hx).2 b hbx

end Proofs.Aes
