/-
  What the TLSH and the Nilsimsa refinements share.  The histogram of a list of byte values as an array of 256 counters
  is what the bucket array of TLSH and the accumulator of Nilsimsa hold, both filled one `List.modify i (· + 1)` at a
  time; both have a 256-entry table that is a permutation of the byte values and a distance that is a pointwise difference
  summed over two strings.
-/
import Proofs.Lemmas.Fold

namespace Proofs.Lemmas.Lsh

/-- n entries among which every value below n occurs are a permutation of 0..n-1; that every value occurs is read off
    the bit mask of the values, which the kernel computes in one pass -/
theorem perm_range_of_mask (l : List Nat) (n : Nat) (hl : l.length = n)
    (hm : l.foldl (fun m x => m ||| 1 <<< x) 0 = 2 ^ n - 1) : l.Perm (List.range n) := by
  have hmem : ∀ i < n, i ∈ l := by
    intro i hi
    have := Fold.mask_testBit l 0 i
    rw [hm, Nat.testBit_two_pow_sub_one] at this
    simpa [hi] using this
  clear hm
  induction n generalizing l with
  | zero =>
    rw [List.eq_nil_of_length_eq_zero hl]
    exact .refl _
  | succ n ih =>
    have hn := hmem n (Nat.lt_succ_self n)
    have h := ih (l.erase n) (by rw [List.length_erase_of_mem hn, hl]; rfl)
      fun i hi => (List.mem_erase_of_ne (by omega)).mpr (hmem i (by omega))
    rw [List.range_succ]
    exact (List.perm_cons_erase hn).trans ((h.cons n).trans (List.perm_append_singleton n _).symm)

def hist (ev : List Nat) : List Nat := (List.range 256).map fun v => ev.count v

theorem hist_nil : hist [] = List.replicate 256 0 := by
  simp only [hist, List.count_nil, List.map_const', List.length_range]

theorem hist_snoc (ev : List Nat) (e : Nat) : hist (ev ++ [e]) = (hist ev).modify e (· + 1) := by
  apply List.ext_getElem
  · simp [hist]
  · intro j h1 h2
    simp only [List.getElem_modify, hist, List.getElem_map, List.getElem_range, List.count_append,
      List.count_singleton]
    by_cases h : e = j
    · subst h; simp
    · simp [h]

theorem foldl_modify_hist (hs ev : List Nat) :
    hs.foldl (fun b i => b.modify i (· + 1)) (hist ev) = hist (ev ++ hs) := by
  induction hs generalizing ev with
  | nil => simp
  | cons h hs ih => rw [List.foldl_cons, ← hist_snoc, ih]; simp

theorem hist_getD (ev : List Nat) (i : Nat) (hi : i < 256) : (hist ev).getD i 0 = ev.count i := by
  simp [hist, List.getD_eq_getElem?_getD, hi]

theorem zipSum_comm {α} {f : α → α → Nat} (hf : ∀ x y, f x y = f y x) (a b : List α) :
    (List.zipWith f a b).sum = (List.zipWith f b a).sum := by
  rw [List.zipWith_comm, funext fun x => funext fun y => hf y x]

theorem zipSum_self {α} {f : α → α → Nat} (hf : ∀ x, f x x = 0) (a : List α) : (List.zipWith f a a).sum = 0 := by
  induction a with
  | nil => rfl
  | cons x xs ih => rw [List.zipWith_cons_cons, List.sum_cons, ih, hf]

theorem zipSum_eq_zero {α} {f : α → α → Nat} : ∀ a b : List α, a.length = b.length →
    (∀ x ∈ a, ∀ y ∈ b, (f x y = 0 ↔ x = y)) → ((List.zipWith f a b).sum = 0 ↔ a = b)
  | [], [], _, _ => by simp
  | [], _ :: _, hl, _ => by simp at hl
  | _ :: _, [], hl, _ => by simp at hl
  | x :: xs, y :: ys, hl, hf => by
    rw [List.zipWith_cons_cons, List.sum_cons, Nat.add_eq_zero_iff, hf x (List.mem_cons_self ..) y (List.mem_cons_self ..),
      zipSum_eq_zero xs ys (by simpa using hl) fun u hu v hv => hf u (List.mem_cons_of_mem _ hu) v (List.mem_cons_of_mem _ hv),
      List.cons.injEq]

end Proofs.Lemmas.Lsh
