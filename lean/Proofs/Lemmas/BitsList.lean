/-
  `bitsOf`: the bit list of a `Bits`, the term `Model.Bits.bools` of Lemmas/BitsView under a second name.  No statement
  outside this file mentions it; its lemmas are used, through the `rfl` between the names, inside proofs of
  Lemmas/PaddingBits (about `Padding.bools`), KeccakPad and KeccakSponge (about `KeccakBits.bitsOf`).
  `Bits(bytes,size=n)` is the first n bits of the byte stream; `.bytes()` regroups into the bytes of Spec.Bytes, most
  significant bit first.
-/
import Model.Padding
import Spec.Bytes
import Proofs.Lemmas.Parse
import Proofs.Lemmas.BitCodec
namespace Proofs.Lemmas.BitsList
open Model Model.Py Proofs.Lemmas.Parse

def bitsLE (v n : Nat) : List Bool := (List.range n).map fun i => v.testBit i

def bitsOf (b : Bits) : List Bool := bitsLE b.ival b.size

@[simp] theorem bitsLE_length (v n : Nat) : (bitsLE v n).length = n := by simp [bitsLE]
@[simp] theorem bitsOf_length (b : Bits) : (bitsOf b).length = b.size := bitsLE_length _ _

theorem getD_bitsOf (b : Bits) (hb : b.WF) (i : Nat) : (bitsOf b).getD i false = b.ival.testBit i :=
  (List.getD_eq_getElem?_getD ..).trans (Bits.getD_bools b hb i)

theorem bitsOf_bitsOfBytes (m : List Nat) (hs : ∀ x ∈ m, x < 256) (n : Nat) (hn : n ≤ 8 * m.length) :
    bitsOf (Padder.bitsOfBytes m n) = (Spec.Padding.bytesToBits m).take n := by
  have h1 : Padder.bitsOfBytes m n = (⟨leInt (m.map Bits.reverseByte), 8 * m.length⟩ : Bits).setSize n := by
    rw [Padder.bitsOfBytes, Proofs.Lemmas.Bits.ofBytes_rev_size_eq m hs n]
    rfl
  rw [h1]
  exact (Bits.bools_setSize _ n hn).trans (congrArg (List.take n) (BitCodec.bools_ofBytes m hs))

theorem bitsOfBytes_wf (m : List Nat) (n : Nat) : (Padder.bitsOfBytes m n).WF ∧ (Padder.bitsOfBytes m n).size = n := by
  obtain ⟨v, hv⟩ := Proofs.Lemmas.Bits.load_bitstream_size m
  have h : Padder.bitsOfBytes m n = (⟨v, 8 * m.length⟩ : Bits).setSize n := by
    rw [Padder.bitsOfBytes, Bits.ofBytes, hv]
    rfl
  rw [h]
  exact ⟨Proofs.Lemmas.Bits.setSize_wf _ n, rfl⟩

theorem concat_wf (a o : Bits) : (a.concat o).WF ∧ (a.concat o).size = a.size + o.size :=
  ⟨Proofs.Lemmas.Bits.concat_wf a o, rfl⟩

theorem bitsOf_one : bitsOf (Bits.ofNatSz 1 1) = [true] := by decide
theorem bitsOf_zeros (n : Nat) : bitsOf (Bits.ofNatSz 0 n) = List.replicate n false := Bits.bools_zero n

theorem toNatBytes_bitsToBytes (X : List Bool) (h8 : X.length % 8 = 0) :
    toNatBytes (Spec.bitsToBytes X) = Spec.Padding.bitsToBytes X := by
  apply List.ext_getElem
  · simp [Spec.bitsToBytes, Spec.groups, Padding.bitsToBytes_length]
    omega
  · intro i h1 h2
    simp only [toNatBytes, Spec.bitsToBytes, Spec.groups, List.getElem_map, List.getElem_range, BitVec.toNat_ofNat,
      Padding.bitsToBytes_getElem, Nat.mul_comm i 8]
    have hi : i < X.length / 8 := by simpa [Spec.bitsToBytes, Spec.groups] using h1
    have hg : ((X.drop (8 * i)).take 8).length = 8 := by rw [List.length_take, List.length_drop]; omega
    rw [BitCodec.bitsVal_eq_byteOfBits _ hg]
    exact Nat.mod_eq_of_lt (Padding.byteOfBits_lt _)

theorem toBytes_spec (b : Bits) (hb : b.WF) (n : Nat) (hn : b.size = 8 * n) :
    b.toBytes = toNatBytes (Spec.bitsToBytes (bitsOf b)) :=
  (BitCodec.toBytes_eq b).trans (toNatBytes_bitsToBytes _ (by simp [hn])).symm

end Proofs.Lemmas.BitsList
