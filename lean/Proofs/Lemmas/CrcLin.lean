/-
  GF(2)-linearity of the reflected CRC bit step on `Nat`, and the byte/word-at-a-time
  consequences.
-/
import Spec.Crc
import Proofs.Lemmas.BitsBasic
import Proofs.Lemmas.Fold
namespace Proofs.Lemmas.CrcLin
open Spec.Crc

/-- the register step with a zero message bit -/
def step (P r : Nat) : Nat := if r.testBit 0 then (r >>> 1) ^^^ P else r >>> 1

def steps (P : Nat) : Nat → Nat → Nat
  | 0, r => r
  | n+1, r => steps P n (step P r)

def XorAdd (f : Nat → Nat) : Prop := ∀ a b, f (a ^^^ b) = f a ^^^ f b

theorem xorAdd_zero {f : Nat → Nat} (hf : XorAdd f) : f 0 = 0 := Bits.xorAdd_zero hf

theorem xorAdd_ext (f g : Nat → Nat) (hf : XorAdd f) (hg : XorAdd g) (w : Nat)
    (hb : ∀ i < w, f (2 ^ i) = g (2 ^ i)) : ∀ x < 2 ^ w, f x = g x := Bits.xorAdd_ext hf hg w hb

theorem step_eq (P r : Nat) : step P r = r >>> 1 ^^^ (if r.testBit 0 = true then P else 0) := by
  unfold step
  split <;> simp

theorem step_zero (P : Nat) : step P 0 = 0 := rfl

theorem step_xor (P a b : Nat) : step P (a ^^^ b) = step P a ^^^ step P b := by
  rw [step_eq, step_eq, step_eq, Nat.testBit_xor, Bits.ite_bxor, Nat.shiftRight_xor_distrib]
  ac_rfl

theorem steps_xor (P : Nat) (n a b : Nat) : steps P n (a ^^^ b) = steps P n a ^^^ steps P n b := by
  induction n generalizing a b with
  | zero => rfl
  | succ n ih => simp only [steps, step_xor, ih]

theorem steps_xorAdd (P n : Nat) : XorAdd (steps P n) := fun a b => steps_xor P n a b

theorem steps_add (P m n r : Nat) : steps P (m + n) r = steps P n (steps P m r) := by
  induction m generalizing r with
  | zero => simp [steps]
  | succ m ih => rw [Nat.add_right_comm]; simp only [steps, ih]

theorem step_shl (P x : Nat) : step P (x <<< 1) = x := by
  unfold step
  have h0 : (x <<< 1).testBit 0 = false := by simp
  rw [h0]; simp [Nat.shiftLeft_eq, Nat.shiftRight_eq_div_pow]

theorem steps_shl (P n x : Nat) : steps P n (x <<< n) = x := by
  induction n generalizing x with
  | zero => simp [steps]
  | succ n ih =>
    have : x <<< (n + 1) = (x <<< n) <<< 1 := by rw [← Nat.shiftLeft_add]
    rw [steps, this, step_shl, ih]

theorem step_lt (P w r : Nat) (hP : P < 2 ^ w) (hr : r < 2 ^ w) : step P r < 2 ^ w := by
  have h1 : r >>> 1 < 2 ^ w := Nat.lt_of_le_of_lt (Nat.shiftRight_le _ _) hr
  unfold step
  split
  · exact Nat.xor_lt_two_pow h1 hP
  · exact h1

theorem steps_lt (P w n r : Nat) (hP : P < 2 ^ w) (hr : r < 2 ^ w) : steps P n r < 2 ^ w := by
  induction n generalizing r with
  | zero => exact hr
  | succ n ih => exact ih _ (step_lt P w r hP hr)

/-- k steps read only the low k bits; what lies above them comes down by k places, untouched by the feedback -/
theorem steps_split (P k x : Nat) : steps P k x = steps P k (x % 2 ^ k) ^^^ (x >>> k) := by
  conv => lhs; rw [Bits.split_low x k]
  rw [steps_xor, steps_shl]

theorem bitIn_eq (P r : Nat) (m : Bool) : bitIn P r m = step P (r ^^^ m.toNat) := by
  unfold bitIn step
  have : (r ^^^ m.toNat).testBit 0 = (r.testBit 0 != m) := by
    rw [Nat.testBit_xor]; cases m <;> simp
  have h2 : (r ^^^ m.toNat) >>> 1 = r >>> 1 := by
    rw [Nat.shiftRight_xor_distrib]; cases m <;> simp
  simp only [this, h2]

theorem foldl_bits (P n : Nat) : ∀ (r b : Nat), b < 2 ^ n →
    ((List.range n).map b.testBit).foldl (bitIn P) r = steps P n (r ^^^ b) := by
  induction n with
  | zero =>
    intro r b hb
    obtain rfl : b = 0 := by omega
    simp [steps]
  | succ n ih =>
    intro r b hb
    rw [List.range_succ_eq_map, List.map_cons, List.map_map, List.foldl_cons]
    have hfun : (b.testBit ∘ Nat.succ) = (b / 2).testBit := by
      funext i; simp [Nat.testBit_succ]
    rw [hfun, ih _ _ (by omega), bitIn_eq, steps]
    have hb0 : (b.testBit 0).toNat = b % 2 := by
      rw [Nat.testBit_zero]; by_cases h : b % 2 = 1 <;> simp [h]; omega
    have hsplit : b = (b % 2) ^^^ ((b / 2) <<< 1) := by
      have := Bits.split_low b 1
      simpa [Nat.shiftRight_eq_div_pow] using this
    conv => rhs; rw [hsplit]
    rw [← Nat.xor_assoc, step_xor P (r ^^^ b % 2), step_shl, hb0]

theorem register_nil (P r : Nat) : register P r [] = r := rfl

theorem register_cons (P r b : Nat) (bs : List Nat) (hb : b < 256) :
    register P r (b :: bs) = register P (steps P 8 (r ^^^ b)) bs := by
  unfold register msgBits
  rw [List.flatMap_cons, List.foldl_append]
  unfold byteBits
  rw [foldl_bits P 8 r b (by omega)]

theorem register_bytes (P : Nat) (data : List Nat) (hd : ∀ b ∈ data, b < 256) (r : Nat) :
    register P r data = data.foldl (fun r b => steps P 8 (r ^^^ b)) r := by
  unfold register msgBits
  rw [List.foldl_flatMap]
  exact Fold.foldl_congr_mem (fun b hb r => foldl_bits P 8 r b (hd b hb)) r

theorem two_pow_ge_256 (w : Nat) (hw : 8 ≤ w) : 256 ≤ 2 ^ w :=
  calc 256 = 2 ^ 8 := rfl
    _ ≤ 2 ^ w := Nat.pow_le_pow_right (by decide) hw

theorem register_lt (P w : Nat) (hP : P < 2 ^ w) (hw : 8 ≤ w) (data : List Nat) (r : Nat)
    (hd : ∀ b ∈ data, b < 256) (hr : r < 2 ^ w) : register P r data < 2 ^ w := by
  rw [register_bytes P data hd]
  exact Fold.foldl_inv (· < 2 ^ w) _ data (fun b hb a ha => steps_lt _ _ _ _ hP
    (Nat.xor_lt_two_pow ha (Nat.lt_of_lt_of_le (hd b hb) (two_pow_ge_256 w hw)))) hr

theorem register_append (P r : Nat) (l₁ l₂ : List Nat) :
    register P r (l₁ ++ l₂) = register P (register P r l₁) l₂ := by
  unfold register msgBits
  rw [List.flatMap_append, List.foldl_append]

theorem foldl_zero_bits (P n : Nat) : (List.replicate 8 false).foldl (bitIn P) n = steps P 8 n := by
  have e : List.replicate 8 false = (List.range 8).map (Nat.testBit 0) := by decide
  rw [e, foldl_bits P 8 n 0 (by decide), Nat.xor_zero]

theorem register_leBytes (P : Nat) : ∀ (k r X : Nat), X < 2 ^ (8 * k) →
    register P r (Model.Py.leBytes k X) = steps P (8 * k) (r ^^^ X) := by
  intro k
  induction k with
  | zero =>
    intro r X hX
    obtain rfl : X = 0 := by omega
    rw [Nat.xor_zero]
    rfl
  | succ k ih =>
    intro r X hX
    have hX' : X / 256 < 2 ^ (8 * k) := by
      apply Nat.div_lt_of_lt_mul
      rwa [show 8 * (k + 1) = 8 + 8 * k by omega, Nat.pow_add] at hX
    rw [Model.Py.leBytes, register_cons P r _ _ (Nat.mod_lt _ (by decide)), ih _ _ hX',
      show 8 * (k + 1) = 8 + 8 * k by omega, steps_add]
    -- the low byte goes through the first eight steps, the rest shifts down
    have hsplit : X = X % 256 ^^^ (X / 256) <<< 8 := by
      have := Bits.split_low X 8
      rwa [Nat.shiftRight_eq_div_pow] at this
    conv => rhs; rw [hsplit]
    rw [← Nat.xor_assoc, steps_xor P 8 (r ^^^ X % 256), steps_shl]

end Proofs.Lemmas.CrcLin
