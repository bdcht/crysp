/-
  Skein tree hashing: one level (`for i in range(0,total,step)` with the position advancing by `step`) and the level
  iteration versus Spec.Skein.treeLevel / treeUp; then `hash` with tree parameters end to end and the rejection of
  parameter sets outside the specification, tree or not.
-/
import Proofs.Lemmas.SkHash
namespace Proofs.Lemmas.SkTree
open Model Proofs.Lemmas.Bytes Proofs.Lemmas.TfBytes Proofs.Lemmas.SkBytes Proofs.Lemmas.SkTweak Proofs.Lemmas.SkUbi Proofs.Lemmas.SkHash
open Spec.Threefish (toInt toBytes)

theorem level_succ (G M : List Nat) (step : Nat) (bitlen : Option Nat) (n off : Nat) {t : Tw} (ht : t.Ok)
    (hp : t.pos + step < 2 ^ 96) :
    Skein.level G step M bitlen (n + 1) off t.bits =
      (do let h ← Skein.ubi G t.bits ((M.drop off).take step) (Skein.leafBits M step off bitlen)
          let (ts', rest) ← Skein.level G step M bitlen n (off + step) { t with pos := t.pos + step }.bits
          pure (ts', h ++ rest)) := by
  simp only [Skein.level, ht.getPosition, ht.setPosition hp, Fold.ok_bind]

theorem level_loop {lb : Nat} (G : List Nat) (step : Nat) (M : List Nat) (bitlen : Option Nat) (t : Tw) (ht : t.Ok)
    (f : Nat → List Nat) (cnt : Nat) : ∀ i0 off, off = i0 * step → off + cnt * step < 2 ^ 96 →
    (∀ i, i0 ≤ i → i < i0 + cnt →
      Skein.ubi G { t with pos := i * step }.bits ((M.drop (i * step)).take step) (Skein.leafBits M step (i * step) bitlen) = .ok (f i) ∧
      NBytes lb (f i)) →
    Skein.level G step M bitlen cnt off { t with pos := off }.bits =
      .ok ({ t with pos := off + cnt * step }.bits, (List.range' i0 cnt).flatMap f) ∧
    NBytes (cnt * lb) ((List.range' i0 cnt).flatMap f) := by
  induction cnt with
  | zero =>
    intro i0 off _ _ _
    refine ⟨?_, fun x hx => absurd hx List.not_mem_nil, by simp⟩
    simp only [Skein.level, pure, Except.pure, Nat.zero_mul, Nat.add_zero, List.range'_zero, List.flatMap_nil]
  | succ n ih =>
    intro i0 off hoff hpos hf
    have e : off + (n + 1) * step = off + step + n * step := by
      rw [Nat.succ_mul]
      omega
    rw [e] at hpos ⊢
    obtain ⟨u1, u2⟩ := hf i0 (Nat.le_refl _) (by omega)
    rw [← hoff] at u1
    obtain ⟨i1, i2⟩ := ih (i0 + 1) (off + step) (by rw [hoff, Nat.succ_mul]) hpos (fun i h1 h2 => hf i (by omega) (by omega))
    have ho : Tw.Ok { t with pos := off } := { ht with pos := by show off < _; omega }
    rw [List.range'_succ, List.flatMap_cons]
    refine ⟨?_, u2.bytes.append i2.bytes, ?_⟩
    · rw [level_succ G M step bitlen n off ho (show off + step < 2 ^ 96 by omega), Fold.bind_eq_of_ok u1, Fold.bind_eq_of_ok i1]
      rfl
    · rw [List.length_append, u2.len, i2.len, Nat.succ_mul]
      omega

/-- the number of blocks of a level over a message of `len` bytes: the `k` of `Spec.Skein.treeLevel`, and the model's
    `Skein.pieces (if len = 0 then 1 else len) size` (`pieces_eq`) -/
def nblocks (len size : Nat) : Nat := if len = 0 then 1 else (len + size - 1) / size

theorem pieces_eq (len size : Nat) (hs : 0 < size) :
    Skein.pieces (if len = 0 then 1 else len) size = nblocks len size := by
  unfold Skein.pieces nblocks
  by_cases h : len = 0
  · simp only [h, ite_true]
    rw [show 1 + size - 1 = size by omega, Nat.div_self hs]
  · simp only [h, ite_false]

theorem nblocks_pos (len size : Nat) (hs : 0 < size) : 0 < nblocks len size := by
  unfold nblocks
  by_cases h : len = 0
  · simp [h]
  · simp only [h, ite_false]
    apply Nat.div_pos _ hs
    omega

theorem nblocks_last (len size : Nat) (hs : 0 < size) :
    (nblocks len size - 1) * size ≤ len ∧ len ≤ nblocks len size * size ∧ nblocks len size * size ≤ len + size ∧
    (0 < len → (nblocks len size - 1) * size < len) := by
  unfold nblocks
  by_cases h : len = 0
  · simp [h]
  · simp only [h, ite_false]
    have h1 : (len + size - 1) / size * size ≤ len + size - 1 := Nat.div_mul_le_self _ _
    have h2 : len + size - 1 < ((len + size - 1) / size + 1) * size := by
      rw [Nat.mul_comm]; exact Nat.lt_mul_div_succ _ hs
    have hk : 0 < (len + size - 1) / size := Nat.div_pos (by omega) hs
    obtain ⟨j, hj⟩ : ∃ j, (len + size - 1) / size = j + 1 := ⟨_, (Nat.sub_add_cancel hk).symm⟩
    simp only [hj, Nat.succ_mul, Nat.add_sub_cancel] at h1 h2 ⊢
    omega

theorem last_iff (len size i : Nat) (hs : 0 < size) (hi : i < nblocks len size) :
    i + 1 = nblocks len size ↔ ¬ (i * size + size < len) := by
  obtain ⟨_, h2, _, h3⟩ := nblocks_last len size hs
  constructor
  · intro h
    rw [← h, Nat.succ_mul] at h2
    omega
  · intro h
    apply Nat.le_antisymm hi
    apply Nat.le_of_not_lt
    intro hlt
    have h4 := Nat.mul_le_mul_right size (Nat.le_sub_one_of_lt hlt)
    rw [Nat.succ_mul] at h4
    have hpos : 0 < len := by
      apply Nat.pos_of_ne_zero
      intro h0
      simp [nblocks, h0] at hlt
    have := h3 hpos
    omega

/-- `M[:(bitlen+7)//8]` is the specification's `Mb`, also when no bit length is given -/
theorem cutMsg_eq (M : List Nat) (bitlen : Option Nat) : Skein.cutMsg M bitlen = M.take ((bitsOf M bitlen + 7) / 8) := by
  cases bitlen with
  | none =>
    have e : (bitsOf M none + 7) / 8 = M.length := by
      show (8 * M.length + 7) / 8 = _
      omega
    rw [e, List.take_length]
    rfl
  | some L => rfl

/-- a whole level of the tree.  `level_loop` walks the blocks with the tweak's position advancing by `size`; what is left
    is one block's UBI against the specification's (`ubi_eq`), and that turns on the bit length the code hands it
    (`hbits`): whole bytes for every block but the last, the rest of the message's bits for the last -/
theorem level_full {lb : Nat} (hlb : lb = 32 ∨ lb = 64 ∨ lb = 128) {G : List Nat} (hG : NBytes lb G)
    (size : Nat) (hs : 0 < size) (M : List Nat) (hM : AllBytes M) (bitlen : Option Nat) (hL : bitsOf M bitlen ≤ 8 * M.length)
    (lv : Nat) (hl : lv < 2 ^ 7) (hbound : (Skein.cutMsg M bitlen).length + size < 2 ^ 96) :
    Skein.level G size (Skein.cutMsg M bitlen) bitlen (nblocks (Skein.cutMsg M bitlen).length size) 0 (typeTw Spec.Skein.Tmsg 0 lv).bits =
      .ok ((typeTw Spec.Skein.Tmsg (nblocks (Skein.cutMsg M bitlen).length size * size) lv).bits,
        Spec.Skein.treeLevel G size M (bitsOf M bitlen) lv) ∧
    NBytes (nblocks (Skein.cutMsg M bitlen).length size * lb) (Spec.Skein.treeLevel G size M (bitsOf M bitlen) lv) := by
  obtain ⟨hn1, _, hn3, _⟩ := nblocks_last (Skein.cutMsg M bitlen).length size hs
  unfold Spec.Skein.treeLevel
  rw [← cutMsg_eq M bitlen]
  show _ = Except.ok (_, (List.range (nblocks (Skein.cutMsg M bitlen).length size)).flatMap _) ∧
    NBytes _ ((List.range (nblocks (Skein.cutMsg M bitlen).length size)).flatMap _)
  rw [List.range_eq_range', ← Nat.zero_add (nblocks (Skein.cutMsg M bitlen).length size * size),
    ← typeTw_pos Spec.Skein.Tmsg 0 lv (0 + _), ← typeTw_pos Spec.Skein.Tmsg 0 lv 0]
  refine level_loop G size (Skein.cutMsg M bitlen) bitlen _ (typeTw_ok (by decide) (by decide) hl) _ _ 0 0 (Nat.zero_mul _).symm (by omega) ?_
  intro i _ hi
  rw [Nat.zero_add] at hi
  have hlast := last_iff (Skein.cutMsg M bitlen).length size i hs hi
  have hisz : i * size ≤ (Skein.cutMsg M bitlen).length := Nat.le_trans (Nat.mul_le_mul_right _ (Nat.le_sub_one_of_lt hi)) hn1
  have hbits : bitsOf (((Skein.cutMsg M bitlen).drop (i * size)).take size) (Skein.leafBits (Skein.cutMsg M bitlen) size (i * size) bitlen) =
        (if i + 1 = nblocks (Skein.cutMsg M bitlen).length size then bitsOf M bitlen - 8 * (i * size)
         else 8 * (((Skein.cutMsg M bitlen).drop (i * size)).take size).length) ∧
      bitsOf (((Skein.cutMsg M bitlen).drop (i * size)).take size) (Skein.leafBits (Skein.cutMsg M bitlen) size (i * size) bitlen) ≤
        8 * (((Skein.cutMsg M bitlen).drop (i * size)).take size).length := by
    cases bitlen with
    | none =>
      rw [show Skein.cutMsg M none = M from rfl] at hlast hisz ⊢
      refine ⟨?_, Nat.le_refl _⟩
      show 8 * ((M.drop (i * size)).take size).length = _
      split
      · have := hlast.1 ‹_›
        simp only [bitsOf, Option.getD_none, List.length_take, List.length_drop]
        omega
      · rfl
    | some L =>
      have hlen : (Skein.cutMsg M (some L)).length = (L + 7) / 8 := by
        simp only [Skein.cutMsg, bitsOf, Option.getD_some, List.length_take] at hL ⊢
        omega
      simp only [Skein.leafBits, bitsOf, Option.getD_some] at hlast ⊢
      by_cases h : i * size + size < (Skein.cutMsg M (some L)).length
      · rw [if_pos h, if_neg (fun e => hlast.1 e h)]
        exact ⟨rfl, Nat.le_refl _⟩
      · rw [if_neg h, if_pos (hlast.2 h), Option.getD_some, List.length_take, List.length_drop]
        exact ⟨rfl, by omega⟩
  have hpos : i * size + (((Skein.cutMsg M bitlen).drop (i * size)).take size).length < 2 ^ 96 := by
    rw [List.length_take, List.length_drop]
    omega
  obtain ⟨u1, u2⟩ := ubi_eq hlb (Skein.leafBits (Skein.cutMsg M bitlen) size (i * size) bitlen)
    (M := ((Skein.cutMsg M bitlen).drop (i * size)).take size) (typeTw_ok (ty := Spec.Skein.Tmsg) (pos := i * size) (by decide) (by omega) hl)
    rfl rfl rfl hG (((cutMsg_eq M bitlen ▸ hM.take _ : AllBytes (Skein.cutMsg M bitlen)).drop _).take _) hbits.2 hpos
  rw [hbits.1, typeTw_val] at u1 u2
  rw [typeTw_pos]
  exact ⟨u1, u2⟩

/-- one turn of `while len(M) > Nb` -/
theorem nodeLevels_succ (c : Skein.Cfg) (G : List Nat) (Nn fm : Nat) {t : Tw} (ht : t.Ok) (hl : t.lv + 1 < 2 ^ 7)
    {Ml : List Nat} (hgt : Ml.length > c.Nb) :
    Skein.nodeLevels c G Nn (fm + 1) t.bits Ml =
      (if t.lv + 1 = c.Ym then Skein.ubi G { t with lv := t.lv + 1, pos := 0 }.bits Ml none
       else do
        let (ts, M') ← Skein.level G Nn Ml none (Skein.pieces Ml.length Nn) 0 { t with lv := t.lv + 1, pos := 0 }.bits
        Skein.nodeLevels c G Nn fm ts M') := by
  have h1 : Tw.Ok { t with lv := t.lv + 1 } := { ht with lv := hl }
  have h2 : Tw.Ok { t with lv := t.lv + 1, pos := 0 } := { h1 with pos := Nat.two_pow_pos 96 }
  rw [Skein.nodeLevels, if_pos hgt, Fold.bind_eq_of_ok ht.getTreeLevel, Fold.bind_eq_of_ok (ht.setTreeLevel hl),
    Fold.bind_eq_of_ok (h1.setPosition (Nat.two_pow_pos 96)), Fold.bind_eq_of_ok h2.getTreeLevel]

theorem nodeLevels_root (c : Skein.Cfg) (G : List Nat) (Nn fm : Nat) (ts : Bits) (Ml : List Nat) (h : Ml.length = c.Nb) :
    Skein.nodeLevels c G Nn (fm + 1) ts Ml = .ok Ml := by
  have h1 : ¬ (Ml.length > c.Nb) := by omega
  simp only [Skein.nodeLevels, pure, Except.pure]
  rw [if_neg h1, if_pos h]

/-- the level iteration: `while len(M)>Nb` versus rules 1–3 of section 3.5.6.  `d = Ym - l` levels remain and either fuel
    covers them (the model runs with 256 > Ym, Ym being a byte).  The bound q ≤ 2^(100-l) on the number of blocks is what
    keeps the level inside its 7-bit field: level 1 has fewer than 2^96 ≤ 2^99 blocks and each level at least halves them
    (Nn ≥ 2·lb), so as long as two blocks are left l ≤ 99 -/
theorem nodeLevels_eq {lb : Nat} (hlb : lb = 32 ∨ lb = 64 ∨ lb = 128) (c : Skein.Cfg) {G : List Nat} (hG : NBytes lb G)
    (hNb : c.Nb = lb) (Nn : Nat) (hNn2 : 2 * lb ≤ Nn) (B : Nat) (hB : B + Nn < 2 ^ 96) :
    ∀ (d l fuelM fuelS pos : Nat) (Ml : List Nat), l + d = c.Ym → 1 ≤ d → d ≤ fuelM → d ≤ fuelS → pos < 2 ^ 96 →
      AllBytes Ml → (∃ q, 1 ≤ q ∧ Ml.length = q * lb ∧ q ≤ 2 ^ (100 - l)) → Ml.length ≤ B →
      Skein.nodeLevels c G Nn fuelM (typeTw Spec.Skein.Tmsg pos l).bits Ml = .ok (Spec.Skein.treeUp G Nn c.Ym fuelS l Ml) ∧
      NBytes lb (Spec.Skein.treeUp G Nn c.Ym fuelS l Ml) := by
  have hNnpos : 0 < Nn := by omega
  intro d
  induction d with
  | zero =>
    intro l fuelM fuelS pos Ml _ h1
    omega
  | succ d ih =>
    intro l fuelM fuelS pos Ml hld _ hfm hfs hpos hMl hq hMB
    obtain ⟨q, hq1, hq2, hq3⟩ := hq
    obtain ⟨fm, rfl⟩ : ∃ fm, fuelM = fm + 1 := ⟨fuelM - 1, by omega⟩
    obtain ⟨fs, rfl⟩ : ∃ fs, fuelS = fs + 1 := ⟨fuelS - 1, by omega⟩
    by_cases hgt : Ml.length > lb
    · -- a further level: at least two blocks, so the level counter is still small
      have hq2' : 2 ≤ q := by
        rcases Nat.lt_or_ge q 2 with h | h
        · have : q = 1 := by omega
          rw [this, Nat.one_mul] at hq2
          omega
        · exact h
      have hl99 : l ≤ 99 := by
        rcases Nat.lt_or_ge l 100 with h | h
        · omega
        · rw [Nat.sub_eq_zero_of_le h] at hq3
          simp at hq3
          omega
      have hpw : 2 ^ (100 - l) = 2 * 2 ^ (100 - (l + 1)) := by
        rw [show 100 - l = (100 - (l + 1)) + 1 by omega, Nat.pow_succ, Nat.mul_comm]
      have hl : l + 1 < 2 ^ 7 := by omega
      have hT : Spec.Skein.Tmsg < 2 ^ 6 := by decide
      have hstep := nodeLevels_succ c G Nn fm (typeTw_ok hT hpos (Nat.lt_of_succ_lt hl)) hl (Ml := Ml) (by rw [hNb]; exact hgt)
      have hspec : ¬ (Ml.length ≤ G.length) := by rw [hG.len]; omega
      by_cases hym : l + 1 = c.Ym
      · -- the height limit: one UBI over the whole level
        obtain ⟨u1, u2⟩ := ubi_eq hlb none (typeTw_ok (pos := 0) hT (by decide) hl) rfl rfl rfl
          hG hMl (Nat.le_refl _) (show 0 + Ml.length < 2 ^ 96 by omega)
        rw [typeTw_val] at u1 u2
        have hsp : Spec.Skein.treeUp G Nn c.Ym (fs + 1) l Ml =
            Spec.Skein.ubi G Ml (bitsOf Ml none) (Spec.Skein.tweak 0 (l + 1) 0 Spec.Skein.Tmsg 0 0) := by
          simp only [Spec.Skein.treeUp, hspec, ite_false, ite_true, Spec.Skein.ubiBytes, ← hym]
          rfl
        rw [hsp]
        exact ⟨hstep.trans ((if_pos hym).trans u1), u2⟩
      · -- a node level
        have hne : ¬ (Ml.length = 0) := by omega
        have hcut : Skein.cutMsg Ml none = Ml := rfl
        have hpieces : Skein.pieces Ml.length Nn = nblocks Ml.length Nn := by
          have := pieces_eq Ml.length Nn hNnpos
          simp only [hne, ite_false] at this
          exact this
        obtain ⟨v1, v2⟩ := level_full hlb hG Nn hNnpos Ml hMl none (Nat.le_refl _) (l + 1) hl (by rw [hcut]; omega)
        rw [hcut, show bitsOf Ml none = 8 * Ml.length from rfl] at v1 v2
        -- the number of nodes is at most half the number of blocks below (rounded up)
        have hkh : nblocks Ml.length Nn ≤ (q + 1) / 2 := by
          obtain ⟨_, _, _, h4⟩ := nblocks_last Ml.length Nn hNnpos
          have a1 := Nat.mul_le_mul_left (nblocks Ml.length Nn - 1) hNn2
          have a2 : 2 * (nblocks Ml.length Nn - 1) * lb < q * lb := by
            rw [Nat.mul_comm 2, Nat.mul_assoc, ← hq2]
            exact Nat.lt_of_le_of_lt a1 (h4 (by omega))
          have := Nat.lt_of_mul_lt_mul_right a2
          omega
        have hklen : nblocks Ml.length Nn * lb ≤ Ml.length :=
          Nat.le_trans (Nat.mul_le_mul_right _ (by omega)) (Nat.le_of_eq hq2.symm)
        obtain ⟨_, _, hn3, _⟩ := nblocks_last Ml.length Nn hNnpos
        have hih := ih (l + 1) fm fs (nblocks Ml.length Nn * Nn) (Spec.Skein.treeLevel G Nn Ml (8 * Ml.length) (l + 1))
          (by omega) (by omega) (by omega) (by omega) (by omega) v2.bytes
          ⟨nblocks Ml.length Nn, nblocks_pos Ml.length Nn hNnpos, v2.len, by omega⟩ (by rw [v2.len]; omega)
        have hsp : Spec.Skein.treeUp G Nn c.Ym (fs + 1) l Ml =
            Spec.Skein.treeUp G Nn c.Ym fs (l + 1) (Spec.Skein.treeLevel G Nn Ml (8 * Ml.length) (l + 1)) := by
          simp only [Spec.Skein.treeUp, hspec, ite_false, hym]
        rw [hsp]
        rw [hpieces] at hstep
        exact ⟨hstep.trans ((if_neg hym).trans ((Fold.bind_eq_of_ok v1 _).trans hih.1)), hih.2⟩
    · -- the root: the level is one block
      have heq : Ml.length = lb := by
        have : q * lb ≥ lb := Nat.le_mul_of_pos_left _ hq1
        omega
      have hsp : Spec.Skein.treeUp G Nn c.Ym (fs + 1) l Ml = Ml := by
        simp only [Spec.Skein.treeUp, show Ml.length ≤ G.length by rw [hG.len]; omega, ite_true]
      rw [hsp]
      exact ⟨nodeLevels_root c G Nn fm _ Ml (by rw [hNb]; exact heq), hMl, heq⟩

/-- `_treehash` past its asserts: the leaf level from `Tweak(TreeLevel=1,Type='msg')`, then the levels of nodes -/
theorem treehash_ok (c : Skein.Cfg) (G M : List Nat) (bitlen : Option Nat) (h1 : c.Yl ≥ 1) (h2 : c.Yf ≥ 1) (h3 : c.Ym ≥ 2) :
    Skein.treehash c G M bitlen =
      (do let (ts, M1) ← Skein.level G (c.Nb <<< c.Yl) (Skein.cutMsg M bitlen) bitlen
            (Skein.pieces (if (Skein.cutMsg M bitlen).length = 0 then 1 else (Skein.cutMsg M bitlen).length) (c.Nb <<< c.Yl)) 0
            (typeTw Spec.Skein.Tmsg 0 1).bits
          Skein.nodeLevels c G (c.Nb <<< c.Yf) 256 ts M1) := by
  simp only [Skein.treehash, h1, h2, h3, not_true_eq_false, ite_false, bind, Except.bind,
    tweakOfLevelType_eq 1 (by decide) "msg" Spec.Skein.Tmsg rfl]

theorem treehash_eq {lb : Nat} (hlb : lb = 32 ∨ lb = 64 ∨ lb = 128) (c : Skein.Cfg) {G : List Nat} (hG : NBytes lb G)
    (hNb : c.Nb = lb) (h1 : 1 ≤ c.Yl) (h2 : 1 ≤ c.Yf) (h3 : 2 ≤ c.Ym) (hYm : c.Ym ≤ 255)
    (M : List Nat) (hM : AllBytes M) (bitlen : Option Nat) (hL : bitsOf M bitlen ≤ 8 * M.length)
    (hbound : M.length + lb * 2 ^ c.Yl + lb * 2 ^ c.Yf < 2 ^ 96) :
    Skein.treehash c G M bitlen = .ok (Spec.Skein.tree G M (bitsOf M bitlen) c.Yl c.Yf c.Ym) ∧
    NBytes lb (Spec.Skein.tree G M (bitsOf M bitlen) c.Yl c.Yf c.Ym) := by
  have eNl : c.Nb <<< c.Yl = lb * 2 ^ c.Yl := by rw [Nat.shiftLeft_eq, hNb]
  have eNn : c.Nb <<< c.Yf = lb * 2 ^ c.Yf := by rw [Nat.shiftLeft_eq, hNb]
  have hNl : lb ≤ lb * 2 ^ c.Yl := Nat.le_mul_of_pos_right _ (Nat.two_pow_pos _)
  have hNlpos : 0 < lb * 2 ^ c.Yl := by omega
  have hcl : (Skein.cutMsg M bitlen).length ≤ M.length := by rw [cutMsg_eq, List.length_take]; exact Nat.min_le_right _ _
  obtain ⟨v1, v2⟩ := level_full hlb hG (lb * 2 ^ c.Yl) hNlpos M hM bitlen hL 1 (by decide) (by omega)
  obtain ⟨_, _, hn3, _⟩ := nblocks_last (Skein.cutMsg M bitlen).length (lb * 2 ^ c.Yl) hNlpos
  have hk := nblocks_pos (Skein.cutMsg M bitlen).length (lb * 2 ^ c.Yl) hNlpos
  generalize hkd : nblocks (Skein.cutMsg M bitlen).length (lb * 2 ^ c.Yl) = k at v1 v2 hn3 hk
  have hkG : k * lb ≤ k * (lb * 2 ^ c.Yl) := Nat.mul_le_mul_left _ hNl
  have hNn2 : 2 * lb ≤ lb * 2 ^ c.Yf := by
    rw [Nat.mul_comm 2]
    exact Nat.mul_le_mul_left _ (Nat.pow_le_pow_right (n := 2) (by decide) h2)
  have hkle : k ≤ k * (lb * 2 ^ c.Yl) := Nat.le_mul_of_pos_right k hNlpos
  obtain ⟨w1, w2⟩ := nodeLevels_eq hlb c hG hNb (lb * 2 ^ c.Yf) hNn2 (M.length + lb * 2 ^ c.Yl) (by omega)
    (c.Ym - 1) 1 256 c.Ym (k * (lb * 2 ^ c.Yl)) (Spec.Skein.treeLevel G (lb * 2 ^ c.Yl) M (bitsOf M bitlen) 1)
    (by omega) (by omega) (by omega) (by omega) (by omega) v2.bytes ⟨k, hk, v2.len, by simp only [Nat.reduceSub]; omega⟩
    (by rw [v2.len]; omega)
  have hsp : Spec.Skein.tree G M (bitsOf M bitlen) c.Yl c.Yf c.Ym =
      Spec.Skein.treeUp G (lb * 2 ^ c.Yf) c.Ym c.Ym 1 (Spec.Skein.treeLevel G (lb * 2 ^ c.Yl) M (bitsOf M bitlen) 1) := by
    rw [← hG.len]
    rfl
  rw [hsp]
  refine ⟨?_, w2⟩
  rw [treehash_ok c G M bitlen h1 h2 h3, eNl, eNn, pieces_eq _ _ hNlpos, hkd, Fold.bind_eq_of_ok v1]
  exact w1

theorem hash_tree (Nb No Yl Yf Ym : Nat) (key prs PK kdf non : Option (List Nat)) (M : List Nat) (bitlen : Option Nat)
    (hNb : Nb = 256 ∨ Nb = 512 ∨ Nb = 1024) (h1 : 1 ≤ Yl) (h2 : 1 ≤ Yf) (h3 : 2 ≤ Ym) (hYl : Yl ≤ 255) (hYf : Yf ≤ 255) (hYm : Ym ≤ 255)
    (hM : AllBytes M) (hL : bitsOf M bitlen ≤ 8 * M.length)
    (hbound : M.length + Nb / 8 * 2 ^ Yl + Nb / 8 * 2 ^ Yf < 2 ^ 96)
    (hk : OptOk key) (hp : OptOk prs) (hP : OptOk PK) (hd : OptOk kdf) (hn : OptOk non) :
    Skein.hash Nb No Yl Yf Ym key prs PK kdf non M bitlen =
      .ok (Spec.Skein.output (Spec.Skein.tree (specInit Nb No Yl Yf Ym (key.getD []) (prs.getD []) (PK.getD []) (kdf.getD []) (non.getD []))
              M (bitsOf M bitlen) Yl Yf Ym) No) ∧
    (Spec.Skein.output (Spec.Skein.tree (specInit Nb No Yl Yf Ym (key.getD []) (prs.getD []) (PK.getD []) (kdf.getD []) (non.getD []))
              M (bitsOf M bitlen) Yl Yf Ym) No).length = (No + 7) / 8 := by
  apply hash_of_update Nb No Yl Yf Ym key prs PK kdf non M bitlen hNb hYl hYf hYm hk hp hP hd hn
  intro hG
  have hnz : ¬ (Yl = Yf ∧ Yf = Ym ∧ Ym = 0) := by omega
  simp only [Skein.updateMsg, hnz, not_false_eq_true, ite_true]
  exact treehash_eq (by omega) _ hG rfl h1 h2 h3 hYm M hM bitlen hL hbound

theorem treehash_rejects (c : Skein.Cfg) (G M : List Nat) (bitlen : Option Nat) (h : ¬ (c.Yl ≥ 1 ∧ c.Yf ≥ 1 ∧ c.Ym ≥ 2)) :
    ∃ e, Skein.treehash c G M bitlen = .error e := by
  unfold Skein.treehash
  by_cases h1 : c.Yl ≥ 1
  · by_cases h2 : c.Yf ≥ 1
    · have h3 : ¬ c.Ym ≥ 2 := fun h3 => h ⟨h1, h2, h3⟩
      simp only [h1, h2, h3, not_true_eq_false, not_false_eq_true, ite_true, ite_false]
      exact ⟨_, rfl⟩
    · simp only [h1, h2, not_true_eq_false, not_false_eq_true, ite_true, ite_false]
      exact ⟨_, rfl⟩
  · simp only [h1, not_false_eq_true, ite_true]
    exact ⟨_, rfl⟩

/-- parameters outside the specification (a Y value above 255, or tree parameters that are neither all zero nor
    Yl,Yf ≥ 1, Ym ≥ 2) are rejected, whatever the other inputs are -/
theorem hash_bad_params (Nb No Yl Yf Ym : Nat) (key prs PK kdf non : Option (List Nat)) (M : List Nat) (bitlen : Option Nat)
    (hbad : Spec.Skein.paramsOk Nb Yl Yf Ym = false) :
    (∃ e, Skein.hash Nb No Yl Yf Ym key prs PK kdf non M bitlen = .error e) ∧
    Spec.Skein.skein Nb No (key.getD []) (prs.getD []) (PK.getD []) (kdf.getD []) (non.getD []) Yl Yf Ym M (bitsOf M bitlen) = none := by
  constructor
  · by_cases hNb : (Nb = 256 ∨ Nb = 512 ∨ Nb = 1024)
    · by_cases hY : (Yl > 255 ∨ Yf > 255 ∨ Ym > 255)
      · unfold Skein.hash Skein.mk
        simp only [hNb, not_true_eq_false, ite_false, hY, ite_true, bind, Except.bind]
        exact ⟨_, rfl⟩
      · -- not all zero, and one of the tree asserts fails
        have hcond : ¬ (Yl = Yf ∧ Yf = Ym ∧ Ym = 0) ∧ ¬ (Yl ≥ 1 ∧ Yf ≥ 1 ∧ Ym ≥ 2) := by
          have := mt (paramsOk_iff Nb Yl Yf Ym).2 (by simp [hbad])
          omega
        unfold Skein.hash Skein.call Skein.updateMsg
        simp only [mk_ok Nb No Yl Yf Ym key prs PK kdf non hNb (by omega) (by omega) (by omega), bind, Except.bind]
        cases Skein.initstate (Skein.Cfg.mk (Nb / 8) No (Spec.Skein.cfgString No Yl Yf Ym) Yl Yf Ym key prs PK kdf non) with
        | error e => exact ⟨_, rfl⟩
        | ok G =>
          obtain ⟨e, he⟩ := treehash_rejects (Skein.Cfg.mk (Nb / 8) No (Spec.Skein.cfgString No Yl Yf Ym) Yl Yf Ym key prs PK kdf non)
            G M bitlen hcond.2
          simp only [hcond.1, not_false_eq_true, ite_true, he]
          exact ⟨_, rfl⟩
    · unfold Skein.hash Skein.mk
      simp only [hNb, not_false_eq_true, ite_true, bind, Except.bind]
      exact ⟨_, rfl⟩
  · unfold Spec.Skein.skein
    simp [hbad]

end Proofs.Lemmas.SkTree
