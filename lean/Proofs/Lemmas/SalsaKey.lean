/-
  Bytes → Bits → words: `Bits(bytes,bitorder=1)`, `split`, `.int()`, `pack`, as the little-endian words / bytes of the
  specifications.
-/
import Proofs.Lemmas.SalsaRounds
import Proofs.Lemmas.StreamBytes
import Proofs.Lemmas.BitsConv
namespace Proofs.Lemmas.SalsaKey
open Model Proofs.Lemmas.StreamPoly Proofs.Lemmas.SalsaRounds Proofs.Lemmas.StreamEnc Proofs.Lemmas.Bytes Proofs.Lemmas.Bits

/-- little-endian value of bytes given as `BitVec 8`, the `Spec.leVal` of the specifications; `leVal_eq` makes it
    `Py.leInt` of the byte values -/
def leVal : List Byte → Nat
  | [] => 0
  | b :: bs => b.toNat + 256 * leVal bs

theorem leVal_eq (s : List Byte) : leVal s = Py.leInt (s.map BitVec.toNat) := by
  induction s with
  | nil => rfl
  | cons b t ih => rw [leVal, ih]; rfl

/-- `Bits(bytes, bitorder=1)` -/
theorem ofBytes_le (s : List Byte) : Bits.ofBytes (s.map BitVec.toNat) none 1 = .ok ⟨leVal s, 8 * s.length⟩ := by
  rw [ofBytes_le_eq _ (allBytes_toNat s), leVal_eq, List.length_map]

theorem leVal_lt (s : List Byte) : leVal s < 2 ^ (8 * s.length) := by
  rw [leVal_eq, ← List.length_map (f := BitVec.toNat)]
  exact leInt_lt _ (allBytes_toNat s)

theorem leVal_append (a b : List Byte) : leVal (a ++ b) = leVal a + 2 ^ (8 * a.length) * leVal b := by
  simp only [leVal_eq, List.map_append, leInt_append, pow256, List.length_map]

def wordsOfNat (n x : Nat) : List Word := (List.range n).map fun j => BitVec.ofNat 32 (x / 2 ^ (32 * j))

/-- `B.split(32)` for a Bits of `32n` bits -/
theorem split32 (x n : Nat) :
    (⟨x, 32 * n⟩ : Bits).split 32 false = .ok ((wordsOfNat n x).map fun w => (⟨w.toNat, 32⟩ : Bits)) := by
  rw [split_uniform ⟨x, 32 * n⟩ n 32 (by decide) rfl, wordsOfNat, List.map_map]
  rfl

/-- `[x.int() for x in …]` -/
theorem ints32 (ws : List Word) :
    Salsa.bitsInts (ws.map fun w => (⟨w.toNat, 32⟩ : Bits)) = .ok (ws.map fun w => (w.toNat : Int)) := by
  unfold Salsa.bitsInts
  rw [List.mapM_map, Fold.mapM_ok _ (fun w : Word => (w.toNat : Int))]
  intro w _
  simp only [Function.comp, Bits.toInt, Int.reduceNeg, Int.reduceEq, ↓reduceIte, Bits.mask, Nat.and_two_pow_sub_one_eq_mod,
    Nat.mod_eq_of_lt w.isLt]
  rfl

theorem pack_word (w : Word) :
    (Bits.ofInt (w.toNat : Int) (some 32)).pack false = (Spec.Salsa20.littleendianInv w).map BitVec.toNat := by
  rw [pack_le_bytes _ 4 rfl, show (Bits.ofInt (w.toNat : Int) (some 32)).ival = w.toNat % 2 ^ 32 from rfl,
    Nat.mod_eq_of_lt w.isLt]
  simp [Py.leBytes, Spec.Salsa20.littleendianInv, Nat.div_div_eq_div_mul]

theorem leVal4 (b0 b1 b2 b3 : Byte) (rest : List Byte) :
    leVal (b0 :: b1 :: b2 :: b3 :: rest) =
      (b0.toNat + 2 ^ 8 * b1.toNat + 2 ^ 16 * b2.toNat + 2 ^ 24 * b3.toNat) + 2 ^ 32 * leVal rest := by
  rw [leVal, leVal, leVal, leVal]; omega

theorem wordsOfNat_succ (n x : Nat) :
    wordsOfNat (n + 1) x = BitVec.ofNat 32 x :: wordsOfNat n (x / 2 ^ 32) := by
  unfold wordsOfNat
  rw [List.range_succ_eq_map]
  simp only [List.map_cons, Nat.mul_zero, Nat.pow_zero, Nat.div_one, List.map_map, List.cons.injEq, true_and]
  apply List.map_congr_left
  intro j _
  simp only [Function.comp]
  have : x / 2 ^ (32 * (j + 1)) = x / 2 ^ 32 / 2 ^ (32 * j) := by
    rw [Nat.div_div_eq_div_mul, ← Nat.pow_add]; congr 2; omega
  rw [← this]

theorem wordsOfNat_two (x : Nat) : wordsOfNat 2 x = [BitVec.ofNat 32 x, BitVec.ofNat 32 (x / 2 ^ 32)] := by
  rw [wordsOfNat_succ, wordsOfNat_succ]
  rfl

theorem words_leVal (k : Nat) (bs : List Byte) (h : bs.length = 4 * k) :
    wordsOfNat k (leVal bs) = Spec.Salsa20.words bs := by
  induction k generalizing bs with
  | zero =>
    have : bs = [] := List.eq_nil_of_length_eq_zero (by omega)
    subst this; rfl
  | succ k ih =>
    obtain ⟨b0, b1, b2, b3, t, rfl, ht⟩ := Fold.cons4_of_len bs h
    rw [wordsOfNat_succ, leVal4, Spec.Salsa20.words]
    have hw : b0.toNat + 2 ^ 8 * b1.toNat + 2 ^ 16 * b2.toNat + 2 ^ 24 * b3.toNat < 2 ^ 32 := by
      have := b0.isLt; have := b1.isLt; have := b2.isLt; have := b3.isLt; omega
    have hd : (b0.toNat + 2 ^ 8 * b1.toNat + 2 ^ 16 * b2.toNat + 2 ^ 24 * b3.toNat + 2 ^ 32 * leVal t) / 2 ^ 32 = leVal t := by
      omega
    rw [hd, ih t ht]
    congr 1
    apply BitVec.eq_of_toNat_eq
    simp only [Spec.Salsa20.littleendian, BitVec.toNat_ofNat]
    omega

theorem words_length (k : Nat) (l : List Byte) (h : l.length = 4 * k) : (Spec.Salsa20.words l).length = k := by
  rw [← words_leVal k l h]; simp [wordsOfNat]

theorem words_append (a b : List Byte) (h : a.length % 4 = 0) :
    Spec.Salsa20.words (a ++ b) = Spec.Salsa20.words a ++ Spec.Salsa20.words b := by
  obtain ⟨k, hk⟩ : ∃ k, a.length = 4 * k := ⟨a.length / 4, by omega⟩
  induction k generalizing a with
  | zero =>
    have : a = [] := List.eq_nil_of_length_eq_zero (by omega)
    subst this; rfl
  | succ k ih =>
    obtain ⟨b0, b1, b2, b3, t, rfl, ht⟩ := Fold.cons4_of_len a hk
    simp only [List.cons_append, Spec.Salsa20.words, ih t (by omega) ht]

theorem words_nonce (v : List Byte) (hv : v.length = 8) :
    Spec.Salsa20.words v = [BitVec.ofNat 32 (leVal v), BitVec.ofNat 32 (leVal v / 2 ^ 32)] := by
  rw [← words_leVal 2 v (by omega), wordsOfNat_two]

theorem words_le64 (i : Nat) :
    Spec.Salsa20.words (Spec.Salsa20.le64 i) = [BitVec.ofNat 32 (i % 2 ^ 32), BitVec.ofNat 32 (i / 2 ^ 32)] := by
  have hr : List.range 8 = [0, 1, 2, 3, 4, 5, 6, 7] := by decide
  simp only [Spec.Salsa20.le64, hr, List.map_cons, List.map_nil, Spec.Salsa20.words, Spec.Salsa20.littleendian,
    BitVec.toNat_ofNat, List.cons.injEq, and_true]
  constructor <;> (apply BitVec.eq_of_toNat_eq; simp only [BitVec.toNat_ofNat]; omega)

/-- `b''.join([pack(z) for z in Z])` -/
theorem pack_words (ws : List Word) :
    (((ofBV ws).ival.map fun z => (Bits.ofInt z (some 32)).pack).flatten) = (Spec.Salsa20.unwords ws).map BitVec.toNat := by
  simp only [ofBV_ival, List.map_map, Spec.Salsa20.unwords, List.flatMap_def, List.map_flatten]
  congr 1
  apply List.map_congr_left
  intro w _
  simp only [Function.comp, Int.ofNat_eq_natCast]
  exact pack_word w

end Proofs.Lemmas.SalsaKey
