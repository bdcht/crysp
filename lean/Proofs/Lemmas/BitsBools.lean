/-
  What DES needs of `Model.Bits`, on bit lists (`Model.Bits.bools`, Lemmas/BitsView): the helpers `pick` and `putSlice` of
  Model/Des.lean, `join` (defined here: the 64-bit block the code assembles with two slice assignments), the rotation
  idiom, and `Bits(bytes)` / `bytes(b)` against the bitstream conversions of the DES specification, which are a copy of the
  codec of Lemmas/BitCodec.
  The file is in namespaces `Spec.Des` (the round trips of the specification's codec) and `Model.Bits`.  The first section
  of the latter, and `isBytes_toBytes` / `length_toBytes` near the end, repeat facts of Lemmas/BitsBasic, BitsOps and
  BitsConv as `Model.Bits.WF_x`, `size_x`, `testBit_x`, `x_toBytes`: the DES proofs and theorem statements go by those names
  (`IsBytes` is `Bytes.AllBytes`).
-/
import Model.Des
import Spec.Des
import Proofs.Lemmas.BitsIndex
import Proofs.Lemmas.BitCodec
namespace Spec.Des
open Proofs.Lemmas.BitCodec

theorem bitsToBytes_bytesToBits (s : List Nat) (hs : ∀ b ∈ s, b < 256) : bitsToBytes (bytesToBits s) = s := by
  rw [des_bitsToBytes _ (by rw [des_bytesToBits, Proofs.Lemmas.Padding.bytesToBits_length]; omega)]
  exact Proofs.Lemmas.Padding.bitsToBytes_bytesToBits s hs

theorem bytesToBits_bitsToBytes (l : Bitstr) (m : Nat) (hl : l.length = 8 * m) :
    bytesToBits (bitsToBytes l) = l ∧ ∀ b ∈ bitsToBytes l, b < 256 := by
  rw [des_bitsToBytes l (by omega)]
  exact ⟨Proofs.Lemmas.Padding.bytesToBits_bitsToBytes l (by omega), Proofs.Lemmas.Padding.bitsToBytes_Bytes l⟩

end Spec.Des

namespace Model.Bits
open Proofs.Lemmas.Bytes (leInt_lt)

theorem WF_of_testBit {b : Bits} (h : ∀ i, b.size ≤ i → b.ival.testBit i = false) : b.WF :=
  Nat.lt_pow_two_of_testBit _ h

theorem WF_ofNatSz (v n : Nat) : (ofNatSz v n).WF := Proofs.Lemmas.Bits.ofNatSz_wf v n

@[simp] theorem size_sliceFast (b : Bits) (s e : Nat) : (sliceFast b s e).size = e - s := rfl
theorem WF_sliceFast (b : Bits) (s e : Nat) : (sliceFast b s e).WF := Proofs.Lemmas.Bits.sliceFast_wf b s e

theorem WF_xor (a o : Bits) (ha : a.WF) (ho : o.WF) (_h : a.size = o.size) : (a.xor o).WF :=
  Proofs.Lemmas.Bits.xor_wf ha ho

theorem testBit_concat (a o : Bits) (ha : a.WF) (i : Nat) :
    (a.concat o).ival.testBit i =
      (decide (i < a.size + o.size) && (if i < a.size then a.ival.testBit i else o.ival.testBit (i - a.size))) := by
  rw [Proofs.Lemmas.Bits.concat_testBit a o ha]
  by_cases h : i < a.size
  · simp [h, show i < a.size + o.size by omega]
  · simp [h]

@[simp] theorem size_concat (a o : Bits) : (a.concat o).size = a.size + o.size := rfl

theorem shiftRight_and_one_testBit (v x : Nat) : ((v >>> x) &&& 1).testBit 0 = v.testBit x := by
  simp

/-! ### `pick` and `putSlice`: the helpers of Model/Des.lean for `b[list]` and the contiguous `b[s:e]=v` on natural indices -/

theorem pick_ival (b : Bits) (idx : List Nat) : (pick b idx).ival = listVal (idx.map fun x => (b.ival >>> x) &&& 1) :=
  Nat.mod_eq_of_lt (by simpa using Proofs.Lemmas.Bits.listVal_lt (idx.map fun x => (b.ival >>> x) &&& 1))

@[simp] theorem size_pick (b : Bits) (idx : List Nat) : (pick b idx).size = idx.length := rfl

theorem testBit_pick (b : Bits) (idx : List Nat) (i : Nat) :
    (pick b idx).ival.testBit i = if h : i < idx.length then b.ival.testBit idx[i] else false := by
  rw [pick_ival]
  exact Proofs.Lemmas.Bits.listVal_pick_testBit b.ival id idx i

theorem WF_pick (b : Bits) (idx : List Nat) : (pick b idx).WF := WF_ofNatSz _ _

theorem testBit_pick_getD (b : Bits) (idx : List Nat) (i : Nat) (h : i < idx.length) :
    (pick b idx).ival.testBit i = b.ival.testBit (idx.getD i 0) := by
  rw [testBit_pick, dif_pos h]
  simp [List.getD_eq_getElem?_getD, List.getElem?_eq_getElem h]

theorem pick_pick (b : Bits) (t1 t2 : List Nat) (h : ∀ x ∈ t2, x < t1.length) :
    pick (pick b t1) t2 = pick b (t2.map fun x => t1.getD x 0) := by
  apply Proofs.Lemmas.Bits.ext_of_wf (WF_pick _ _) (WF_pick _ _) (by simp)
  intro i hi
  have hi' : i < t2.length := by simpa using hi
  have hx := h t2[i] (List.getElem_mem hi')
  rw [testBit_pick, dif_pos hi', testBit_pick_getD b t1 _ hx, testBit_pick_getD b _ i (by simpa using hi')]
  simp [List.getD_eq_getElem?_getD, List.getElem?_eq_getElem hi']

/-- `natOfBits` reads most significant bit first, hence the selection reversed -/
theorem pick_ival_natOfBits (b : Bits) (idx : List Nat) :
    (b.pick idx).ival = Spec.Des.natOfBits (idx.reverse.map b.ival.testBit) := by
  rw [pick_ival]
  induction idx with
  | nil => rfl
  | cons x xs ih =>
    have h1 : (b.ival.testBit x).toNat < 2 ^ 1 := Bool.toNat_lt _
    rw [List.map_cons, listVal, ih, Proofs.Lemmas.Bits.shr_and_one, Nat.and_one_is_mod, Nat.mod_eq_of_lt h1,
      ← Nat.shiftLeft_add_eq_or_of_lt h1, Nat.shiftLeft_eq, Nat.mul_comm]
    simp [Spec.Des.natOfBits, List.foldl_append]

theorem bools_pick (b : Bits) (idx : List Nat) : bools (pick b idx) = idx.map fun x => b.ival.testBit x := by
  apply bools_eq_of_testBit
  · simp
  · intro i hi
    have hi' : i < idx.length := by simpa using hi
    simp [testBit_pick, hi']

theorem bools_pick' (b : Bits) (hb : b.WF) (idx : List Nat) :
    bools (pick b idx) = idx.map fun x => (bools b)[x]?.getD false := by
  rw [bools_pick]
  congr 1
  funext x
  exact (getD_bools b hb x).symm

theorem pick_pick_id (b : Bits) (hb : b.WF) (t1 t2 : List Nat)
    (h : t2.map (fun x => t1[x]?) = (List.range b.size).map some) : pick (pick b t1) t2 = b := by
  apply eq_of_bools (WF_pick _ _) hb
  rw [bools_pick' _ (WF_pick _ _), bools_pick]
  have : (fun x : Nat => (List.map (fun x => b.ival.testBit x) t1)[x]?.getD false)
      = (fun o : Option Nat => (o.map fun x => b.ival.testBit x).getD false) ∘ (fun x : Nat => t1[x]?) := by
    funext x; simp
  rw [this, ← List.map_map, h, List.map_map]
  rfl

@[simp] theorem size_putSlice (b : Bits) (s e : Nat) (v : Bits) : (putSlice b s e v).size = b.size := rfl

/-- bit by bit what the body of `putSlice` says: the three `decide`s are the bits of `mask ^ ((1<<e)-1) ^ ((1<<s)-1)`.
    `Bits.setSlice_fast_testBit` (Lemmas/BitsIndex) is about the same term under `s ≤ e ≤ size` and `v < 2 ^ (e - s)`, where
    they collapse to an `if`; `WF_putSlice` and `testBit_putField` reach it by `rw [putSlice]`. -/
theorem testBit_putSlice (b : Bits) (s e : Nat) (v : Bits) (i : Nat) :
    (putSlice b s e v).ival.testBit i =
      ((b.ival.testBit i && (Bool.xor (Bool.xor (decide (i < b.size)) (decide (i < e))) (decide (i < s))))
        || (decide (s ≤ i) && v.ival.testBit (i - s))) := by
  simp only [putSlice, Bits.mask, Nat.testBit_or, Nat.testBit_and, Nat.testBit_xor, Nat.testBit_shiftLeft,
    Nat.testBit_two_pow_sub_one]

theorem WF_putSlice (b : Bits) (s e : Nat) (v : Bits) (hse : s ≤ e) (he : e ≤ b.size)
    (hv : v.ival < 2 ^ (e - s)) : (putSlice b s e v).WF :=
  Nat.lt_pow_two_of_testBit _ fun i (hi : b.size ≤ i) => by
    rw [putSlice, Proofs.Lemmas.Bits.setSlice_fast_testBit b s e hse he v hv, if_neg (by omega), decide_eq_false (by omega)]
    rfl

theorem testBit_putField (b : Bits) (hb : b.WF) (w n y : Nat) (hw : 0 < w) (he : w * n + w ≤ b.size) (hy : y < 2 ^ w)
    (i : Nat) :
    (b.putSlice (w * n) (w * n + w) (ofNat y)).ival.testBit i =
      if i / w = n then y.testBit (i % w) else b.ival.testBit i := by
  have hdiv : i / w = n ↔ w * n ≤ i ∧ i < w * n + w := by
    rw [Nat.div_eq_iff hw, Nat.mul_comm n w]
    omega
  rw [putSlice, Proofs.Lemmas.Bits.setSlice_fast_testBit b _ _ (by omega) he _ (by rw [Nat.add_sub_cancel_left]; exact hy)]
  by_cases c : i / w = n
  · rw [if_pos c, if_pos (hdiv.mp c), ← c, Nat.mod_def]
    rfl
  · rw [if_neg c, if_neg (mt hdiv.mpr c)]
    by_cases h : i < b.size
    · rw [decide_eq_true h, Bool.true_and]
    · rw [decide_eq_false h, Bool.false_and, Proofs.Lemmas.Bits.wf_testBit hb (Nat.le_of_not_lt h)]

theorem WF_putField (b : Bits) (w n y : Nat) (he : w * n + w ≤ b.size) (hy : y < 2 ^ w) :
    (b.putSlice (w * n) (w * n + w) (ofNat y)).WF :=
  WF_putSlice _ _ _ _ (by omega) he (by rw [Nat.add_sub_cancel_left]; exact hy)

/-- the 64-bit block `A ‖ B` as the code assembles it: `C=Bits(0,64); C[0:32]=A; C[32:64]=B` -/
def join (A B : Bits) : Bits := ((ofNatSz 0 64).putSlice 0 32 A).putSlice 32 64 B

@[simp] theorem size_join (A B : Bits) : (join A B).size = 64 := rfl

/-! ### the rotation idiom `x>>s | x<<(n-s)` -/
def rotIdiom (x : Bits) (s : Nat) : Bits := (x.shr s).or (x.shl (x.size - s))

theorem rotIdiom_eq (x : Bits) (s : Nat) : rotIdiom x s = x.ror! s := rfl

theorem bools_rotIdiom (x : Bits) (hx : x.WF) (s : Nat) (hs : s ≤ x.size) :
    bools (rotIdiom x s) = (bools x).drop s ++ (bools x).take s := by
  have hl : ((bools x).drop s).length = x.size - s := by
    rw [List.length_drop, length_bools]
  rw [rotIdiom_eq]
  apply bools_eq_of_testBit
  · rw [Proofs.Lemmas.Bits.ror!_size, List.length_append, hl, List.length_take, length_bools]
    omega
  · intro i hi
    have hi' : i < x.size := by
      rw [List.length_append, hl, List.length_take, length_bools] at hi
      omega
    rw [Proofs.Lemmas.Bits.ror!_testBit x hx s hs i hi']
    by_cases h : i < x.size - s
    · rw [List.getElem_append_left (by omega), List.getElem_drop, getElem_bools, Nat.mod_eq_of_lt (by omega),
        Nat.add_comm]
    · rw [List.getElem_append_right (by omega), List.getElem_take, getElem_bools, Nat.mod_eq_sub_mod (by omega),
        Nat.mod_eq_of_lt (by omega), hl]
      congr 1
      omega

/-! ### `Bits(bytes)` and `bytes(b)` in bit-stream order -/

theorem ofBytes_bitstream (s : List Nat) : ofBytes s none (-1) = .ok (ofByteStr s) := by
  simp [ofBytes, load_bitstream]

def IsBytes (s : List Nat) : Prop := ∀ b ∈ s, b < 256

theorem ofByteStr_eq (s : List Nat) (hs : IsBytes s) : ofByteStr s = ⟨Py.leInt (s.map reverseByte), 8 * s.length⟩ :=
  Except.ok.inj ((load_bitstream s).symm.trans (Proofs.Lemmas.Bits.load_rev_eq s hs))

theorem WF_ofByteStr (s : List Nat) (hs : IsBytes s) : (ofByteStr s).WF := by
  rw [ofByteStr_eq s hs]
  have := leInt_lt _ (Proofs.Lemmas.Bits.byteMap_reverseByte.map hs)
  rwa [List.length_map] at this

theorem setSize_ofByteStr (s : List Nat) (hs : IsBytes s) (n : Nat) (hn : n = 8 * s.length) :
    (ofByteStr s).setSize n = ofByteStr s := by
  have hW := WF_ofByteStr s hs
  subst hn
  simp only [setSize, ofByteStr] at hW ⊢
  congr 1
  exact Nat.mod_eq_of_lt hW

theorem bools_ofByteStr (s : List Nat) (hs : IsBytes s) : bools (ofByteStr s) = Spec.Des.bytesToBits s := by
  rw [ofByteStr_eq s hs]
  exact Proofs.Lemmas.BitCodec.bools_ofBytes s hs

theorem toBytes_eq (b : Bits) (m : Nat) (hm : b.size = 8 * m) : toBytes b = Spec.Des.bitsToBytes (bools b) :=
  (Proofs.Lemmas.BitCodec.toBytes_eq b).trans (Proofs.Lemmas.BitCodec.des_bitsToBytes _ (by simp [hm])).symm

theorem isBytes_toBytes (b : Bits) (m : Nat) (_hm : b.size = 8 * m) : IsBytes (toBytes b) :=
  Proofs.Lemmas.Bits.toBytes_allBytes b

theorem length_toBytes (b : Bits) : (toBytes b).length = (b.size + 7) / 8 := Proofs.Lemmas.Bits.toBytes_length b

theorem ofByteStr_toBytes (b : Bits) (hb : b.WF) (m : Nat) (hm : b.size = 8 * m) : ofByteStr (toBytes b) = b := by
  apply eq_of_bools (WF_ofByteStr _ (isBytes_toBytes b m hm)) hb
  rw [bools_ofByteStr _ (isBytes_toBytes b m hm), toBytes_eq b m hm]
  exact (Spec.Des.bytesToBits_bitsToBytes (bools b) m (by simp [hm])).1

theorem toBytes_ofByteStr (s : List Nat) (hs : IsBytes s) : toBytes (ofByteStr s) = s := by
  rw [toBytes_eq _ s.length rfl, bools_ofByteStr s hs]
  exact Spec.Des.bitsToBytes_bytesToBits s hs

/-! ### the two helper operations of Model.Des are the shared model's `__getitem__` / `__setitem__` on the paths the code takes -/

theorem getList_eq_pick (b : Bits) (idx : List Nat) : b.getList (idx.map Int.ofNat) = .ok (b.pick idx) := by
  rw [Proofs.Lemmas.Bits.getList_ok b _ (by simp), pick, List.map_map, List.length_map]
  rfl

theorem setSlice_eq_putSlice (b : Bits) (s e : Nat) (v : Bits) (hse : s < e) (he : e ≤ b.size) :
    b.setSlice (some (s : Int)) (some (e : Int)) none v = .ok (b.putSlice s e v) :=
  Proofs.Lemmas.Bits.setSlice_nat b s e hse he v

end Model.Bits
