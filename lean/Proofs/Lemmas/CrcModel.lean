/-
  Model.Crc (table construction and the forward loop over Model.Bits) refines the
  bit-serial register of Spec.Crc, for every polynomial of every width ≥ 8.
-/
import Model.Crc
import Spec.Crc
import Proofs.Lemmas.CrcLin
import Proofs.Lemmas.BitsOps
namespace Proofs.Lemmas.CrcModel
open Model Model.Crc Spec.Crc Proofs.Lemmas.CrcLin
open Proofs.Lemmas.Bits (and_one_ne_zero xor_mk shr_mk)

theorem tableStep_eq (P : Bits) (x : Nat) (hx : x < 2 ^ P.size) :
    tableStep P ⟨x, P.size⟩ = ⟨step P.ival x, P.size⟩ := by
  unfold tableStep step lsb
  rw [shr_mk x _ 1 hx]
  by_cases h : x.testBit 0 = true
  · rw [if_pos ((and_one_ne_zero x).2 h), if_pos h, xor_mk _ _ _ _ (Nat.le_refl _), Nat.xor_comm]
  · rw [if_neg (mt (and_one_ne_zero x).1 h), if_neg h]

theorem repeat_tableStep (P : Bits) (hP : P.WF) (n x : Nat) (hx : x < 2 ^ P.size) :
    Nat.repeat (tableStep P) n ⟨x, P.size⟩ = ⟨steps P.ival n x, P.size⟩ := by
  induction n with
  | zero => rfl
  | succ n ih =>
    rw [Nat.repeat, ih, tableStep_eq P _ (steps_lt _ _ _ _ hP hx), steps_add]
    rfl

theorem tableEntry_eq (P : Bits) (hP : P.WF) (hw : 8 ≤ P.size) (n : Nat) (hn : n < 256) :
    tableEntry P n = ⟨steps P.ival 8 n, P.size⟩ := by
  have hn' : n < 2 ^ P.size := Nat.lt_of_lt_of_le hn (two_pow_ge_256 _ hw)
  unfold tableEntry Bits.ofNatSz
  rw [Nat.mod_eq_of_lt hn']
  exact repeat_tableStep P hP 8 n hn'

theorem lookup_map_range (f : Nat → Bits) (m n : Nat) (hn : n < m) : lookup ((List.range m).map f) n = .ok (f n) := by
  unfold lookup
  rw [List.getElem?_map, List.getElem?_range hn]
  rfl

theorem lookup_crcTable (P : Bits) (n : Nat) (hn : n < 256) : lookup (crcTable P) n = .ok (tableEntry P n) :=
  lookup_map_range _ 256 n hn

theorem fwdLoop_eq (P : Bits) (hP : P.WF) (hw : 8 ≤ P.size) :
    ∀ (data : List Nat) (r : Nat), (∀ b ∈ data, b < 256) → r < 2 ^ P.size →
      fwdLoop (crcTable P) ⟨r, P.size⟩ data = .ok ⟨register P.ival r data, P.size⟩ := by
  intro data
  induction data with
  | nil => intro r _ _; rfl
  | cons b bs ih =>
    intro r hd hr
    have hb : b < 256 := hd b (by simp)
    have h256 := two_pow_ge_256 _ hw
    have hx : r ^^^ b < 2 ^ P.size := Nat.xor_lt_two_pow hr (by omega)
    have hff : (r ^^^ b) &&& 0xff = (r ^^^ b) % 2 ^ 8 := Nat.and_two_pow_sub_one_eq_mod _ 8
    have hidx : (r ^^^ b) &&& 0xff < 256 := by
      rw [hff]
      exact Nat.mod_lt _ (by decide)
    -- the table step: the low byte of `r ^ b` goes through eight steps, the rest of `r` shifts down
    have hstep : ((⟨r, P.size⟩ : Bits).shr 8).xor (tableEntry P ((r ^^^ b) &&& 0xff))
        = ⟨steps P.ival 8 (r ^^^ b), P.size⟩ := by
      rw [shr_mk r _ 8 hr, tableEntry_eq P hP hw _ hidx, xor_mk _ _ _ _ (Nat.le_refl _), hff,
        steps_split P.ival 8 (r ^^^ b), Nat.shiftRight_xor_distrib, Nat.shiftRight_eq_zero b 8 hb, Nat.xor_zero,
        Nat.xor_comm]
    rw [register_cons _ _ _ _ hb, ← ih _ (fun x hx => hd x (by simp [hx])) (steps_lt _ _ _ _ hP hx)]
    simp only [fwdLoop]
    rw [lookup_crcTable P _ hidx]
    simp only [bind, Except.bind]
    rw [hstep]

theorem crc_eq (P : Bits) (hP : P.WF) (hw : 8 ≤ P.size) (init : Nat) (final : Option Nat) (data : List Nat)
    (hd : ∀ b ∈ data, b < 256) :
    Model.Crc.crc data (crcTable P) (init : Int) (final.map Int.ofNat)
      = .ok (register P.ival (init % 2 ^ P.size) data ^^^ final.getD 0) := by
  unfold Model.Crc.crc
  rw [lookup_crcTable P 0 (by decide)]
  simp only [bind, Except.bind]
  rw [tableEntry_eq P hP hw 0 (by decide)]
  have hinit : Bits.ofInt (init : Int) (some P.size) = ⟨init % 2 ^ P.size, P.size⟩ := by
    simp [Bits.ofInt, Bits.ofNatSz]
  simp only [hinit]
  rw [fwdLoop_eq P hP hw data _ hd (Nat.mod_lt _ (Nat.two_pow_pos _))]
  cases final with
  | none => simp [pure, Except.pure]
  | some f =>
    by_cases hf : f = 0
    · subst hf
      simp [pure, Except.pure]
    · simp [hf, pure, Except.pure, Bits.xor, Bits.ofInt, Bits.ofNat]

end Proofs.Lemmas.CrcModel
