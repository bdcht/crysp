/-
  Zero / sign extension and the two's-complement value of a `Model.Bits`; the histories of mutating operations whose
  slice assignments fit (`Fits`, `AllFit`); on the list of bits (Lemmas/BitsView): the pieces of `split` are its
  `Py.chunks`, `concatList` is their concatenation, the Hamming weight counts.
-/
import Model.Bits
import Proofs.Lemmas.BitsBasic
import Proofs.Lemmas.BitsOps
import Proofs.Lemmas.BitsIndex
import Proofs.Lemmas.BitsView
import Proofs.Lemmas.Bytes
namespace Proofs.Lemmas.Bits
open Model Model.Bits Model.Py

/-- two's-complement value of the vector -/
def sval (b : Bits) : Int := (b.ival : Int) - (if b.ival.testBit (b.size - 1) then (2 ^ b.size : Nat) else 0)

theorem zeroextend_eq (b : Bits) (n : Nat) : b.zeroextend n = if n > b.size then b.setSize n else b := rfl

theorem zeroextend_spec (b : Bits) (hb : b.WF) (n : Nat) :
    (b.zeroextend n).size = max b.size n ∧ (b.zeroextend n).ival = b.ival := by
  rw [zeroextend_eq]
  split
  · rename_i h
    refine ⟨by simp; omega, ?_⟩
    simp only [setSize_ival]
    exact Nat.mod_eq_of_lt (Nat.lt_of_lt_of_le hb (Nat.pow_le_pow_right (by omega) (by omega)))
  · exact ⟨by omega, rfl⟩

theorem zeroextend_wf (b : Bits) (hb : b.WF) (n : Nat) : (b.zeroextend n).WF := by
  rw [zeroextend_eq]; split
  · exact setSize_wf _ _
  · exact hb

theorem bit_neg_one (b : Bits) (h : 0 < b.size) : b.bit (-1) = .ok (b.ival.testBit (b.size - 1)).toNat := by
  rw [bit_eq, PySeq.normIndex_eq_some (p := b.size - 1) |>.mpr (by omega)]

theorem bit_neg_one_empty (b : Bits) (h : b.size = 0) : b.bit (-1) = .error "IndexError" := by
  rw [bit_eq, PySeq.normIndex_eq_none.mpr (by omega)]

theorem signextend_eq (b : Bits) (n : Nat) : b.signextend n =
    if n ≤ b.size then .ok b
    else if b.size = 0 then .error "IndexError"
    else .ok (if b.ival.testBit (b.size - 1) then ⟨b.ival % 2 ^ n ||| (b.mask ^^^ (2 ^ n - 1)), n⟩ else b.setSize n) := by
  unfold signextend
  by_cases hn : n ≤ b.size
  · rw [if_neg (by omega), if_pos hn]
    rfl
  · rw [if_pos (by omega), if_neg hn]
    by_cases h0 : b.size = 0
    · rw [bit_neg_one_empty b h0, if_pos h0]
      rfl
    · rw [bit_neg_one b (by omega), if_neg h0]
      cases b.ival.testBit (b.size - 1) <;> rfl

theorem signextend_spec (b : Bits) (hb : b.WF) (n : Nat) (r : Bits) (h : b.signextend n = .ok r) :
    r.WF ∧ r.size = max b.size n ∧
    ∀ q, r.ival.testBit q = if q < b.size then b.ival.testBit q else (decide (q < n) && b.ival.testBit (b.size - 1)) := by
  rw [signextend_eq] at h
  split at h
  · injection h with h
    subst h
    refine ⟨hb, by omega, fun q => ?_⟩
    by_cases hq : q < b.size
    · simp [hq]
    · simp [hq, show ¬ q < n by omega, wf_testBit hb (Nat.le_of_not_lt hq)]
  · split at h
    · cases h
    · injection h with h
      have hsz : r.size = n := by
        rw [← h]
        split <;> rfl
      have hbits : ∀ q, r.ival.testBit q =
          if q < b.size then b.ival.testBit q else (decide (q < n) && b.ival.testBit (b.size - 1)) := by
        intro q
        rw [← h]
        by_cases hq : q < b.size
        · cases b.ival.testBit (b.size - 1) <;>
            simp [mask, Nat.testBit_mod_two_pow, Nat.testBit_two_pow_sub_one, hq, show q < n by omega]
        · cases b.ival.testBit (b.size - 1) <;>
            simp [mask, Nat.testBit_mod_two_pow, Nat.testBit_two_pow_sub_one, hq, wf_testBit hb (Nat.le_of_not_lt hq)]
      refine ⟨Nat.lt_pow_two_of_testBit _ fun q hq => ?_, by omega, hbits⟩
      rw [hbits q, if_neg (by omega), decide_eq_false (by omega), Bool.false_and]

theorem signextend_error_iff (b : Bits) (n : Nat) :
    (∃ e, b.signextend n = .error e) ↔ (b.size = 0 ∧ 0 < n) := by
  rw [signextend_eq]
  by_cases hn : n ≤ b.size
  · rw [if_pos hn]
    exact ⟨fun ⟨_, h⟩ => (nomatch h), fun h => by omega⟩
  · rw [if_neg hn]
    by_cases h0 : b.size = 0
    · rw [if_pos h0]
      exact ⟨fun _ => ⟨h0, by omega⟩, fun _ => ⟨_, rfl⟩⟩
    · rw [if_neg h0]
      exact ⟨fun ⟨_, h⟩ => (nomatch h), fun h => absurd h.1 h0⟩

/-- `y` is `x < 2^m` with ones on `[m, n)` above it: adding `2^m` carries through the ones up to `2^n`.  Sign extension
    of a negative value is such a `y`, so its two's-complement value `y − 2^n` is `x − 2^m` (`signextend_sval`). -/
theorem ones_above (x m n : Nat) (hx : x < 2 ^ m) (hmn : m ≤ n) (y : Nat)
    (hy : ∀ q, y.testBit q = if q < m then x.testBit q else decide (q < n)) :
    y + 2 ^ m = x + 2 ^ n := by
  have : y = x ||| ((2 ^ (n - m) - 1) <<< m) := by
    apply Nat.eq_of_testBit_eq
    intro q
    rw [hy q]
    simp only [Nat.testBit_or, Nat.testBit_shiftLeft, Nat.testBit_two_pow_sub_one, ge_iff_le]
    by_cases hq : q < m
    · have : ¬ m ≤ q := by omega
      simp [hq, this]
    · have h1 : m ≤ q := by omega
      have h2 : decide (q - m < n - m) = decide (q < n) := by apply decide_eq_decide.2; omega
      simp [hq, h1, h2, testBit_of_lt hx h1]
  rw [this, Nat.or_comm, ← Nat.shiftLeft_add_eq_or_of_lt hx, Nat.shiftLeft_eq, Nat.sub_mul, Nat.one_mul,
    ← Nat.pow_add, Nat.sub_add_cancel hmn]
  have : 2 ^ m ≤ 2 ^ n := Nat.pow_le_pow_right (by omega) hmn
  omega

theorem signextend_sval (b : Bits) (hb : b.WF) (n : Nat) (r : Bits) (h : b.signextend n = .ok r) :
    sval r = sval b := by
  obtain ⟨hw, hsz, hbits⟩ := signextend_spec b hb n r h
  by_cases hn : n ≤ b.size
  · rw [signextend_eq, if_pos hn] at h
    injection h with h
    rw [h]
  · have h0 : 0 < b.size := by
      apply Nat.pos_of_ne_zero
      intro h0
      obtain ⟨e, he⟩ := (signextend_error_iff b n).2 ⟨h0, by omega⟩
      rw [he] at h
      cases h
    have hrs : r.size = n := by omega
    have htop : r.ival.testBit (r.size - 1) = b.ival.testBit (b.size - 1) := by
      rw [hbits, hrs, if_neg (by omega), decide_eq_true (by omega), Bool.true_and]
    unfold sval
    rw [htop]
    cases hs : b.ival.testBit (b.size - 1)
    · have : r.ival = b.ival := by
        apply Nat.eq_of_testBit_eq
        intro q
        rw [hbits q, hs]
        by_cases hq : q < b.size
        · simp [hq]
        · simp [hq, wf_testBit hb (Nat.le_of_not_lt hq)]
      simp [this]
    · have := ones_above b.ival b.size n hb (by omega) r.ival (by
        intro q; rw [hbits q, hs]; simp)
      simp only [↓reduceIte, hrs]
      have e1 : ((2 ^ n : Nat) : Int) = (2 : Int) ^ n := by simp
      have e2 : ((2 ^ b.size : Nat) : Int) = (2 : Int) ^ b.size := by simp
      omega

/-- a step of a history "fits" when a contiguous slice assignment is given a value below 2^(stop-start)
    (every other mutating operation either succeeds within the size or is refused by the code itself) -/
def Fits (b : Bits) : MutOp → Prop
  | .setSlice start stop step v =>
      ∀ s e st, sliceIndices start stop step b.size = .ok (s, e, st) → st = 1 → s < e → v.ival < 2 ^ (e - s).toNat
  | _ => True

def AllFit : Bits → List MutOp → Prop
  | _, [] => True
  | b, op :: ops => Fits b op ∧ ∀ b', b.applyOp op = .ok b' → AllFit b' ops

theorem AllFit.take {b : Bits} {ops : List MutOp} (h : AllFit b ops) (k : Nat) : AllFit b (ops.take k) := by
  induction ops generalizing b k with
  | nil => simpa using h
  | cons op ops ih =>
    cases k with
    | zero => trivial
    | succ k => exact ⟨h.1, fun b' hb' => ih (h.2 b' hb') k⟩

theorem concatList_bools (l : List Bits) (hl : ∀ p ∈ l, p.WF) (be : Bool) (r : Bits) (h : concatList l be = .ok r) :
    r.WF ∧ bools r = (if be then l.reverse else l).flatMap bools := by
  rw [concatList_eq] at h
  have hwf : ∀ p ∈ (if be then l.reverse else l), p.WF := fun p hp => hl p (Fold.mem_ite_reverse.1 hp)
  generalize (if be then l.reverse else l) = l' at h hwf
  cases l' with
  | nil => cases h
  | cons x xs =>
    obtain rfl := Except.ok.inj h
    exact bools_foldl_concat xs x (hwf x List.mem_cons_self)

theorem concatList_ok_spec (l : List Bits) (hl : ∀ p ∈ l, p.WF) (be : Bool) (r : Bits) (h : concatList l be = .ok r) :
    r.WF ∧ r.toBitList = (if be then l.reverse else l).flatMap toBitList := by
  refine ⟨(concatList_bools l hl be r h).1, ?_⟩
  rw [toBitList_eq_bools, (concatList_bools l hl be r h).2, List.map_flatMap]
  exact Fold.flatMap_congr_mem fun p _ => (toBitList_eq_bools p).symm

theorem concatList_isOk {l : List Bits} (hne : l ≠ []) (be : Bool) : ∃ r, concatList l be = .ok r := by
  rw [concatList_eq]
  cases hl : (if be then l.reverse else l) with
  | nil => cases be <;> simp_all
  | cons x xs => exact ⟨_, concatList_cons x xs⟩

theorem bools_pieces (b : Bits) (k : Nat) (hk : 0 < k) :
    ((List.range (npieces b k)).map (piece b k)).map bools = chunks k (bools b) := by
  rw [Bytes.chunks_eq_range_map k hk (bools b), Bytes.chunks_length k hk, length_bools, List.map_map]
  refine List.map_congr_left fun j _ => ?_
  -- piece j takes `min (jk + k) size − jk = min k (size − jk)` bits from position jk, which is all that `take k` finds there
  rw [Function.comp, piece, bools_sliceFast b _ _ (Nat.min_le_right _ _), Nat.add_comm, ← Nat.sub_min_sub_right,
    Nat.add_sub_cancel, List.take_eq_take_min (i := k), List.length_drop, length_bools]

/-- so splitting and concatenating again is `Bytes.chunks_flatten`.  An empty vector is excluded: it splits into `[]`, and
    `concat([])` raises. -/
theorem concatList_split (b : Bits) (hb : b.WF) (k : Nat) (hk : 0 < k) (hs : 0 < b.size) (be : Bool) :
    (b.split k be >>= fun l => concatList l be) = .ok b := by
  rw [split_eq b k hk be]
  show concatList _ be = _
  generalize hL : (List.range (npieces b k)).map (piece b k) = L
  have hne : (if be then L.reverse else L) ≠ [] := by
    have : L ≠ [] := List.ne_nil_of_length_pos (by rw [← hL]; simpa using (lt_npieces hk).2 (by simpa using hs))
    cases be <;> simpa using this
  have hwf : ∀ p ∈ (if be then L.reverse else L), p.WF := fun p hp => by
    obtain ⟨j, _, rfl⟩ := List.mem_map.1 (hL ▸ Fold.mem_ite_reverse.1 hp)
    exact sliceFast_wf _ _ _
  obtain ⟨r, hr⟩ := concatList_isOk hne be
  obtain ⟨hw, hbits⟩ := concatList_bools _ hwf be r hr
  rw [hr, eq_of_bools hw hb (hbits.trans ?_)]
  have hsel : (if be then (if be then L.reverse else L).reverse else (if be then L.reverse else L)) = L := by
    cases be <;> simp
  rw [hsel, ← hL, List.flatMap_def, bools_pieces b k hk, Bytes.chunks_flatten k hk]

theorem hw_eq (b : Bits) : b.hw = ((List.range b.size).filter fun i => b.ival.testBit i).length := by
  rw [hw, toBitList_eq_bools, bools, List.map_map, List.filter_map, List.length_map]
  congr 1
  apply List.filter_congr
  intro i _
  show decide ((b.ival.testBit i).toNat = 1) = b.ival.testBit i
  cases b.ival.testBit i <;> rfl

def cnt (x : Nat) : Nat → Nat
  | 0 => 0
  | n + 1 => cnt x n + (x.testBit n).toNat

theorem hw_eq_cnt (x n : Nat) : hw ⟨x, n⟩ = cnt x n := by
  rw [hw_eq]
  induction n with
  | zero => rfl
  | succ n ih =>
    rw [List.range_succ, List.filter_append, List.length_append, ih, cnt]
    cases h : x.testBit n <;> simp [List.filter, h]

theorem cnt_and_pow (v p n : Nat) : cnt (v &&& 2 ^ p) n = if p < n then (v.testBit p).toNat else 0 := by
  induction n with
  | zero => simp [cnt]
  | succ n ih =>
    rw [cnt, ih, Nat.testBit_and, Nat.testBit_two_pow]
    by_cases h1 : p < n
    · have h2 : p ≠ n := by omega
      have h3 : p < n + 1 := by omega
      simp [h1, h2, h3]
    · by_cases h2 : p = n
      · subst h2; simp
      · have h3 : ¬ (p < n + 1) := by omega
        simp [h1, h2, h3]

theorem cnt_or (a b n : Nat) (h : a &&& b = 0) : cnt (a ||| b) n = cnt a n + cnt b n := by
  induction n with
  | zero => simp [cnt]
  | succ n ih =>
    rw [cnt, cnt, cnt, ih, Nat.testBit_or]
    have hd : (a.testBit n && b.testBit n) = false := by
      rw [← Nat.testBit_and, h]; simp
    cases ha : a.testBit n <;> cases hb : b.testBit n <;> simp [ha, hb] at hd ⊢ <;> omega

theorem hw_split (n X r : Nat) (hr : r < 256) : hw ⟨r + 256 * X, 8 + n⟩ = hw ⟨r, 8⟩ + hw ⟨X, n⟩ := by
  simp only [hw_eq]
  rw [List.range_add, List.filter_append, List.length_append, List.filter_map, List.length_map]
  congr 2
  · apply List.filter_congr
    intro i hi
    rw [Bytes.byte_cons_testBit r X hr, if_pos (List.mem_range.mp hi)]
  · apply List.filter_congr
    intro i _
    rw [Function.comp, Bytes.byte_cons_testBit r X hr, if_neg (by omega), Nat.add_sub_cancel_left]

end Proofs.Lemmas.Bits
