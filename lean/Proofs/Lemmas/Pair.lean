/-
  A transformation together with the one that undoes it and with what a standard calls the two: the notion behind
  "every component pair of a block cipher is a pair of mutual inverses and refines its specification".  Pairs compose,
  and a list of rounds is undone by the inverse rounds in the opposite order, so a cipher built from layers is a pair
  once its layers are.
-/
import Proofs.Lemmas.Fold
namespace Proofs.Lemmas
open Proofs.Lemmas.Fold (ok_bind)

structure Pair {α : Type} (P : α → Prop) (f g f' g' : α → α) : Prop where
  st : ∀ {s}, P s → P (f s) ∧ P (g s)
  undo : ∀ {s}, P s → g (f s) = s ∧ f (g s) = s
  spec : ∀ {s}, P s → f s = f' s ∧ g s = g' s

namespace Pair
variable {α : Type} {P : α → Prop} {f g f' g' : α → α}

theorem symm (a : Pair P f g f' g') : Pair P g f g' f' :=
  ⟨fun h => (a.st h).symm, fun h => (a.undo h).symm, fun h => (a.spec h).symm⟩

theorem spec_undo (a : Pair P f g f' g') {s : α} (h : P s) : g' (f' s) = s ∧ f' (g' s) = s := by
  rw [← (a.spec h).1, ← (a.spec h).2, ← (a.spec (a.st h).1).2, ← (a.spec (a.st h).2).1]
  exact a.undo h

theorem self (st : ∀ {s}, P s → P (f s) ∧ P (g s)) (undo : ∀ {s}, P s → g (f s) = s ∧ f (g s) = s) : Pair P f g f g :=
  ⟨st, undo, fun _ => ⟨rfl, rfl⟩⟩

theorem refl : Pair P (fun s => s) (fun s => s) (fun s => s) (fun s => s) := .self (fun h => ⟨h, h⟩) fun _ => ⟨rfl, rfl⟩

theorem involution (st : ∀ {s}, P s → P (f s)) (undo : ∀ {s}, P s → f (f s) = s) (spec : ∀ {s}, P s → f s = f' s) :
    Pair P f f f' f' :=
  ⟨fun h => ⟨st h, st h⟩, fun h => ⟨undo h, undo h⟩, fun h => ⟨spec h, spec h⟩⟩

theorem comp {h k h' k' : α → α} (a : Pair P f g f' g') (b : Pair P h k h' k') :
    Pair P (fun s => h (f s)) (fun s => g (k s)) (fun s => h' (f' s)) (fun s => g' (k' s)) where
  st hs := ⟨(b.st (a.st hs).1).1, (a.st (b.st hs).2).2⟩
  undo hs := ⟨by rw [(b.undo (a.st hs).1).1, (a.undo hs).1], by rw [(a.undo (b.st hs).2).2, (b.undo hs).2]⟩
  spec hs := ⟨by rw [← (a.spec hs).1, (b.spec (a.st hs).1).1], by rw [← (b.spec hs).2, (a.spec (b.st hs).2).2]⟩

theorem foldl {ι : Type} {F G F' G' : α → ι → α} :
    ∀ rs : List ι, (∀ r ∈ rs, Pair P (F · r) (G · r) (F' · r) (G' · r)) →
      Pair P (rs.foldl F) (rs.reverse.foldl G) (rs.foldl F') (rs.reverse.foldl G')
  | [], _ => ⟨fun hs => ⟨hs, hs⟩, fun _ => ⟨rfl, rfl⟩, fun _ => ⟨rfl, rfl⟩⟩
  | r :: rs, h => by
    have e : ∀ H : α → ι → α, (r :: rs).reverse.foldl H = fun s => H (rs.reverse.foldl H s) r := fun H =>
      funext fun s => by
        rw [List.reverse_cons, List.foldl_append]
        rfl
    rw [e, e]
    exact (h r List.mem_cons_self).comp (foldl rs fun r' hr => h r' (List.mem_cons_of_mem _ hr))

theorem restrict {R : α → Prop} (a : Pair P f g f' g') (hp : ∀ {s}, R s → P s)
    (hr : ∀ {s}, R s → R (f s) ∧ R (g s)) : Pair R f g f' g' :=
  ⟨hr, fun h => a.undo (hp h), fun h => a.spec (hp h)⟩

theorem of_spec (st : ∀ {s}, P s → P (f s) ∧ P (g s)) (spec : ∀ {s}, P s → f s = f' s ∧ g s = g' s)
    (undo : ∀ {s}, P s → g' (f' s) = s ∧ f' (g' s) = s) : Pair P f g f' g' where
  st := st
  spec := spec
  undo h := ⟨by rw [(spec (st h).1).2, (spec h).1, (undo h).1], by rw [(spec (st h).2).1, (spec h).2, (undo h).2]⟩

theorem map {p : α → Prop} (a : Pair p f g f' g') :
    Pair (fun l : List α => ∀ b ∈ l, p b) (List.map f) (List.map g) (List.map f') (List.map g') where
  st h := ⟨List.forall_mem_map.mpr fun b hb => (a.st (h b hb)).1, List.forall_mem_map.mpr fun b hb => (a.st (h b hb)).2⟩
  undo {l} h := by
    rw [List.map_map, List.map_map]
    exact ⟨(List.map_congr_left fun b hb => (a.undo (h b hb)).1).trans (List.map_id l),
      (List.map_congr_left fun b hb => (a.undo (h b hb)).2).trans (List.map_id l)⟩
  spec h := ⟨List.map_congr_left fun b hb => (a.spec (h b hb)).1, List.map_congr_left fun b hb => (a.spec (h b hb)).2⟩

theorem exposed {ε : Type} {fE gE : α → Except ε α} (a : Pair P f g f' g')
    (hf : ∀ {s}, P s → fE s = .ok (f s)) (hg : ∀ {s}, P s → gE s = .ok (g s)) {s : α} (h : P s) :
    ((fE s >>= gE) = .ok s ∧ (gE s >>= fE) = .ok s) ∧ fE s = .ok (f' s) ∧ gE s = .ok (g' s) := by
  rw [hf h, hg h, ok_bind, ok_bind, hg (a.st h).1, hf (a.st h).2, (a.undo h).1, (a.undo h).2, (a.spec h).1, (a.spec h).2]
  exact ⟨⟨rfl, rfl⟩, rfl, rfl⟩

end Pair

end Proofs.Lemmas
