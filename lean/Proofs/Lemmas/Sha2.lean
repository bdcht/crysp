/- SHA-2: schedule, rounds and compression of the model equal FIPS 180-4, once for both word sizes -/
import Proofs.Lemmas.RoundFns
import Proofs.Lemmas.Parse
namespace Proofs.Lemmas.Sha2
open Model Model.Sha Model.Gen.Hashes Proofs.Lemmas.BitsBitVec Proofs.Lemmas.Fold Proofs.Lemmas.Parse Proofs.Lemmas.RoundFns

def embH {w} (s : Spec.Sha2.State w) : List Bits :=
  [ofBV s.1, ofBV s.2.1, ofBV s.2.2.1, ofBV s.2.2.2.1, ofBV s.2.2.2.2.1, ofBV s.2.2.2.2.2.1, ofBV s.2.2.2.2.2.2.1,
   ofBV s.2.2.2.2.2.2.2]
def emb8 {w} (s : Spec.Sha2.State w) : St8 :=
  (ofBV s.1, ofBV s.2.1, ofBV s.2.2.1, ofBV s.2.2.2.1, ofBV s.2.2.2.2.1, ofBV s.2.2.2.2.2.1, ofBV s.2.2.2.2.2.2.1,
   ofBV s.2.2.2.2.2.2.2)

/-- what ties a configuration of the model to a family of the standard -/
structure Link {w : Nat} (c : Sha2Cfg) (F : Spec.Sha2.Family w) : Prop where
  hw : c.wsize = w
  hN : sha2N c = F.rounds
  hN16 : 16 ≤ F.rounds
  hS0 : ∀ x : BitVec w, Sigma_0 c (ofBV x) = ofBV (F.Sigma0 x)
  hS1 : ∀ x : BitVec w, Sigma_1 c (ofBV x) = ofBV (F.Sigma1 x)
  hs0 : ∀ x : BitVec w, sigma_0 c (ofBV x) = ofBV (F.sigma0 x)
  hs1 : ∀ x : BitVec w, sigma_1 c (ofBV x) = ofBV (F.sigma1 x)
  hK : ∀ r, r < F.rounds → (sha2K c).getD r 0 = (F.K.getD r 0).toNat
  hKlen : ¬ (sha2K c).length < F.rounds

variable {w : Nat} {c : Sha2Cfg} {F : Spec.Sha2.Family w}

theorem expand_refines (L : Link c F) (W : List (BitVec w)) :
    sha2Expand c (W.map ofBV) = (Spec.Sha2.schedule F W).map ofBV := by
  obtain ⟨hw, hN, _, _, _, hs0, hs1, _, _⟩ := L
  subst hw
  unfold sha2Expand Spec.Sha2.schedule
  rw [List.range'_eq_map_range, List.foldl_map, hN]
  apply foldl_sim (fun W : List (BitVec c.wsize) => W.map ofBV)
  intro i _ W
  simp only [dflt, getD_map_ofBV, hs0, hs1, add_ofBV, List.map_append, List.map_cons, List.map_nil]

theorem round_refines (L : Link c F) (W : List (BitVec w)) (r : Nat) (hr : r < F.rounds) (s : Spec.Sha2.State w) :
    sha2Round c (W.map ofBV) (emb8 s) r = emb8 (Spec.Sha2.round F W s r) := by
  obtain ⟨hw, _, _, hS0, hS1, _, _, hK, _⟩ := L
  subst hw
  obtain ⟨a, b, cc, d, e, f, g, h⟩ := s
  simp only [sha2Round, emb8, Spec.Sha2.round, dflt, getD_map_ofBV, hS0, hS1, hK r hr, Ch_ofBV, Maj_ofBV,
    add_ofBV, addConst_ofBV]

theorem rounds_refines (L : Link c F) (W : List (BitVec w)) (s : Spec.Sha2.State w) :
    (List.range F.rounds).foldl (sha2Round c (W.map ofBV)) (emb8 s)
      = emb8 ((List.range F.rounds).foldl (Spec.Sha2.round F W) s) := by
  apply foldl_sim emb8
  intro i hi b
  exact round_refines L W i (List.mem_range.1 hi) b

theorem block_refines (L : Link c F) (H : Spec.Sha2.State w) (W : List (BitVec w)) (hW : W.length = 16) :
    sha2Block c (embH H) (W.map ofBV) = .ok (embH (Spec.Sha2.compressWords F H W)) := by
  obtain ⟨h0, h1, h2, h3, h4, h5, h6, h7⟩ := H
  have hr := rounds_refines L (Spec.Sha2.schedule F W) (h0, h1, h2, h3, h4, h5, h6, h7)
  have hN := L.hN
  have hKl := L.hKlen
  simp only [Spec.Sha2.compressWords]
  generalize (List.range F.rounds).foldl (Spec.Sha2.round F (Spec.Sha2.schedule F W)) (h0, h1, h2, h3, h4, h5, h6, h7) = R at hr ⊢
  obtain ⟨a, b, cc, d, e, f, g, h⟩ := R
  simp only [emb8] at hr
  simp only [sha2Block, embH, List.length_map, hW, ne_eq, not_true_eq_false, if_false, hN, hKl,
    expand_refines L W, hr, add_ofBV, BitVec.add_comm]

theorem compress_refines (L : Link c F) (hw8 : 8 ≤ w) (H : Spec.Sha2.State w) (blk : List Spec.Byte)
    (hb : blk.length = 16 * (w / 8)) :
    sha2Compress c (embH H) (toNatBytes blk) = .ok (embH (Spec.Sha2.compress F H blk)) := by
  have hl : (Spec.wordsBE w blk).length = 16 := by
    rw [wordsBE_length, hb]; exact Nat.mul_div_cancel _ (Nat.div_pos hw8 (by decide))
  rw [sha2Compress, L.hw]
  exact (bind_eq_of_ok (parseBE_refines w hw8 blk hb) _).trans (block_refines L H _ hl)

theorem K256_table : sha2K32 = Spec.Sha2.K256.map (·.toNat) := by decide +kernel
theorem K512_table : sha2K64 = Spec.Sha2.K512.map (·.toNat) := by decide +kernel

theorem K256_eq (r : Nat) : sha2K32.getD r 0 = (Spec.Sha2.K256.getD r 0).toNat := by
  rw [K256_table]
  exact getD_map _ _ r 0

theorem K512_eq (r : Nat) : sha2K64.getD r 0 = (Spec.Sha2.K512.getD r 0).toNat := by
  rw [K512_table]
  exact getD_map _ _ r 0

theorem link32 (c : Sha2Cfg) (h1 : c.wsize = 32) (h2 : ¬ c.size > 256) : Link c Spec.Sha2.fam256 where
  hw := h1
  hN := by simp [sha2N, h2, Spec.Sha2.fam256]
  hN16 := by decide
  hS0 := fun x => by simp only [Sigma_0, h1, if_true]; exact Sigma_0_32_ofBV x
  hS1 := fun x => by simp only [Sigma_1, h1, if_true]; exact Sigma_1_32_ofBV x
  hs0 := fun x => by simp only [sigma_0, h1, if_true]; exact sigma_0_32_ofBV x
  hs1 := fun x => by simp only [sigma_1, h1, if_true]; exact sigma_1_32_ofBV x
  hK := fun r _ => by simp only [sha2K, h1, if_true]; exact K256_eq r
  hKlen := by simp only [sha2K, h1, if_true]; decide

theorem link64 (c : Sha2Cfg) (h1 : c.wsize = 64) (h2 : c.size > 256) : Link c Spec.Sha2.fam512 where
  hw := h1
  hN := by simp [sha2N, h2, Spec.Sha2.fam512]
  hN16 := by decide
  hS0 := fun x => by simp only [Sigma_0, h1]; exact Sigma_0_64_ofBV x
  hS1 := fun x => by simp only [Sigma_1, h1]; exact Sigma_1_64_ofBV x
  hs0 := fun x => by simp only [sigma_0, h1]; exact sigma_0_64_ofBV x
  hs1 := fun x => by simp only [sigma_1, h1]; exact sigma_1_64_ofBV x
  hK := fun r _ => by simp only [sha2K, h1]; exact K512_eq r
  hKlen := by simp only [sha2K, h1]; decide

end Proofs.Lemmas.Sha2
