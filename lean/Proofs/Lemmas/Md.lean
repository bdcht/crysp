/- MD4 / MD5, the part they share: the state embedding, a block parsed into sixteen little-endian words, and the loop of
   the code (which rotates the tuple a,b,c,d) against the loop of the RFCs (which rotates the roles), over an abstract
   operation. -/
import Model.Md
import Proofs.Lemmas.RoundFns
import Proofs.Lemmas.Parse
import Proofs.Lemmas.BitsConv
namespace Proofs.Lemmas.Md
open Model Model.Py Model.Md Model.Gen.Hashes Proofs.Lemmas.BitsBitVec Proofs.Lemmas.Fold Proofs.Lemmas.Parse Proofs.Lemmas.RoundFns

abbrev State := Spec.Md4.State   -- = Spec.Md5.State

def embH (s : State) : List Bits := [ofBV s.1, ofBV s.2.1, ofBV s.2.2.1, ofBV s.2.2.2]
def emb4 (s : State) : St4 := (ofBV s.1, ofBV s.2.1, ofBV s.2.2.1, ofBV s.2.2.2)

/-! ### little-endian parsing: Bits(B,bitorder=1).split(32) -/

theorem leInt_lt (s : List Nat) (hs : ∀ x ∈ s, x < 256) : leInt s < 2 ^ (8 * s.length) :=
  Bytes.leInt_lt s hs

theorem parseLE_refines (blk : List Spec.Byte) (h : blk.length = 64) :
    parseLE (toNatBytes blk) = .ok ((Spec.wordsLE 32 blk).map ofBV) := by
  have hs := toNatBytes_lt blk
  simp only [parseLE, Bits.ofBytes_le_eq _ hs, bind, Except.bind]
  rw [Bits.split_leInt _ hs 4 16 (by decide) (by simp [h])]
  simp only [Spec.wordsLE, Spec.groups, h, List.map_map]
  congr 1
  apply List.map_congr_left
  intro j _
  simp only [Function.comp, toNatBytes, Fold.drop_take_map]
  rw [← toNatBytes, leInt_toNatBytes, Nat.mul_comm j]

/-- `Spec.Md4.step` / `Spec.Md5.step` over an abstract operation: the roles ABCD, DABC, CDAB, BCDA in turn -/
def stepOf (op : Nat → BitVec 32 → BitVec 32 → BitVec 32 → BitVec 32 → BitVec 32) (s : State) (i : Nat) : State :=
  match i % 4 with
  | 0 => (op i s.1 s.2.1 s.2.2.1 s.2.2.2, s.2.1, s.2.2.1, s.2.2.2)
  | 1 => (s.1, s.2.1, s.2.2.1, op i s.2.2.2 s.1 s.2.1 s.2.2.1)
  | 2 => (s.1, s.2.1, op i s.2.2.1 s.2.2.2 s.1 s.2.1, s.2.2.2)
  | _ => (s.1, op i s.2.1 s.2.2.1 s.2.2.2 s.1, s.2.2.1, s.2.2.2)

def rot (j : Nat) (s : State) : State :=
  match j % 4 with
  | 0 => (s.1, s.2.1, s.2.2.1, s.2.2.2)
  | 1 => (s.2.2.2, s.1, s.2.1, s.2.2.1)
  | 2 => (s.2.2.1, s.2.2.2, s.1, s.2.1)
  | _ => (s.2.1, s.2.2.1, s.2.2.2, s.1)

theorem rot_step (op : Nat → BitVec 32 → BitVec 32 → BitVec 32 → BitVec 32 → BitVec 32) (s : State) (i : Nat) :
    rot (i + 1) (stepOf op s i) =
      ((rot i s).2.2.2, op i (rot i s).1 (rot i s).2.1 (rot i s).2.2.1 (rot i s).2.2.2, (rot i s).2.1, (rot i s).2.2.1) := by
  have h4 : i % 4 = 0 ∨ i % 4 = 1 ∨ i % 4 = 2 ∨ i % 4 = 3 := by omega
  rcases h4 with h | h | h | h
  · have h' : (i + 1) % 4 = 1 := by omega
    simp only [rot, stepOf, h, h']
  · have h' : (i + 1) % 4 = 2 := by omega
    simp only [rot, stepOf, h, h']
  · have h' : (i + 1) % 4 = 3 := by omega
    simp only [rot, stepOf, h, h']
  · have h' : (i + 1) % 4 = 0 := by omega
    simp only [rot, stepOf, h, h']

theorem loop_refines (op : Nat → BitVec 32 → BitVec 32 → BitVec 32 → BitVec 32 → BitVec 32)
    (round : St4 → Nat → St4) (n : Nat) (hn : n % 4 = 0)
    (hround : ∀ i, i < n → ∀ a b c d : BitVec 32,
      round (emb4 (a, b, c, d)) i = emb4 (d, op i a b c d, b, c))
    (s : State) :
    (List.range n).foldl round (emb4 s) = emb4 ((List.range n).foldl (stepOf op) s) := by
  have key := foldl_range_rel (fun j (m : St4) (t : State) => m = emb4 (rot j t)) round (stepOf op) n (emb4 s) s rfl
    (by
      intro i hi m t hm
      subst hm
      rw [rot_step op t i]
      exact hround i hi _ _ _ _)
  rw [key]
  simp only [rot, hn]

end Proofs.Lemmas.Md
