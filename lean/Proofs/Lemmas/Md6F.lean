/-
  Lemmas for C17: the model's compression loop, on `Bits` words of size 64, is simulated by the specification's on
  `BitVec 64`; a specification word `x` is the `Bits` value `ofBV x` the code holds.
-/
import Model.Md6
import Spec.Md6
import Proofs.Lemmas.BitsBitVec
import Proofs.Lemmas.Fold

namespace Proofs.Lemmas.Md6F
open Model Model.Md6 Proofs.Lemmas.BitsBitVec

theorem nextS_ofBV (s : BitVec 64) :
    ((ofBV s).rol! Gen.Md6.Srot).xor ((ofBV s).and (Bits.ofNat Gen.Md6.Smask)) = ofBV (Spec.Md6.nextS s) := by
  rw [show Gen.Md6.Smask = Spec.Md6.Sstar.toNat from rfl, andConst_ofBV, rol!_ofBV s _ (by decide), xor_ofBV]
  rfl

/-- the simulation invariant after `s` of `t` steps: the model's array `A` (the 89 input words as the caller passed
    them, then `t` slots) against the specification's growing array.  The words computed so far agree modulo 2^64
    (`hA`; the input words may be larger and are only ever read through `e`, which reduces them), everything from
    slot 89 on is below 2^64 (`hlt`), and S and the position j in the shift tables agree. -/
structure FInv (t s : Nat) (st : FState) (sp : Array Spec.Md6.Word × Spec.Md6.Word) : Prop where
  msize : st.A.size = 89 + t
  ssize : sp.1.size = 89 + s
  hS : st.S = ofBV sp.2
  hj : st.j = s % 16
  hA : ∀ k, k < 89 + s → st.A.getD k 0 % 2 ^ 64 = (sp.1.getD k 0).toNat
  hlt : ∀ k, 89 ≤ k → st.A.getD k 0 < 2 ^ 64

theorem e_eq {t s : Nat} {st : FState} {sp} (h : FInv t s st sp) (k : Nat) (hk : k < 89 + s) :
    e st.A k = ofBV (sp.1.getD k 0) := by
  unfold e
  rw [ofNatSz_eq]
  congr 1
  apply BitVec.eq_of_toNat_eq
  rw [BitVec.toNat_ofNat, h.hA k hk]

theorem rin_eq : Gen.Md6.rin = Spec.Md6.rshift := by decide
theorem lin_eq : Gen.Md6.lin = Spec.Md6.lshift := by decide

theorem fVal_eq {t s : Nat} {st : FState} {sp} (h : FInv t s st sp) :
    fVal 89 st.A st.S st.j (89 + s) = ofBV (Spec.Md6.stepVal sp.2 s sp.1) := by
  have e0 := e_eq h (89 + s - 89) (by omega)
  have e1 := e_eq h (89 + s - 17) (by omega)
  have e2 := e_eq h (89 + s - 18) (by omega)
  have e3 := e_eq h (89 + s - 21) (by omega)
  have e4 := e_eq h (89 + s - 31) (by omega)
  have e5 := e_eq h (89 + s - 67) (by omega)
  have hr : Gen.Md6.rin.getD st.j 0 = Spec.Md6.rshift.getD (s % 16) 0 := by rw [rin_eq, h.hj]
  have hl : Gen.Md6.lin.getD st.j 0 = Spec.Md6.lshift.getD (s % 16) 0 := by rw [lin_eq, h.hj]
  simp only [fVal, Spec.Md6.stepVal, e0, e1, e2, e3, e4, e5, h.hS, xor_ofBV, and_ofBV, shr_ofBV, shl_ofBV, hr, hl, h.ssize,
    Spec.Md6.n, Spec.Md6.t0, Spec.Md6.t1, Spec.Md6.t2, Spec.Md6.t3, Spec.Md6.t4,
    Gen.Md6.t0, Gen.Md6.t1, Gen.Md6.t2, Gen.Md6.t3, Gen.Md6.t4]

theorem step_inv {t s : Nat} {st : FState} {sp} (h : FInv t s st sp) (hs : s < t) :
    FInv t (s + 1) (fStep 89 st (89 + s)) (Spec.Md6.step sp s) := by
  have hv := fVal_eq h
  obtain ⟨A, S, j⟩ := st
  obtain ⟨B, T⟩ := sp
  have hS : S = ofBV T := h.hS
  have hj : j = s % 16 := h.hj
  have hB : B.size = 89 + s := h.ssize
  have hAsz : A.size = 89 + t := h.msize
  simp only at hv
  subst hS
  simp only [fStep, Spec.Md6.step, hv, ofBV_ival, BitVec.toNat_mod_cancel, nextS_ofBV]
  have hjw : (j + 1 = Gen.Md6.jWrap) ↔ s % 16 = 15 := by simp [Gen.Md6.jWrap]; omega
  have key : ∀ (S' : Bits) (T' : Spec.Md6.Word) (j' : Nat), S' = ofBV T' → j' = (s + 1) % 16 →
      FInv t (s + 1) ⟨A.setIfInBounds (89 + s) (Spec.Md6.stepVal T s B).toNat, S', j'⟩
        (B.push (Spec.Md6.stepVal T s B), T') := by
    intro S' T' j' h1 h2
    refine ⟨by simp [hAsz], by simp [hB]; omega, h1, h2, ?_, ?_⟩
    · intro k hk
      simp only [Array.getD_eq_getD_getElem?, Array.getElem?_setIfInBounds, Array.getElem?_push, hB, hAsz]
      by_cases hk2 : k = 89 + s
      · subst hk2
        simp [hs, Nat.mod_eq_of_lt (BitVec.isLt _)]
      · have := h.hA k (by omega)
        simp only [Array.getD_eq_getD_getElem?] at this
        simp [hk2, Ne.symm hk2, this]
    · intro k hk
      simp only [Array.getD_eq_getD_getElem?, Array.getElem?_setIfInBounds, hAsz]
      by_cases hk2 : 89 + s = k
      · simp [hk2]; split
        · exact BitVec.isLt _
        · simp
      · have := h.hlt k hk
        simp only [Array.getD_eq_getD_getElem?] at this
        simp [hk2, this]
  by_cases hw : s % 16 = 15
  · rw [if_pos (hjw.2 hw), if_pos hw]; refine key _ _ _ rfl ?_; omega
  · rw [if_neg (fun h' => hw (hjw.1 h')), if_neg hw]; refine key _ _ _ rfl ?_; omega

theorem S0_toNat : Gen.Md6.S0 = Spec.Md6.S0.toNat := by decide

theorem S0_eq : Bits.ofNatSz Gen.Md6.S0 64 = ofBV Spec.Md6.S0 := by
  rw [S0_toNat, ofNatSz_eq, BitVec.ofNat_toNat, BitVec.setWidth_eq]

theorem init_inv (t : Nat) (ht : t ≠ 0) (N : List Nat) (hN : N.length = 89) :
    FInv t 0 ⟨(N ++ (if t = 0 then [0] else List.replicate t 0)).toArray, Bits.ofNatSz Gen.Md6.S0 64, 0⟩
      ((N.map (BitVec.ofNat 64)).toArray, Spec.Md6.S0) := by
  refine ⟨by simp [ht, hN], by simp [hN], S0_eq, rfl, ?_, ?_⟩
  · intro k hk
    simp only [if_neg ht, Array.getD_eq_getD_getElem?, List.getElem?_toArray]
    have hk' : k < N.length := by omega
    simp [List.getElem?_append_left hk', List.getElem?_eq_getElem hk']
  · intro k hk
    simp only [if_neg ht, Array.getD_eq_getD_getElem?, List.getElem?_toArray]
    have hk' : N.length ≤ k := by omega
    rw [List.getElem?_append_right hk']
    by_cases h : k - N.length < t
    · simp [h]
    · simp [h]

theorem f_refines' (r : Nat) (hr : 1 ≤ r) (N : List Nat) (hN : N.length = 89) :
    Model.Md6.f r N = (Spec.Md6.compress r (N.map (BitVec.ofNat 64))).map (·.toNat) := by
  have ht : Gen.Md6.stepsPerRound * r = 16 * r := rfl
  have ht0 : 16 * r ≠ 0 := by omega
  unfold Model.Md6.f Spec.Md6.compress
  simp only [ht, hN]
  have hfin := Fold.foldl_range_rel (FInv (16 * r)) (fun st s => fStep 89 st (89 + s)) Spec.Md6.step (16 * r) _ _
    (init_inv (16 * r) ht0 N hN) (fun s hs a b h => step_inv h hs)
  generalize (List.range (16 * r)).foldl (fun st s => fStep 89 st (89 + s)) _ = st at hfin ⊢
  generalize (List.range (16 * r)).foldl Spec.Md6.step _ = sp at hfin ⊢
  simp only [hfin.msize, hfin.ssize, Gen.Md6.cWords, Spec.Md6.c]
  apply List.ext_getElem
  · simp [hfin.msize, hfin.ssize]
  · intro i h1 h2
    simp only [List.getElem_drop, List.getElem_map, Array.getElem_toList]
    have hk : 89 + 16 * r - 16 + i < 89 + 16 * r := by
      simp [hfin.msize] at h1; omega
    have a1 := hfin.hA _ hk
    have a2 := hfin.hlt (89 + 16 * r - 16 + i) (by omega)
    rw [Nat.mod_eq_of_lt a2] at a1
    simp only [Array.getD_eq_getD_getElem?] at a1
    rw [Array.getElem?_eq_getElem (by rw [hfin.msize]; exact hk), Array.getElem?_eq_getElem (by rw [hfin.ssize]; exact hk)] at a1
    simpa using a1

end Proofs.Lemmas.Md6F
