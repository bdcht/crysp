/-
  GF(2^8) as FIPS 197 defines it (Spec.Aes.gfmul), and the S-box built on it.  The product is xor-additive in each
  argument, so an identity between (multi)additive maps is checked on tuples of the 8 basis bytes 2^k: bytes are a
  commutative ring under (xor, gfmul).  Squaring is additive, so b^256 = b, and b·b·`gfinv b` = b^256.  Every non-zero
  byte has an inverse (`sboxT_unit`, the candidate read off Fig. 7 of FIPS 197) and inverses are unique, so the same
  products say what `gfinv` is on every byte, hence that the figures tabulate `sbox` and `invSbox`.
-/
import Spec.Aes
import Proofs.Lemmas.BitsBasic
namespace Proofs.Aes
open Spec.Aes
open Proofs.Lemmas.Bits (ite_bxor ite_xor_right xorAdd_zero xorAdd_ext xor_span_induction)

theorem coef_mul (p i v : Nat) : coef p i * v = if p.testBit i then v else 0 := by
  unfold coef
  rw [Nat.testBit_eq_decide_div_mod_eq, Nat.shiftRight_eq_div_pow]
  rcases Nat.mod_two_eq_zero_or_one (p / 2 ^ i) with h | h <;> simp [h]

theorem clmul_xor_left (x y c : Nat) (n : Nat) : clmul (x ^^^ y) c n = clmul x c n ^^^ clmul y c n := by
  induction n with
  | zero => simp [clmul]
  | succ i ih =>
    simp only [clmul, ih, coef_mul, Nat.shiftLeft_xor_distrib, ite_xor_right]
    ac_rfl

theorem clmul_xor_right (c x y : Nat) (n : Nat) : clmul c (x ^^^ y) n = clmul c x n ^^^ clmul c y n := by
  induction n with
  | zero => simp [clmul]
  | succ i ih =>
    simp only [clmul, ih, coef_mul, Nat.testBit_xor, ite_bxor]
    ac_rfl

theorem reduce_xor (p q : Nat) (n : Nat) : reduce (p ^^^ q) n = reduce p n ^^^ reduce q n := by
  induction n generalizing p q with
  | zero => rfl
  | succ i ih =>
    simp only [reduce]
    rw [← ih]
    congr 1
    simp only [coef_mul, Nat.testBit_xor, ite_bxor]
    ac_rfl

theorem gfmul_xor_left (x y c : Nat) : gfmul (x ^^^ y) c = gfmul x c ^^^ gfmul y c := by
  simp only [gfmul, clmul_xor_left, reduce_xor]

theorem gfmul_xor_right (c x y : Nat) : gfmul c (x ^^^ y) = gfmul c x ^^^ gfmul c y := by
  simp only [gfmul, clmul_xor_right, reduce_xor]

theorem xtime_xor (x y : Nat) : xtime (x ^^^ y) = xtime x ^^^ xtime y := by
  simp only [xtime, coef_mul, Nat.testBit_xor, ite_bxor, Nat.shiftLeft_xor_distrib]
  ac_rfl

theorem gfmul_zero_left (c : Nat) : gfmul 0 c = 0 :=
  xorAdd_zero (f := fun x => gfmul x c) fun x y => gfmul_xor_left x y c

theorem gfmul_zero_right (c : Nat) : gfmul c 0 = 0 := xorAdd_zero (gfmul_xor_right c)

theorem gfmul_lt {x y : Nat} (hx : x < 256) (hy : y < 256) : gfmul x y < 256 := by
  refine xor_span_induction (P := fun x => gfmul x y < 256) ?_ ?_ 8 ?_ x hx
  · rw [gfmul_zero_left]
    decide
  · intro a b ha hb
    rw [gfmul_xor_left]
    exact Nat.xor_lt_two_pow (n := 8) ha hb
  · intro k hk
    refine xor_span_induction (P := fun y => gfmul (2 ^ k) y < 256) ?_ ?_ 8 ?_ y hy
    · rw [gfmul_zero_right]
      decide
    · intro a b ha hb
      rw [gfmul_xor_right]
      exact Nat.xor_lt_two_pow (n := 8) ha hb
    · revert k
      decide +kernel

theorem gfmul_comm {x y : Nat} (hx : x < 256) (hy : y < 256) : gfmul x y = gfmul y x := by
  refine xorAdd_ext (f := fun x => gfmul x y) (g := fun x => gfmul y x)
    (fun a b => gfmul_xor_left a b y) (gfmul_xor_right y) 8 (fun k hk => ?_) x hx
  refine xorAdd_ext (f := gfmul (2 ^ k)) (g := fun y => gfmul y (2 ^ k))
    (gfmul_xor_right _) (fun a b => gfmul_xor_left a b _) 8 ?_ y hy
  revert k
  decide +kernel

theorem gfmul_assoc {x y z : Nat} (hx : x < 256) (hy : y < 256) (hz : z < 256) :
    gfmul (gfmul x y) z = gfmul x (gfmul y z) := by
  refine xorAdd_ext (f := fun x => gfmul (gfmul x y) z) (g := fun x => gfmul x (gfmul y z))
    (fun a b => by simp only [gfmul_xor_left]) (fun a b => by simp only [gfmul_xor_left]) 8 (fun i hi => ?_) x hx
  refine xorAdd_ext (f := fun y => gfmul (gfmul (2 ^ i) y) z) (g := fun y => gfmul (2 ^ i) (gfmul y z))
    (fun a b => by simp only [gfmul_xor_left, gfmul_xor_right])
    (fun a b => by simp only [gfmul_xor_left, gfmul_xor_right]) 8 (fun j hj => ?_) y hy
  refine xorAdd_ext (f := gfmul (gfmul (2 ^ i) (2 ^ j))) (g := fun z => gfmul (2 ^ i) (gfmul (2 ^ j) z))
    (gfmul_xor_right _) (fun a b => by simp only [gfmul_xor_right]) 8 ?_ z hz
  revert i j
  decide +kernel

theorem gfmul_one_right : ∀ x < 256, gfmul x 1 = x :=
  xorAdd_ext (fun a b => gfmul_xor_left a b 1) (fun _ _ => rfl) 8 (by decide +kernel)

theorem gfmul_one_left : ∀ x < 256, gfmul 1 x = x :=
  xorAdd_ext (gfmul_xor_right 1) (fun _ _ => rfl) 8 (by decide +kernel)

theorem xtime_eq_gfmul : ∀ x < 256, xtime x = gfmul 2 x :=
  xorAdd_ext xtime_xor (gfmul_xor_right 2) 8 (by decide +kernel)

theorem gfsq_lt {b : Nat} (hb : b < 256) : gfsq b < 256 := gfmul_lt hb hb

/-- the cross terms x·y and y·x cancel -/
theorem gfsq_xor {x y : Nat} (hx : x < 256) (hy : y < 256) : gfsq (x ^^^ y) = gfsq x ^^^ gfsq y := by
  unfold gfsq
  rw [gfmul_xor_left, gfmul_xor_right, gfmul_xor_right, gfmul_comm hy hx, Nat.xor_assoc,
    ← Nat.xor_assoc (gfmul x y), Nat.xor_self, Nat.zero_xor]

theorem gfsq_repeat_lt (k : Nat) {x : Nat} (hx : x < 256) : Nat.repeat gfsq k x < 256 := by
  induction k with
  | zero => exact hx
  | succ k ih => exact gfsq_lt ih

theorem gfsq_repeat_xor (k : Nat) {x y : Nat} (hx : x < 256) (hy : y < 256) :
    Nat.repeat gfsq k (x ^^^ y) = Nat.repeat gfsq k x ^^^ Nat.repeat gfsq k y := by
  induction k with
  | zero => rfl
  | succ k ih => exact (congrArg gfsq ih).trans (gfsq_xor (gfsq_repeat_lt k hx) (gfsq_repeat_lt k hy))

/-- b^256 = b: squaring is additive, so the 8 basis bytes decide -/
theorem gfsq_repeat_8 {b : Nat} (hb : b < 256) : Nat.repeat gfsq 8 b = b :=
  (xor_span_induction (P := fun b => b < 256 ∧ Nat.repeat gfsq 8 b = b) (by decide +kernel)
    (fun x y hx hy => ⟨Nat.xor_lt_two_pow (n := 8) hx.1 hy.1, by rw [gfsq_repeat_xor 8 hx.1 hy.1, hx.2, hy.2]⟩) 8
    (by decide +kernel) b hb).2

/-- b^254 is a byte, and b·b·b^254 = b^256 = b: the product b^2·b^4·…·b^128 is folded up from the left,
    b^(2^i)·(b^(2^i)·r) = b^(2^(i+1))·r -/
theorem gfinv_fermat {b : Nat} (hb : b < 256) : gfinv b < 256 ∧ gfmul b (gfmul b (gfinv b)) = b := by
  have sq : ∀ {x r}, x < 256 → r < 256 → gfmul x (gfmul x r) = gfmul (gfsq x) r := fun hx hr =>
    (gfmul_assoc hx hx hr).symm
  have h2 := gfsq_lt hb
  have h4 := gfsq_lt h2
  have h8 := gfsq_lt h4
  have h16 := gfsq_lt h8
  have h32 := gfsq_lt h16
  have h64 := gfsq_lt h32
  have r64 := gfmul_lt h64 (gfsq_lt h64)
  have r32 := gfmul_lt h32 r64
  have r16 := gfmul_lt h16 r32
  have r8 := gfmul_lt h8 r16
  have r4 := gfmul_lt h4 r8
  refine ⟨gfmul_lt h2 r4, ?_⟩
  simp only [gfinv]
  rw [sq hb (gfmul_lt h2 r4), sq h2 r4, sq h4 r8, sq h8 r16, sq h16 r32, sq h32 r64, sq h64 (gfsq_lt h64)]
  show Nat.repeat gfsq 8 b = b
  exact gfsq_repeat_8 hb

theorem gfinv_unique {b c : Nat} (hb : b < 256) (hc : c < 256) (h : gfmul b c = 1) : gfinv b = c := by
  obtain ⟨hg, f⟩ := gfinv_fermat hb
  have hbg := gfmul_lt hb hg
  have h' : gfmul c b = 1 := (gfmul_comm hc hb).trans h
  calc gfinv b = gfmul (gfmul c b) (gfinv b) := by rw [h', gfmul_one_left _ hg]
    _ = gfmul c (gfmul (gfmul c b) (gfmul b (gfinv b))) := by rw [gfmul_assoc hc hb hg, h', gfmul_one_left _ hbg]
    _ = gfmul c (gfmul c (gfmul b (gfmul b (gfinv b)))) := by rw [gfmul_assoc hc hb hbg]
    _ = c := by rw [f, h', gfmul_one_right c hc]

theorem gfinv_lt {b : Nat} (hb : b < 256) : gfinv b < 256 := (gfinv_fermat hb).1

theorem affine_invAffine :
    ∀ b < 256, invAffine (affine b) = b ∧ affine (invAffine b) = b ∧ invAffine b < 256 := by decide +kernel

/-- the S-box (FIPS 197 Fig. 7) and the inverse S-box (Fig. 14), entry b in bits 8·(255-b) … 8·(255-b)+7: the hex
    digits read in the order of the figures -/
def sboxT : Nat :=
  0x637c777bf26b6fc53001672bfed7ab76ca82c97dfa5947f0add4a2af9ca472c0b7fd9326363ff7cc34a5e5f171d8311504c723c31896059a071280e2eb27b27509832c1a1b6e5aa0523bd6b329e32f8453d100ed20fcb15b6acbbe394a4c58cfd0efaafb434d338545f9027f503c9fa851a3408f929d38f5bcb6da2110fff3d2cd0c13ec5f974417c4a77e3d645d197360814fdc222a908846eeb814de5e0bdbe0323a0a4906245cc2d3ac629195e479e7c8376d8dd54ea96c56f4ea657aae08ba78252e1ca6b4c6e8dd741f4bbd8b8a703eb5664803f60e613557b986c11d9ee1f8981169d98e949b1e87e9ce5528df8ca1890dbfe6426841992d0fb054bb16
def invSboxT : Nat :=
  0x52096ad53036a538bf40a39e81f3d7fb7ce339829b2fff87348e4344c4dee9cb547b9432a6c2233dee4c950b42fac34e082ea16628d924b2765ba2496d8bd12572f8f66486689816d4a45ccc5d65b6926c704850fdedb9da5e154657a78d9d8490d8ab008cbcd30af7e45805b8b34506d02c1e8fca3f0f02c1afbd0301138a6b3a9111414f67dcea97f2cfcef0b4e67396ac7422e7ad3585e2f937e81c75df6e47f11a711d29c5896fb7620eaa18be1bfc563e4bc6d279209adbc0fe78cd5af41fdda8338807c731b11210592780ec5f60517fa919b54a0d2de57a9f93c99cefa0e03b4dae2af5b0c8ebbb3c83539961172b047eba77d626e169146355210c7d

def entry (t b : Nat) : Nat := (t >>> (8 * (255 - b))) % 256

theorem entry_lt (t b : Nat) : entry t b < 256 := Nat.mod_lt _ (by decide)

theorem sboxT_unit : ∀ b < 256, b ≠ 0 → gfmul b (invAffine (entry sboxT b)) = 1 := by decide +kernel

theorem gfinv_eq : ∀ b < 256, gfinv b = invAffine (entry sboxT b) := fun b hb => by
  by_cases h0 : b = 0
  · rw [h0]
    decide +kernel
  · exact gfinv_unique hb (affine_invAffine _ (entry_lt sboxT b)).2.2 (sboxT_unit b hb h0)

theorem gfmul_gfinv : ∀ b < 256, gfmul b (gfinv b) = if b = 0 then 0 else 1 := fun b hb => by
  split
  · next h0 => rw [h0, gfmul_zero_left]
  · next h0 =>
    rw [gfinv_eq b hb]
    exact sboxT_unit b hb h0

theorem gfinv_gfinv {b : Nat} (hb : b < 256) : gfinv (gfinv b) = b := by
  by_cases h0 : b = 0
  · rw [h0]
    decide +kernel
  · have h := gfmul_gfinv b hb
    rw [if_neg h0] at h
    exact gfinv_unique (gfinv_lt hb) hb ((gfmul_comm (gfinv_lt hb) hb).trans h)

theorem spec_invSbox_sbox {b : Nat} (hb : b < 256) : invSbox (sbox b) = b ∧ sbox (invSbox b) = b := by
  obtain ⟨_, h2, h3⟩ := affine_invAffine b hb
  unfold invSbox sbox
  rw [(affine_invAffine _ (gfinv_lt hb)).1, gfinv_gfinv hb, gfinv_gfinv h3, h2]
  exact ⟨rfl, rfl⟩

theorem sboxT_eq : ∀ b < 256, sbox b = entry sboxT b := fun b hb => by
  rw [sbox, gfinv_eq b hb, (affine_invAffine _ (entry_lt sboxT b)).2.1]

theorem tables_inv : ∀ b < 256, entry invSboxT (entry sboxT b) = b := by decide +kernel

/-- Fig. 14 undoes Fig. 7, and every byte is a value of the S-box -/
theorem invSboxT_eq : ∀ b < 256, invSbox b = entry invSboxT b := fun b hb => by
  have hi : invSbox b < 256 := gfinv_lt (affine_invAffine b hb).2.2
  rw [← tables_inv _ hi, ← sboxT_eq _ hi, (spec_invSbox_sbox hb).2]

end Proofs.Aes
