/-
  The bitslice linear transformation as a composition of five word-level steps.  Each step keeps 32-bit words, is
  xor-linear, and has an inverse step; `lt` gets all three by composition (`lin_lt`, `inv_lt`), and a map that undoes an
  xor-linear one is xor-linear (`Lin.inv`), which is how SerpentStdLin.lean gets `ltInv`.
  The namespace is that of SerpentStdLin.lean, which continues it.
-/
import Proofs.Lemmas.SerpentSpec
namespace Proofs.Lemmas.SerpentStdLin
open Spec.Serpent Proofs.Lemmas.SerpentBits Proofs.Lemmas.SerpentSpec

theorem testBit_rotl (a n j : Nat) (hn : n ≤ 32) (ha : a < 2 ^ 32) (hj : j < 32) :
    (rotl a n).testBit j = a.testBit ((j + 32 - n) % 32) := by
  have h := Bits.rol!_testBit (W a) ha n hn j hj
  rwa [W_rol! a n] at h

theorem rotl_xor (a b n : Nat) (hn : n ≤ 32) (ha : a < 2 ^ 32) (hb : b < 2 ^ 32) :
    rotl (a ^^^ b) n = rotl a n ^^^ rotl b n := by
  apply Nat.eq_of_testBit_eq; intro j
  by_cases hj : j < 32
  · rw [Nat.testBit_xor, testBit_rotl _ n j hn (Nat.xor_lt_two_pow ha hb) hj, testBit_rotl a n j hn ha hj,
      testBit_rotl b n j hn hb hj, Nat.testBit_xor]
  · have hh : ∀ x, (rotl x n).testBit j = false := fun x => Bits.testBit_of_lt (rotl_lt x n) (Nat.le_of_not_lt hj)
    rw [Nat.testBit_xor, hh, hh, hh]
    rfl

theorem shl_xor (a b n : Nat) : shl (a ^^^ b) n = shl a n ^^^ shl b n := by
  unfold shl
  rw [Nat.shiftLeft_xor_distrib, Nat.xor_mod_two_pow]

theorem xor3 (a b c d e f : Nat) : (a ^^^ b) ^^^ (c ^^^ d) ^^^ (e ^^^ f) = (a ^^^ c ^^^ e) ^^^ (b ^^^ d ^^^ f) := by
  ac_rfl

def Lin (f : State → State) : Prop :=
  (∀ s, WS s → WS (f s)) ∧ ∀ s t, WS s → WS t → f (s.xor t) = (f s).xor (f t)

theorem Lin.comp {f g : State → State} (hf : Lin f) (hg : Lin g) : Lin (fun s => g (f s)) :=
  ⟨fun s hs => hg.1 _ (hf.1 s hs), fun s t hs ht => by
    show g (f (s.xor t)) = _
    rw [hf.2 s t hs ht, hg.2 _ _ (hf.1 s hs) (hf.1 t ht)]⟩

theorem Lin.inv {f g : State → State} (hf : Lin f) (h : Inv f g) : Lin g :=
  ⟨fun _ hs => (h.st hs).2, fun s t hs ht => by
    have e := hf.2 _ _ (h.st hs).2 (h.st ht).2
    rw [(h.undo hs).2, (h.undo ht).2] at e
    rw [← e, (h.undo (xor_ws _ _ (h.st hs).2 (h.st ht).2)).1]⟩

def rot02 (r : Nat → Nat → Nat) (n0 n2 : Nat) (s : State) : State := ⟨r s.x0 n0, s.x1, r s.x2 n2, s.x3⟩
def rot13 (r : Nat → Nat → Nat) (n1 n3 : Nat) (s : State) : State := ⟨s.x0, r s.x1 n1, s.x2, r s.x3 n3⟩
def mix13 (n : Nat) (s : State) : State := ⟨s.x0, s.x1 ^^^ s.x0 ^^^ s.x2, s.x2, s.x3 ^^^ s.x2 ^^^ shl s.x0 n⟩
def mix02 (n : Nat) (s : State) : State := ⟨s.x0 ^^^ s.x1 ^^^ s.x3, s.x1, s.x2 ^^^ s.x3 ^^^ shl s.x1 n, s.x3⟩

theorem lt_steps (s : State) :
    lt s = rot02 rotl 5 22 (mix02 7 (rot13 rotl 1 7 (mix13 3 (rot02 rotl 13 3 s)))) := rfl

theorem ltInv_steps (s : State) :
    ltInv s = rot02 rotr 13 3 (mix13 3 (rot13 rotr 1 7 (mix02 7 (rot02 rotr 5 22 s)))) := rfl

theorem lin_rot02 (n0 n2 : Nat) (h0 : n0 ≤ 32) (h2 : n2 ≤ 32) : Lin (rot02 rotl n0 n2) :=
  ⟨fun s hs => ⟨rotl_lt _ _, hs.2.1, rotl_lt _ _, hs.2.2.2⟩, fun s t hs ht => by
    simp only [rot02, State.xor]
    rw [rotl_xor _ _ _ h0 hs.1 ht.1, rotl_xor _ _ _ h2 hs.2.2.1 ht.2.2.1]⟩

theorem lin_rot13 (n1 n3 : Nat) (h1 : n1 ≤ 32) (h3 : n3 ≤ 32) : Lin (rot13 rotl n1 n3) :=
  ⟨fun s hs => ⟨hs.1, rotl_lt _ _, hs.2.2.1, rotl_lt _ _⟩, fun s t hs ht => by
    simp only [rot13, State.xor]
    rw [rotl_xor _ _ _ h1 hs.2.1 ht.2.1, rotl_xor _ _ _ h3 hs.2.2.2 ht.2.2.2]⟩

theorem lin_mix13 (n : Nat) : Lin (mix13 n) :=
  ⟨fun s hs => ⟨hs.1, Nat.xor_lt_two_pow (Nat.xor_lt_two_pow hs.2.1 hs.1) hs.2.2.1, hs.2.2.1,
      Nat.xor_lt_two_pow (Nat.xor_lt_two_pow hs.2.2.2 hs.2.2.1) (shl_lt _ _)⟩, fun s t _ _ => by
    simp only [mix13, State.xor]
    rw [shl_xor, xor3, xor3]⟩

theorem lin_mix02 (n : Nat) : Lin (mix02 n) :=
  ⟨fun s hs => ⟨Nat.xor_lt_two_pow (Nat.xor_lt_two_pow hs.1 hs.2.1) hs.2.2.2, hs.2.1,
      Nat.xor_lt_two_pow (Nat.xor_lt_two_pow hs.2.2.1 hs.2.2.2) (shl_lt _ _), hs.2.2.2⟩, fun s t _ _ => by
    simp only [mix02, State.xor]
    rw [shl_xor, xor3, xor3]⟩

/-- `lt` is the composition of the five steps by definition (`lt_steps`; `ltInv_steps` for `inv_lt` below) -/
theorem lin_lt : Lin lt :=
  ((((lin_rot02 13 3 (by decide) (by decide)).comp (lin_mix13 3)).comp (lin_rot13 1 7 (by decide) (by decide))).comp
    (lin_mix02 7)).comp (lin_rot02 5 22 (by decide) (by decide))

theorem inv_rot02 (a b : Nat) (ha : a ≤ 32) (hb : b ≤ 32) : Inv (rot02 rotl a b) (rot02 rotr a b) :=
  .self (fun hs => ⟨(lin_rot02 a b ha hb).1 _ hs, rotr_lt _ _, hs.2.1, rotr_lt _ _, hs.2.2.2⟩)
   fun hs => ⟨by simp only [rot02, rotr_rotl _ _ ha hs.1, rotr_rotl _ _ hb hs.2.2.1],
     by simp only [rot02, rotl_rotr _ _ ha hs.1, rotl_rotr _ _ hb hs.2.2.1]⟩

theorem inv_rot13 (a b : Nat) (ha : a ≤ 32) (hb : b ≤ 32) : Inv (rot13 rotl a b) (rot13 rotr a b) :=
  .self (fun hs => ⟨(lin_rot13 a b ha hb).1 _ hs, hs.1, rotr_lt _ _, hs.2.2.1, rotr_lt _ _⟩)
   fun hs => ⟨by simp only [rot13, rotr_rotl _ _ ha hs.2.1, rotr_rotl _ _ hb hs.2.2.2],
     by simp only [rot13, rotl_rotr _ _ ha hs.2.1, rotl_rotr _ _ hb hs.2.2.2]⟩

theorem inv_mix13 (n : Nat) : Inv (mix13 n) (mix13 n) :=
  .involution ((lin_mix13 n).1 _) (fun _ => by simp only [mix13, Bits.xor_pair_cancel]) fun _ => rfl

theorem inv_mix02 (n : Nat) : Inv (mix02 n) (mix02 n) :=
  .involution ((lin_mix02 n).1 _) (fun _ => by simp only [mix02, Bits.xor_pair_cancel]) fun _ => rfl

theorem inv_lt : Inv lt ltInv :=
  ((((inv_rot02 13 3 (by decide) (by decide)).comp (inv_mix13 3)).comp (inv_rot13 1 7 (by decide) (by decide))).comp
    (inv_mix02 7)).comp (inv_rot02 5 22 (by decide) (by decide))

end Proofs.Lemmas.SerpentStdLin
