/-
  Helper lemmas for C05: ECB with ciphertext stealing.  A byte string of at least one block is whole blocks, or whole
  blocks P' ‖ pl followed by a partial block b (`cts_cases`); on each shape the model and the Spec are computed.
  CTS_ECB.dec is CTS_ECB.enc over the cipher with enc and dec exchanged, as Spec.Mode.ecbCtsInv is ecbCts over (D, E):
  one refinement theorem serves both directions, and the round trip is the Spec's.
-/
import Proofs.Lemmas.ModeEcbCbc
namespace Proofs.Lemmas.ModeL
open Model Model.Mode Proofs.Lemmas.Bytes
variable {c : BlockCipher} {k : Spec.Mode.Cipher}

theorem split_len (l : Nat) (hl : 0 < l) (Bs : List (List Nat)) (hall : ∀ b ∈ Bs, b.length = l) (b : List Nat) (hb : b.length < l) :
    (join Bs ++ b).length / l = Bs.length ∧ (join Bs ++ b).length % l = b.length := by
  rw [List.length_append, length_join_of_all l Bs hall, Nat.mul_comm]
  constructor
  · rw [Nat.mul_add_div hl, Nat.div_eq_of_lt hb]
    rfl
  · rw [Nat.mul_add_mod, Nat.mod_eq_of_lt hb]

@[elab_as_elim]
theorem cts_cases {l : Nat} (hl : 0 < l) {motive : List Nat → Prop}
    (full : ∀ Bs, Bs ≠ [] → (∀ x ∈ Bs, IsBlock l x) → motive (join Bs))
    (part : ∀ P' pl b, (∀ x ∈ P', IsBlock l x) → IsBlock l pl → Bytes b → 0 < b.length → b.length < l →
      motive (join (P' ++ [pl]) ++ b))
    (M : List Nat) (hM : Bytes M) (hlen : l ≤ M.length) : motive M := by
  have h1 := Nat.div_add_mod M.length l
  have h2 := Nat.mod_lt M.length hl
  have hle : M.length / l * l ≤ M.length := Nat.div_mul_le_self _ _
  have htl : (M.take (M.length / l * l)).length = M.length / l * l := by rw [List.length_take]; omega
  obtain ⟨hB, hj⟩ := blocks_of_bytes hl ⟨_, htl⟩ (AllBytes.take hM (M.length / l * l))
  have hne : Spec.Mode.blocks l (M.take (M.length / l * l)) ≠ [] := by
    intro h0
    have := congrArg List.length hj
    rw [h0, htl] at this
    exact absurd this.symm (Nat.ne_of_gt (Nat.mul_pos (Nat.div_pos hlen hl) hl))
  generalize Spec.Mode.blocks l (M.take (M.length / l * l)) = Bs at hB hj hne
  rw [← List.take_append_drop (M.length / l * l) M, ← hj]
  by_cases hb0 : (M.drop (M.length / l * l)).length = 0
  · rw [List.length_eq_zero_iff.1 hb0, List.append_nil]
    exact full Bs hne hB
  · obtain ⟨P', pl, rfl⟩ : ∃ P' pl, Bs = P' ++ [pl] := ⟨_, _, (List.dropLast_concat_getLast hne).symm⟩
    exact part P' pl _ (fun x hx => hB x (List.mem_append_left _ hx)) (hB pl (by simp)) (AllBytes.drop hM _) (by omega)
      (by rw [List.length_drop, Nat.mul_comm]; omega)

theorem iter_no_blocks (l : Nat) (hl : 0 < l) (Bs : List (List Nat)) (hne : Bs ≠ []) (hall : ∀ b ∈ Bs, b.length = l) :
    iter ⟨.no, 8 * l⟩ (join Bs) = (Bs, none) := by
  rw [iter_no l hl _ (by rw [length_join_of_all l Bs hall]; exact Nat.mul_pos (List.length_pos_iff.2 hne) hl),
    blocks_full l hl Bs hall]

theorem blocks_partial (l : Nat) (hl : 0 < l) (Bs : List (List Nat)) (hall : ∀ x ∈ Bs, x.length = l) (b : List Nat)
    (hb0 : 0 < b.length) (hbl : b.length < l) : Spec.Mode.blocks l (join Bs ++ b) = Bs ++ [b] := by
  rw [blocks_eq_chunks l hl, join, chunks_flatten_append l hl Bs b hall,
    chunks_short l hl b (List.length_pos_iff.1 hb0) (Nat.le_of_lt hbl)]

theorem steal_isBlock {l : Nat} {b e : List Nat} (hb : Bytes b) (hbl : b.length < l) (he : IsBlock l e) :
    IsBlock l (b ++ e.drop b.length) := by
  refine ⟨?_, hb.append (AllBytes.drop he.2 _)⟩
  rw [List.length_append, List.length_drop, he.1]
  omega

theorem cts_ecb_enc_full (h : Implements c k) (Bs : List (List Nat)) (hne : Bs ≠ []) (hB : ∀ b ∈ Bs, IsBlock c.len b) :
    CTS_ECB.enc c .no (join Bs) = .ok (join (Bs.map k.E)) := by
  have hjl := length_join_of_all c.len Bs (isBlock_len hB)
  unfold CTS_ECB.enc
  rw [mkPad_ok c _ h.len_pos]
  simp only [hjl, Nat.mul_mod_left, Nat.mul_div_cancel _ h.len_pos, Nat.lt_irrefl, gt_iff_lt, if_false]
  rw [List.take_of_length_le (by omega), iter_no_blocks c.len h.len_pos _ hne (isBlock_len hB), forBlocks_none,
    mapE_ok c.enc k.E _ (fun x hx => h.enc_ok x (hB x hx))]

theorem cts_ecb_enc_partial (h : Implements c k) (P' : List (List Nat)) (hP' : ∀ b ∈ P', IsBlock c.len b)
    (pl : List Nat) (hpl : IsBlock c.len pl) (b : List Nat) (hb : Bytes b) (hb0 : 0 < b.length) (hbl : b.length < c.len) :
    CTS_ECB.enc c .no (join (P' ++ [pl]) ++ b)
      = .ok (join (P'.map k.E ++ [k.E (b ++ (k.E pl).drop b.length), (k.E pl).take b.length])) := by
  have hall := isBlock_snoc hP' hpl
  obtain ⟨hn, hp⟩ := split_len c.len h.len_pos (P' ++ [pl]) (isBlock_len hall) b hbl
  have hjl := length_join_of_all c.len (P' ++ [pl]) (isBlock_len hall)
  unfold CTS_ECB.enc
  rw [mkPad_ok c _ h.len_pos]
  simp only [hn, hp, List.take_left' hjl, List.drop_left' hjl]
  rw [iter_no_blocks c.len h.len_pos _ (by simp) (isBlock_len hall), forBlocks_none,
    mapE_ok c.enc k.E _ (fun x hx => h.enc_ok x (hall x hx))]
  simp only [hb0, if_true, List.map_append, List.map_cons, List.map_nil, List.getLast?_concat, List.dropLast_concat]
  rw [h.enc_ok _ (steal_isBlock hb hbl (h.E_block _ hpl))]

theorem cts_ecb_dec_swap (c : BlockCipher) (hl : 0 < c.len) (C : List Nat) (hlen : c.len ≤ C.length) :
    CTS_ECB.dec c .no C = CTS_ECB.enc ⟨c.len, c.dec, c.enc⟩ .no C := by
  have h1 := Nat.div_add_mod C.length c.len
  have hle : C.length / c.len * c.len ≤ C.length := Nat.div_mul_le_self _ _
  have hit : iter ⟨.no, 8 * c.len⟩ (C.take (C.length / c.len * c.len)) = (readBlocks c.len (C.length / c.len) C, none) := by
    rw [readBlocks_eq_chunks c.len hl _ C hle, ← blocks_eq_chunks c.len hl]
    exact iter_no c.len hl _ (by rw [List.length_take, Nat.min_eq_left hle]; exact Nat.mul_pos (Nat.div_pos hlen hl) hl)
  have htk : (C.drop (C.length / c.len * c.len)).take (C.length % c.len) = C.drop (C.length / c.len * c.len) :=
    List.take_of_length_le (by rw [List.length_drop, Nat.mul_comm]; omega)
  unfold CTS_ECB.dec CTS_ECB.enc
  rw [mkPad_ok c _ hl, mkPad_ok ⟨c.len, c.dec, c.enc⟩ _ hl]
  simp only [hit, forBlocks_none, htk]

theorem ecbCtsBlocks_cons (k : Spec.Mode.Cipher) (p : List Nat) : ∀ (L : List (List Nat)), 2 ≤ L.length →
    Spec.Mode.ecbCtsBlocks k (p :: L) = k.E p :: Spec.Mode.ecbCtsBlocks k L
  | _ :: _ :: _, _ => rfl

theorem ecbCtsBlocks_partial (k : Spec.Mode.Cipher) (pl b : List Nat) (hb : b.length ≠ k.len) : ∀ (P' : List (List Nat)),
    Spec.Mode.ecbCtsBlocks k (P' ++ [pl, b]) = P'.map k.E ++ [k.E (b ++ (k.E pl).drop b.length), (k.E pl).take b.length]
  | [] => by simp [Spec.Mode.ecbCtsBlocks, hb]
  | p :: P' => by
    rw [List.cons_append, ecbCtsBlocks_cons k p _ (by simp), ecbCtsBlocks_partial k pl b hb P', List.map_cons, List.cons_append]

theorem ecbCtsBlocks_full (k : Spec.Mode.Cipher) : ∀ (Bs : List (List Nat)), (∀ b ∈ Bs, b.length = k.len) →
    Spec.Mode.ecbCtsBlocks k Bs = Bs.map k.E
  | [], _ => rfl
  | [p], _ => rfl
  | [p, q], h => by simp [Spec.Mode.ecbCtsBlocks, h q (by simp)]
  | p :: q :: r :: rest, h => by
    rw [ecbCtsBlocks_cons k p _ (by simp), ecbCtsBlocks_full k (q :: r :: rest) fun b hb => h b (List.mem_cons_of_mem _ hb)]
    rfl

theorem ecbCts_full (h : Implements c k) (Bs : List (List Nat)) (hB : ∀ x ∈ Bs, IsBlock c.len x) :
    Spec.Mode.ecbCts k (join Bs) = join (Bs.map k.E) := by
  unfold Spec.Mode.ecbCts Spec.Mode.concat
  rw [h.len_eq, blocks_full c.len h.len_pos Bs (isBlock_len hB), ecbCtsBlocks_full k Bs (h.len_eq ▸ isBlock_len hB)]

theorem ecbCts_partial (h : Implements c k) (P' : List (List Nat)) (hP' : ∀ x ∈ P', IsBlock c.len x) (pl : List Nat)
    (hpl : IsBlock c.len pl) (b : List Nat) (hb0 : 0 < b.length) (hbl : b.length < c.len) :
    Spec.Mode.ecbCts k (join (P' ++ [pl]) ++ b)
      = join (P'.map k.E ++ [k.E (b ++ (k.E pl).drop b.length), (k.E pl).take b.length]) := by
  unfold Spec.Mode.ecbCts Spec.Mode.concat
  rw [h.len_eq, blocks_partial c.len h.len_pos _ (isBlock_len (isBlock_snoc hP' hpl)) b hb0 hbl, List.append_assoc]
  exact congrArg join (ecbCtsBlocks_partial k pl b (by rw [h.len_eq]; omega) P')

theorem cts_ecb_enc_spec (h : Implements c k) (M : List Nat) (hM : Bytes M) (hlen : c.len ≤ M.length) :
    CTS_ECB.enc c .no M = .ok (Spec.Mode.ecbCts k M) := by
  refine cts_cases h.len_pos ?_ ?_ M hM hlen
  · intro Bs hne hB
    rw [cts_ecb_enc_full h Bs hne hB, ecbCts_full h Bs hB]
  · intro P' pl b hP' hpl hb hb0 hbl
    rw [cts_ecb_enc_partial h P' hP' pl hpl b hb hb0 hbl, ecbCts_partial h P' hP' pl hpl b hb0 hbl]

theorem Implements.swap (h : Implements c k) : Implements ⟨c.len, c.dec, c.enc⟩ ⟨k.len, k.D, k.E⟩ :=
  ⟨h.len_eq, h.len_pos, h.dec_ok, h.enc_ok, h.D_block, h.E_block, h.E_D, h.D_E⟩

theorem cts_ecb_dec_spec (h : Implements c k) (C : List Nat) (hC : Bytes C) (hlen : c.len ≤ C.length) :
    CTS_ECB.dec c .no C = .ok (Spec.Mode.ecbCtsInv k C) := by
  rw [cts_ecb_dec_swap c h.len_pos C hlen]
  exact cts_ecb_enc_spec h.swap C hC hlen

theorem ecbCts_facts (h : Implements c k) (M : List Nat) (hM : Bytes M) (hlen : c.len ≤ M.length) :
    Bytes (Spec.Mode.ecbCts k M) ∧ (Spec.Mode.ecbCts k M).length = M.length ∧
    Spec.Mode.ecbCtsInv k (Spec.Mode.ecbCts k M) = M := by
  refine cts_cases h.len_pos ?_ ?_ M hM hlen
  · intro Bs hne hB
    have hE := (h.pair.map.st hB).1
    rw [ecbCts_full h Bs hB]
    refine ⟨AllBytes.flatten fun x hx => (hE x hx).2, ?_, ?_⟩
    · rw [length_join_of_all c.len _ (isBlock_len hE), length_join_of_all c.len _ (isBlock_len hB), List.length_map]
    · exact (ecbCts_full h.swap _ hE).trans (congrArg join ((h.pair.map.undo hB).1))
  · intro P' pl b hP' hpl hb hb0 hbl
    have hcl := h.E_block pl hpl
    have hx := steal_isBlock hb hbl hcl
    have hy := h.E_block _ hx
    have hE := (h.pair.map.st hP').1
    have ht : ((k.E pl).take b.length).length = b.length := by rw [List.length_take, hcl.1]; omega
    rw [ecbCts_partial h P' hP' pl hpl b hb0 hbl, join_snoc2]
    refine ⟨(AllBytes.flatten fun x hx => (isBlock_snoc hE hy x hx).2).append (AllBytes.take hcl.2 _), ?_, ?_⟩
    · rw [List.length_append, List.length_append, length_join_of_all c.len _ (isBlock_len (isBlock_snoc hE hy)),
        length_join_of_all c.len _ (isBlock_len (isBlock_snoc hP' hpl)), ht]
      simp
    · refine (ecbCts_partial h.swap _ hE _ hy _ (by rw [ht]; exact hb0) (by rw [ht]; exact hbl)).trans ?_
      dsimp only
      rw [ht, h.D_E _ hx, List.drop_left' rfl, List.take_append_drop, h.D_E _ hpl, List.take_left' rfl, (h.pair.map.undo hP').1, join_snoc2]

theorem cts_ecb_dec_of (h : Implements c k) (M : List Nat) (hM : Bytes M) (hlen : c.len ≤ M.length) :
    CTS_ECB.dec c .no (Spec.Mode.ecbCts k M) = .ok M := by
  obtain ⟨hb, hl, hi⟩ := ecbCts_facts h M hM hlen
  rw [cts_ecb_dec_spec h _ hb (by omega), hi]

theorem cts_ecb_dec_partial (h : Implements c k) (P' : List (List Nat)) (hP' : ∀ b ∈ P', IsBlock c.len b)
    (pl : List Nat) (hpl : IsBlock c.len pl) (b : List Nat) (hb : Bytes b) (hb0 : 0 < b.length) (hbl : b.length < c.len) :
    CTS_ECB.dec c .no (join (P'.map k.E ++ [k.E (b ++ (k.E pl).drop b.length), (k.E pl).take b.length]))
      = .ok (join (P' ++ [pl]) ++ b) := by
  have hM : Bytes (join (P' ++ [pl]) ++ b) := (AllBytes.flatten fun x hx => (isBlock_snoc hP' hpl x hx).2).append hb
  have hlen : c.len ≤ (join (P' ++ [pl]) ++ b).length := by
    rw [List.length_append, length_join_of_all c.len _ (isBlock_len (isBlock_snoc hP' hpl)), List.length_append,
      Nat.add_mul]
    simp
    omega
  rw [← ecbCts_partial h P' hP' pl hpl b hb0 hbl]
  exact cts_ecb_dec_of h _ hM hlen

end Proofs.Lemmas.ModeL
