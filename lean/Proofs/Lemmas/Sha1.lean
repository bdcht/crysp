/- SHA-0 / SHA-1: tables, schedule, rounds, compression of the model equal FIPS 180-4 -/
import Proofs.Lemmas.RoundFns
import Proofs.Lemmas.Parse
namespace Proofs.Lemmas.Sha1
open Model Model.Sha Model.Gen.Hashes Proofs.Lemmas.BitsBitVec Proofs.Lemmas.Fold Proofs.Lemmas.Parse Proofs.Lemmas.RoundFns

def embH (s : Spec.Sha1.State) : List Bits :=
  [ofBV s.1, ofBV s.2.1, ofBV s.2.2.1, ofBV s.2.2.2.1, ofBV s.2.2.2.2]
def emb5 (s : Spec.Sha1.State) : St5 :=
  (ofBV s.1, ofBV s.2.1, ofBV s.2.2.1, ofBV s.2.2.2.1, ofBV s.2.2.2.2)

/-- code of the round function FIPS 180-4 §4.1.1 prescribes for round t, in the numbering of `sha1ftFun` -/
def specCode (t : Nat) : Nat := if t < 20 then 0 else if t < 40 then 1 else if t < 60 then 2 else 1

theorem K_table (v : Nat) : sha1K v = (List.range 80).map fun r => (Spec.Sha1.K r).toNat := by
  unfold sha1K
  split <;> decide +kernel

theorem K_eq (v r : Nat) (hr : r < 80) : (sha1K v).getD r 0 = (Spec.Sha1.K r).toNat := by
  rw [K_table, getD_map_range _ _ _ _ hr]

theorem ftCode_table (v : Nat) : sha1ftCode v = (List.range 80).map specCode := by
  unfold sha1ftCode
  split <;> decide +kernel

theorem ftCode_eq (v r : Nat) (hr : r < 80) : (sha1ftCode v).getD r 0 = specCode r := by
  rw [ftCode_table, getD_map_range _ _ _ _ hr]

theorem tables_ok (v : Nat) :
    ¬ ((sha1K v).length < 80 ∨ (sha1ftCode v).length < 80 ∨ (sha1ftCode v).any (· ≥ sha1ftFun.length) = true) := by
  rw [K_table, ftCode_table]
  decide +kernel

theorem iv_eq (v : Nat) : (sha1IV v).map (fun x => Bits.ofNatSz x 32) = embH Spec.Sha1.iv := by
  unfold sha1IV
  split <;> decide +kernel

theorem ft_ofBV (v r : Nat) (hr : r < 80) (b c d : BitVec 32) :
    sha1ft v r (ofBV b) (ofBV c) (ofBV d) = ofBV (Spec.Sha1.f r b c d) := by
  unfold sha1ft
  rw [ftCode_eq v r hr]
  unfold specCode Spec.Sha1.f
  by_cases h1 : r < 20
  · simp only [h1, if_true]; exact sha1_Ch b c d
  · by_cases h2 : r < 40
    · simp only [h1, h2, if_true, if_false]; exact sha1_Parity b c d
    · by_cases h3 : r < 60
      · simp only [h1, h2, h3, if_true, if_false]; exact sha1_Maj b c d
      · simp only [h1, h2, h3, if_false]; exact sha1_Parity b c d

/-- `v` is the version number (0 = SHA-0, 1 = SHA-1), which the code uses as the rotation amount of the schedule
    (`rol(…, self.version)`); `hv` says only that it is a rotation of a 32-bit word. -/
theorem expand_refines (v : Nat) (hv : v ≤ 32) (W : List (BitVec 32)) :
    sha1Expand v (W.map ofBV) = (Spec.Sha1.schedule v W).map ofBV := by
  unfold sha1Expand Spec.Sha1.schedule
  rw [List.range'_eq_map_range, List.foldl_map]
  apply foldl_sim (fun W : List (BitVec 32) => W.map ofBV)
  intro i _ W
  simp only [dflt, getD_map_ofBV, xor_ofBV, rol_ofBV _ _ hv, List.map_append, List.map_cons, List.map_nil]

theorem round_refines (v : Nat) (W : List (BitVec 32)) (r : Nat) (hr : r < 80) (s : Spec.Sha1.State) :
    sha1Round v (W.map ofBV) (emb5 s) r = emb5 (Spec.Sha1.round W s r) := by
  obtain ⟨a, b, c, d, e⟩ := s
  simp only [sha1Round, emb5, Spec.Sha1.round, dflt, getD_map_ofBV, ft_ofBV v r hr, K_eq v r hr,
    rol_ofBV _ _ (by decide : 5 ≤ 32), rol_ofBV _ _ (by decide : 30 ≤ 32), add_ofBV, addConst_ofBV]

theorem rounds_refines (v : Nat) (W : List (BitVec 32)) (s : Spec.Sha1.State) :
    (List.range 80).foldl (sha1Round v (W.map ofBV)) (emb5 s) = emb5 ((List.range 80).foldl (Spec.Sha1.round W) s) := by
  apply foldl_sim emb5
  intro i hi b
  exact round_refines v W i (List.mem_range.1 hi) b

theorem block_refines (v : Nat) (hv : v ≤ 32) (H : Spec.Sha1.State) (W : List (BitVec 32)) (hW : W.length = 16) :
    sha1Block v (embH H) (W.map ofBV) = .ok (embH (Spec.Sha1.compressWords v H W)) := by
  obtain ⟨h0, h1, h2, h3, h4⟩ := H
  have hr := rounds_refines v (Spec.Sha1.schedule v W) (h0, h1, h2, h3, h4)
  simp only [Spec.Sha1.compressWords]
  generalize (List.range 80).foldl (Spec.Sha1.round (Spec.Sha1.schedule v W)) (h0, h1, h2, h3, h4) = R at hr ⊢
  obtain ⟨a, b, c, d, e⟩ := R
  simp only [emb5] at hr
  simp only [sha1Block, embH, List.length_map, hW, ne_eq, not_true_eq_false, if_false, tables_ok v,
    expand_refines v hv W, hr, add_ofBV, BitVec.add_comm]

theorem compress_refines (v : Nat) (hv : v ≤ 32) (H : Spec.Sha1.State) (blk : List Spec.Byte) (hb : blk.length = 64) :
    sha1Compress v (embH H) (toNatBytes blk) = .ok (embH (Spec.Sha1.compress v H blk)) :=
  (bind_eq_of_ok (parseBE_refines 32 (by decide) blk hb) _).trans (block_refines v hv H _ (by rw [wordsBE_length, hb]))

end Proofs.Lemmas.Sha1
