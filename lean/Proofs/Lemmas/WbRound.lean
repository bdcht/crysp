/-
  For C18: one round of the white-box network on an encoded state is one Feistel round of Model.Des.
  The T-box layer turns the encoding of (L, R) into `Z // L // R` gathered along `postIdx` (`Z` = the S-box outputs
  of `des.F`); the linear layer `__FX` turns that into the encoding of (R, L xor P(Z)).
-/
import Proofs.Lemmas.WbKey
import Proofs.Lemmas.WbLayout
namespace Proofs.Lemmas.Wb
open Model Model.Wb Model.Bits
open Proofs.Lemmas.Bits (ext_of_wf)

/-- byte `m` of a state, as the int `blk[8m:8m+8]` -/
def byteOf (b : Bits) (m : Nat) : Nat := (b.sliceFast (8 * m) (8 * m + 8)).ival

theorem byteOf_lt (b : Bits) (m : Nat) : byteOf b m < 256 := by
  have := Bits.sliceFast_wf b (8 * m) (8 * m + 8)
  rwa [WF, size_sliceFast, Nat.add_sub_cancel_left] at this

theorem byteOf_testBit (b : Bits) (m j : Nat) : (byteOf b m).testBit j = (decide (j < 8) && b.ival.testBit (8 * m + j)) := by
  rw [byteOf, Bits.sliceFast_testBit, Nat.add_sub_cancel_left]

theorem byteOf_congr (a b : Bits) (m : Nat) (h : ∀ j < 8, a.ival.testBit (8 * m + j) = b.ival.testBit (8 * m + j)) :
    byteOf a m = byteOf b m := by
  apply Nat.eq_of_testBit_eq
  intro j
  rw [byteOf_testBit, byteOf_testBit]
  by_cases hj : j < 8
  · simp [hj, h j hj]
  · simp [hj]

theorem tboxLoop_ok (g : Nat → Nat → Nat) (hg : ∀ n < 12, ∀ v < 256, g n v < 256) (ns : List Nat) (hnd : ns.Nodup)
    (hns : ∀ n ∈ ns, n < 12) (blk : Bits) (hs : blk.size = 96) (hw : blk.WF) :
    ∃ blk', tboxLoop (table 12 256 g) ns blk = .ok blk' ∧ (blk'.size = 96 ∧ blk'.WF) ∧
      ∀ i, blk'.ival.testBit i =
        if i / 8 ∈ ns then (g (i / 8) (byteOf blk (i / 8))).testBit (i % 8) else blk.ival.testBit i := by
  refine Fold.loop_writes (tboxLoop (table 12 256 g)) (fun _ => rfl) (fun b => b.size = 96 ∧ b.WF)
    (fun b i => b.ival.testBit i) (· / 8) (fun n i => (g n (byteOf blk n)).testBit (i % 8)) blk ns hnd ?_ blk ⟨hs, hw⟩
    fun _ _ => rfl
  intro n hn b hb hown
  have hn := hns n hn
  have hx := byteOf_lt b n
  have hmask : (b.sliceFast (8 * n) (8 * n + 8)).ival &&& (b.sliceFast (8 * n) (8 * n + 8)).mask = byteOf b n := by
    rw [Bits.mask, size_sliceFast, Nat.add_sub_cancel_left, Nat.and_two_pow_sub_one_eq_mod]
    exact Nat.mod_eq_of_lt hx
  have hy := hg n hn _ hx
  have he : 8 * n + 8 ≤ b.size := by omega
  refine ⟨b.putSlice (8 * n) (8 * n + 8) (ofNat (g n (byteOf b n))), fun rest => ?_, ⟨hb.1, WF_putField b 8 n _ he hy⟩,
    fun i => ?_⟩
  · simp only [tboxLoop, Bits.getSlice_nat b (8 * n) (8 * n + 8) (by omega) he, bind, Except.bind, pyIdx_table g hn,
      hmask, pyIdx_map_range _ hx, setSlice_eq_putSlice b (8 * n) (8 * n + 8) _ (by omega) he]
  · rw [testBit_putField b hb.2 8 n _ (by decide) he hy, byteOf_congr b blk n fun j _ => hown _ (by omega)]

theorem size_enc (L R : Bits) : (enc L R).size = 96 := by simp [enc, encIdx_length]
theorem WF_enc (L R : Bits) : (enc L R).WF := WF_pick _ _

theorem testBit_enc (L R : Bits) (i : Nat) (hi : i < 96) :
    (enc L R).ival.testBit i = (L.concat R).ival.testBit (encIdx.getD i 0) :=
  testBit_pick_getD _ _ _ (by rw [encIdx_length]; exact hi)

theorem testBit_LR (L R : Bits) (hL : Des.Half L) (hR : R.WF) (q : Nat) :
    (L.concat R).ival.testBit q = if q < 32 then L.ival.testBit q else R.ival.testBit (q - 32) := by
  rw [Bits.concat_testBit_wf L R hL.2 hR, hL.1]

def postState (Z L R : Bits) : Bits := (Z.concat (L.concat R)).pick ((List.range 96).map postIdx)

theorem size_postState (Z L R : Bits) : (postState Z L R).size = 96 := by simp [postState]
theorem WF_postState (Z L R : Bits) : (postState Z L R).WF := WF_pick _ _

theorem testBit_postState (Z L R : Bits) (i : Nat) (hi : i < 96) :
    (postState Z L R).ival.testBit i = (Z.concat (L.concat R)).ival.testBit (postIdx i) := by
  rw [postState, testBit_pick_getD _ _ _ (by simpa using hi)]
  simp [List.getD_eq_getElem?_getD, hi]

theorem sel_lt : ∀ k : Nat, ([0, 5, 6, 7] : List Nat).getD k 0 < 8
  | 0 | 1 | 2 | 3 => by decide
  | _ + 4 => by simp

theorem tboxVal_testBit (s v j : Nat) :
    (tboxVal s v).testBit j =
      if j < 4 then s.testBit j else if j < 8 then v.testBit ([0, 5, 6, 7].getD (j - 4) 0) else false := by
  have hs : (ofNatSz s 4).size + ((ofNatSz v 8).pick [0, 5, 6, 7]).size = 8 := rfl
  have h4s : (ofNatSz s 4).size = 4 := rfl
  rw [tboxVal, testBit_concat _ _ (Bits.ofNatSz_wf s 4), hs, h4s]
  by_cases h4 : j < 4
  · rw [if_pos h4, if_pos h4, Bits.ofNatSz_testBit, decide_eq_true h4, decide_eq_true (show j < 8 by omega), Bool.true_and,
      Bool.true_and]
  · by_cases h8 : j < 8
    · rw [if_neg h4, if_neg h4, if_pos h8, testBit_pick_getD _ _ _ (show j - 4 < 4 by omega), Bits.ofNatSz_testBit,
        decide_eq_true h8, decide_eq_true (sel_lt _), Bool.true_and, Bool.true_and]
    · rw [if_neg h4, if_neg h4, if_neg h8, decide_eq_false h8, Bool.false_and]

theorem chunk_eq (L R fk : Bits) (hL : Des.Half L) (hR : Des.Half R) (m : Nat) (hm : m < 8) :
    (ofNatSz (byteOf (enc L R) m % 64) 6).xor (kchunk fk m) =
      ((R.pick Gen.Des.e).xor fk).sliceFast (6 * m) (6 * m + 6) := by
  unfold kchunk
  have h6 : (ofNatSz (byteOf (enc L R) m % 64) 6).size = (fk.sliceFast (6 * m) (6 * m + 6)).size := by
    rw [size_sliceFast, Nat.add_sub_cancel_left]
    rfl
  have hsz : ((ofNatSz (byteOf (enc L R) m % 64) 6).xor (fk.sliceFast (6 * m) (6 * m + 6))).size = 6 := Bits.xor_size _ _ h6
  apply ext_of_wf (Bits.xor_wf (Bits.ofNatSz_wf _ _) (Bits.sliceFast_wf _ _ _)) (Bits.sliceFast_wf _ _ _)
  · rw [hsz, size_sliceFast, Nat.add_sub_cancel_left]
  · intro j hj
    rw [hsz] at hj
    have h64 : (64 : Nat) = 2 ^ 6 := by decide
    have hq : Gen.Des.e.getD (6 * m + j) 0 < 32 := e_lt _ (by omega)
    rw [Bits.xor_testBit, Bits.ofNatSz_testBit, h64, Nat.testBit_mod_two_pow, byteOf_testBit, testBit_enc L R _ (by omega),
      encIdx_E m hm j hj, testBit_LR L R hL hR.2, if_neg (by omega), Nat.add_sub_cancel_left,
      Bits.sliceFast_testBit, Bits.sliceFast_testBit, Nat.add_sub_cancel_left, Bits.xor_testBit,
      testBit_pick_getD R _ _ (by rw [Des.len_e]; omega)]
    have : j < 8 := by omega
    simp [hj, this]

theorem tboxLayer_ok (L R fk : Bits) (hL : Des.Half L) (hR : Des.Half R) :
    tboxLoop (rktTab fk) (List.range 12) (enc L R) =
      .ok (postState (Des.sboxLoopP ((R.pick Gen.Des.e).xor fk) (List.range 8) (ofNatSz 0 32)) L R) := by
  obtain ⟨hZ, z3⟩ := Des.sboxLoopP_bits ((R.pick Gen.Des.e).xor fk)
  obtain ⟨post, p1, ⟨p2, p3⟩, p4⟩ := tboxLoop_ok (rktVal fk) (fun n _ v hv => rktVal_lt fk n v hv)
    (List.range 12) List.nodup_range (fun n hn => List.mem_range.mp hn) (enc L R) (size_enc L R) (WF_enc L R)
  rw [rktTab, p1]
  apply congrArg Except.ok
  apply ext_of_wf p3 (WF_postState _ L R) (by rw [p2, size_postState])
  intro i hi
  rw [p2] at hi
  obtain ⟨m, j, hj, rfl⟩ : ∃ m j, j < 8 ∧ i = 8 * m + j :=
    ⟨i / 8, i % 8, Nat.mod_lt _ (by decide), (Nat.div_add_mod i 8).symm⟩
  have e1 : (8 * m + j) / 8 = m := by omega
  have e2 : (8 * m + j) % 8 = j := by omega
  have hm12 : m < 12 := by omega
  rw [p4, e1, e2, if_pos (List.mem_range.mpr hm12), testBit_postState _ _ _ _ hi, postIdx, e1, e2,
    testBit_LR _ _ hZ (Bits.concat_wf L R)]
  clear e1 e2
  by_cases hm : m < 8
  · have hi64 : 8 * m + j < 64 := by omega
    rw [rktVal, if_pos hm, chunk_eq L R fk hL hR _ hm, tboxVal_testBit, if_pos hi64]
    by_cases hj4 : j < 4
    · have hk : 4 * m + j < 32 := by omega
      have e3 : (4 * m + j) / 4 = m := by omega
      have e4 : (4 * m + j) % 4 = j := by omega
      rw [if_pos hj4, if_pos hj4, if_pos hk, z3 _ hk, e3, e4]
    · have hc := sel_lt (j - 4)
      rw [if_neg hj4, if_pos hj, if_neg hj4, if_neg (by omega), Nat.add_sub_cancel_left, byteOf_testBit,
        testBit_enc L R _ (by omega), decide_eq_true hc, Bool.true_and]
  · have hi64 : ¬ 8 * m + j < 64 := by omega
    rw [rktVal, if_neg hm, if_neg hi64, byteOf_testBit, if_neg (by omega), Nat.add_sub_cancel_left, testBit_enc L R _ hi,
      decide_eq_true hj, Bool.true_and]

/-- `__FX` (the rows of M2) on the post-T-box state, row by row from `round_table`: a row with one column carries an R
    bit into the new L, a row with two columns forms `L_j xor Z_{P(j)}` for the new R -/
theorem FX_postState (Z L R : Bits) (hZ : Des.Half Z) (hL : Des.Half L) (hR : Des.Half R) (w : WhiteDES)
    (hw : w.tM2 = Gen.Wb.m2mat) : w.FX (postState Z L R) = .ok (enc R (L.xor (Z.pick Gen.Des.p))) := by
  have hps := size_postState Z L R
  obtain ⟨out, o1, ⟨o2, o3⟩, o4⟩ := fxLoop_ok Gen.Wb.m2mat (postState Z L R) m2mat_length (List.range 96) List.nodup_range
    (fun b hb => List.mem_range.mp hb) (ofNatSz 0 96) rfl (Bits.ofNatSz_wf 0 96)
  rw [WhiteDES.FX, hw, o1]
  apply congrArg Except.ok
  have hP : Des.Half (Z.pick Gen.Des.p) := ⟨by rw [size_pick, Des.len_p], WF_pick _ _⟩
  have hX := Des.half_xor L _ hL hP
  apply ext_of_wf o3 (WF_enc _ _) (by rw [o2, size_enc])
  intro b hb
  rw [o2] at hb
  obtain ⟨t1, t2, t3⟩ := round_table b hb
  have hq := encIdx_lt b
  have src := testBit_LR Z _ hZ (Bits.concat_wf L R)
  rw [o4, if_pos (List.mem_range.mpr hb), t1, testBit_enc _ _ b hb]
  by_cases c : encIdx.getD b 0 < 32
  · obtain ⟨u1, u2, u3⟩ := t2 c
    have e64 : 64 + encIdx.getD b 0 - 32 = encIdx.getD b 0 + 32 := by omega
    rw [u1, fxBit_one _ hps _ u2, testBit_postState _ _ _ _ u2, u3, src, if_neg (by omega), e64,
      testBit_LR L R hL hR.2, if_neg (by omega), Nat.add_sub_cancel, testBit_LR R _ hR hX.2, if_pos c]
  · have c' : 32 ≤ encIdx.getD b 0 := Nat.le_of_not_lt c
    obtain ⟨u1, u2, u3, u4, u5, u6⟩ := t3 c'
    have hpl := p_lt (encIdx.getD b 0 - 32) (by omega)
    rw [u1, fxBit_two _ hps _ _ u2 u3 u4, testBit_postState _ _ _ _ u2, testBit_postState _ _ _ _ u3, u5, u6,
      src, if_pos hpl, src, if_neg (by omega), testBit_LR L R hL hR.2, if_pos (by omega),
      testBit_LR R _ hR hX.2, if_neg c, Bits.xor_testBit, testBit_pick_getD Z _ _ (by rw [Des.len_p]; omega), Bool.xor_comm]

theorem round_ok (K : Bits) (r : Nat) (L R : Bits) (hL : Des.Half L) (hR : Des.Half R) (w : WhiteDES)
    (hw : w.tM2 = Gen.Wb.m2mat) :
    (tboxLoop (rktTab (rk K r)) (List.range 12) (enc L R) >>= w.FX) = .ok (enc R (L.xor (Des.FP R (Des.PC1 K) r))) := by
  rw [tboxLayer_ok L R _ hL hR]
  exact FX_postState _ L R (Des.half_sboxLoopP _) hL hR w hw

end Proofs.Lemmas.Wb
