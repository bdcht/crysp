/-
  Helper lemmas for C09: the pad bits the model appends (`modelTail`) are the pad bits of Spec.Padding.
-/
import Proofs.Lemmas.PaddingIter
namespace Proofs.Lemmas.Padding
open Model Model.Padder Spec.Padding

def specOf : Model.Scheme → Spec.Padding.Scheme
  | .no => .no | .null => .zero | .bit => .bit | .pkcs7 => .pkcs7 | .x923 => .x923
  | .md w => .md w | .sha w => .sha w | .blake h => .blake h

theorem fill_of_le (B k x : Nat) (hB : 0 < B) (h1 : k * B ≤ x) (h2 : x ≤ k * B + B) :
    fill B x = if x = k * B then 0 else k * B + B - x := by
  obtain ⟨y, rfl⟩ : ∃ y, x = k * B + y := ⟨x - k * B, by omega⟩
  have hy : y ≤ B := by omega
  have hmod : (k * B + y) % B = y % B := by rw [Nat.add_comm, Nat.add_mul_mod_self_right]
  unfold fill
  rw [hmod]
  by_cases hyB : y = B
  · subst hyB
    simp
  · have hlt : y < B := by omega
    rw [Nat.mod_eq_of_lt hlt]
    by_cases h0 : y = 0
    · subst h0
      simp
    · have : ¬ k * B + y = k * B := by omega
      rw [if_neg this, Nat.mod_eq_of_lt (by omega)]
      omega

/-- the standard's "fewest zeros" is the code's two-case zero run -/
theorem fill_gap (B k r mp : Nat) (hB : 0 < B) (hr : r ≤ B) (hmp : mp ≤ B) (h0 : 0 < r + mp) :
    fill B (k * B + r + mp) = gap B mp r := by
  unfold gap
  by_cases h : r + mp ≤ B
  · rw [fill_of_le B k _ hB (by omega) (by omega), if_pos h]
    split <;> omega
  · rw [fill_of_le B (k + 1) _ hB (by rw [Nat.succ_mul]; omega) (by rw [Nat.succ_mul]; omega), if_neg h, Nat.succ_mul]
    split <;> omega

/-- pad length of PKCS#7 / X9.23: the standard's `k − n mod k` is the code's "a whole block when nothing is missing" -/
theorem padLen_eq_padQ (bl k j : Nat) (hj : j ≤ bl) : padLen bl (k * bl + j) = padQ bl j := by
  rw [padLen, padQ, Nat.add_comm, Nat.add_mul_mod_self_right]
  by_cases h1 : j = bl
  · subst h1
    simp
  · rw [Nat.mod_eq_of_lt (by omega), if_neg (by omega)]

/-- the zero run is the standard's fewest zeros, but a whole block of them for zero padding of the empty message -/
theorem spec_pad_shape (s : Model.Scheme) (hbg : BitGranular s) (B : Nat) (hbk : ∀ h, s = .blake h → blakeB h = B)
    (bits : List Bool) :
    Spec.Padding.pad (specOf s) B bits = bits ++ (preBits s
      ++ zeros (if s = .null ∧ bits.length = 0 then B else fill B (bits.length + minPad s)) ++ sufBits s bits.length) := by
  cases s with
  | no | pkcs7 | x923 => exact hbg.elim
  | null =>
    simp only [specOf, Spec.Padding.pad, zeroPad, preBits, sufBits, minPad, true_and, Nat.add_zero, List.append_nil,
      List.nil_append]
  | bit =>
    simp [specOf, Spec.Padding.pad, bitPad, preBits, sufBits, minPad]
  | md w | sha w =>
    simp [specOf, Spec.Padding.pad, mdPad, shaPad, preBits, sufBits, minPad, Nat.add_assoc]
  | blake h =>
    simp [specOf, Spec.Padding.pad, blakePad, preBits, sufBits, minPad, hbk h rfl, Nat.add_assoc]
    rfl

theorem spec_pad_eq (p : Padder) (hv : Valid p) (bits : List Bool) (k r : Nat)
    (hlen : bits.length = k * p.blocksize + r) (hr : r ≤ p.blocksize) (hpos : 0 < bits.length → 0 < r)
    (hbyte : ¬ BitGranular p.scheme → ∃ m, Bytes m ∧ bits = bytesToBits m) :
    Spec.Padding.pad (specOf p.scheme) p.blocksize bits = bits ++ modelTail p (k * p.blocksize) r := by
  have hB := hv.size_eq
  have hp := hv.pos
  have hw := hv.scheme_ok
  have hmp := minPad_le p hv
  by_cases hbg : BitGranular p.scheme
  · -- one argument for the five schemes: same fixed bits and field, and `fill` is `gap`
    have hbk : ∀ h, p.scheme = .blake h → blakeB h = p.blocksize := by
      intro h hs
      rw [hs] at hw
      exact hw.symm
    rw [spec_pad_shape p.scheme hbg p.blocksize hbk, modelTail_shape p hbg, ← hlen]
    congr 4
    by_cases h0 : bits.length = 0
    · have hr0 : r = 0 := by omega
      subst hr0
      by_cases hs : p.scheme = .null
      · simp [hs, h0, gap, minPad]
      · rw [if_neg (fun h => hs h.1), h0, Nat.zero_add]
        have := fill_gap p.blocksize 0 0 (minPad p.scheme) hp (Nat.zero_le _) hmp (by
          cases h : p.scheme <;> simp_all [minPad, BitGranular] <;> omega)
        simpa using this
    · rw [if_neg (fun h => h0 h.2), hlen]
      exact fill_gap p.blocksize k r _ hp hr hmp (by omega)
  · obtain ⟨m, hm, rfl⟩ := hbyte hbg
    have hq' : padLen p.blocklen m.length = padQ p.blocklen (r / 8) := by
      rw [bytesToBits_length] at hlen
      have hkB : k * p.blocksize = 8 * (k * p.blocklen) := by rw [hB, Nat.mul_left_comm]
      rw [show m.length = k * p.blocklen + r / 8 by omega]
      exact padLen_eq_padQ _ _ _ (by omega)
    have hbl8 : p.blocksize / 8 = p.blocklen := rfl
    cases hs : p.scheme with
    | no => simp [specOf, Spec.Padding.pad, modelTail, hs]
    | pkcs7 =>
      simp only [specOf, Spec.Padding.pad, pkcs7Pad, modelTail, hs, bitsToBytes_bytesToBits m hm, hbl8, hq',
        bytesToBits_append]
    | x923 =>
      simp only [specOf, Spec.Padding.pad, x923Pad, modelTail, hs, bitsToBytes_bytesToBits m hm, hbl8, hq',
        bytesToBits_append, List.append_assoc]
    | _ => simp [hs, BitGranular] at hbg

theorem takeBits_split (p : Padder) (hv : Valid p) (m : List Nat) (L : Nat) (hL : L ≤ 8 * m.length) :
    takeBits L m = bytesToBits (m.take (p.loopCount L * p.blocklen))
      ++ (bytesToBits (p.blockAt m (p.loopCount L))).take (L - p.loopCount L * p.blocksize) := by
  obtain ⟨e, h1, h2, h3, h4, h5, h6⟩ := piece_facts p hv m L hL
  have hB := hv.size_eq
  generalize p.loopCount L = k at *
  have hm : m = m.take (k * p.blocklen) ++ m.drop (k * p.blocklen) := (List.take_append_drop _ _).symm
  have hlen : (bytesToBits (m.take (k * p.blocklen))).length = k * p.blocksize := by
    rw [bytesToBits_length, List.length_take]
    omega
  unfold takeBits
  conv =>
    lhs
    rw [hm, bytesToBits_append, List.take_append, hlen]
  rw [List.take_of_length_le (by omega)]
  congr 1
  simp only [Padder.blockAt, bytesToBits_take, List.take_take]
  congr 1
  omega

theorem concat_bits (p : Padder) (hv : Valid p) (st : PadState) (m : List Nat) (hm : Bytes m) (L : Option Nat)
    (hL : effLen m L ≤ 8 * m.length) :
    emitted p st m L
      = bitsToBytes (takeBits (effLen m L) m ++ modelTail p (st.bitcnt + kOf p m L * p.blocksize) (rOf p m L)) := by
  obtain ⟨_, _, _, _, _, h5, _⟩ := call_facts p hv m L hL
  rw [takeBits_split p hv m _ hL, List.append_assoc, bitsToBytes_bytesToBits_append _ (Bytes.AllBytes.take hm _), emitted, tailBytes,
    pieceBits_bytes _ (Bytes_blockAt p hm _) _ h5]
  rfl

theorem concat_eq_spec (p : Padder) (hv : Valid p) (st : PadState)
    (hfresh : st.bitcnt = 0) (m : List Nat) (hm : Bytes m) (L : Option Nat) (hL : effLen m L ≤ 8 * m.length)
    (hbg : L ≠ none → BitGranular p.scheme) :
    emitted p st m L
      = padBytes (specOf p.scheme) p.blocksize m (effLen m L) := by
  obtain ⟨e, h1, h2, h3, h4, h5, h6⟩ := call_facts p hv m L hL
  have hlenbits : (takeBits (effLen m L) m).length = kOf p m L * p.blocksize + rOf p m L := by
    simp only [takeBits, List.length_take, bytesToBits_length, rOf]
    omega
  rw [concat_bits p hv st m hm L hL, hfresh, Nat.zero_add, padBytes,
    spec_pad_eq p hv (takeBits (effLen m L) m) (kOf p m L) (rOf p m L) hlenbits h2
      (by rw [hlenbits]; omega)
      (fun hb => ⟨m, hm, by
        rw [(rOf_byte p hv m L hL hbg hb).1]
        exact takeBits_whole m⟩)]

end Proofs.Lemmas.Padding
