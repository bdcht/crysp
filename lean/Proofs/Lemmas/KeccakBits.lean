/-
  Lemmas for C04: a `Bits` value as the list of its bits (`bitsOf`, index 0 first) and what the
  operations used by `Keccak.iterblocks` / `State.load` / `State.dump` do to that list.
-/
import Model.Keccak
import Spec.Keccak
import Proofs.Lemmas.BitsList
namespace Proofs.Lemmas.KeccakBits
open Model Model.Keccak Model.Py

def bitsOf (b : Bits) : List Bool := (List.range b.size).map b.ival.testBit

theorem bitsOf_eq (b : Bits) : bitsOf b = Bits.bools b := rfl

@[simp] theorem bitsOf_length (b : Bits) : (bitsOf b).length = b.size := Bits.length_bools b

theorem sliceClip_WF (b : Bits) (i j : Nat) : (sliceClip b i j).WF := Bits.sliceFast_wf _ _ _

@[simp] theorem concat_size (a b : Bits) : (a.concat b).size = a.size + b.size := Bits.concat_size a b

@[simp] theorem setSize_size (b : Bits) (n : Nat) : (b.setSize n).size = n := Bits.setSize_size b n

@[simp] theorem sliceClip_size (b : Bits) (i j : Nat) : (sliceClip b i j).size = min j b.size - min i b.size := rfl

theorem bitsOf_concat {a : Bits} (ha : a.WF) (b : Bits) : bitsOf (a.concat b) = bitsOf a ++ bitsOf b :=
  Bits.bools_concat a b ha

theorem bitsOf_sliceClip (b : Bits) (i j : Nat) : bitsOf (sliceClip b i j) = ((bitsOf b).take j).drop i := by
  apply List.ext_getElem
  · simp; omega
  · intro t h1 h2
    have ht : t < min j b.size - min i b.size := by simpa using h1
    simp only [bitsOf_eq, Bits.getElem_bools, List.getElem_drop, List.getElem_take, sliceClip, Bits.sliceFast_testBit, ht,
      decide_true, Bool.true_and]
    congr 1
    omega

theorem bitsOf_setSize {b : Bits} (hb : b.WF) (n : Nat) :
    bitsOf (b.setSize n) = (bitsOf b ++ List.replicate (n - b.size) false).take n := by
  apply List.ext_getElem
  · simp; omega
  · intro t h1 h2
    have ht : t < n := by simpa using h1
    simp only [bitsOf_eq, Bits.getElem_bools, Bits.setSize_ival, Nat.testBit_mod_two_pow, ht, decide_true, Bool.true_and, List.getElem_take]
    by_cases hts : t < b.size
    · rw [List.getElem_append_left (by simpa using hts), Bits.getElem_bools]
    · rw [List.getElem_append_right (by simpa using hts)]
      simp [Bits.wf_testBit hb (by omega : b.size ≤ t)]

theorem bitsOf_setSize_le {b : Bits} (n : Nat) (hn : n ≤ b.size) : bitsOf (b.setSize n) = (bitsOf b).take n :=
  Bits.bools_setSize b n hn

theorem bitsLE_eq (s : List Nat) (hs : ∀ b ∈ s, b < 256) : bitsLE s = ⟨leInt s, 8 * s.length⟩ := by
  simp only [bitsLE, Bits.load_le_eq s hs]

theorem bitsLE_WF (s : List Nat) (hs : ∀ b ∈ s, b < 256) : (bitsLE s).WF := by
  rw [bitsLE_eq s hs]
  exact Bytes.leInt_lt s hs

/-- `Bits(Pi,bitorder=1)` denotes the bytes' bits, each byte least significant bit first (FIPS 202 B.1 h2b) -/
theorem bitsOf_bitsLE (s : List Nat) (hs : ∀ b ∈ s, b < 256) : bitsOf (bitsLE s) = Spec.Keccak.bitsOfBytes s := by
  rw [bitsLE_eq s hs]
  exact Bytes.testBits_leInt s hs

end Proofs.Lemmas.KeccakBits
