/-
  Lemmas for C04: the state as 25 `Bits` lanes versus the state as a bit string of length 25w (`State.load`,
  `State.dump`, `State.__xor__`, `pack`), and on that footing the sponge itself: absorbing,
  squeezing and a whole `Keccak.__call__` against the reference sponge.
-/
import Proofs.Lemmas.KeccakLane
import Proofs.Lemmas.KeccakPad
import Proofs.Lemmas.KeccakString

namespace Proofs.Lemmas.KeccakSponge
open Model Model.Keccak Model.Py Proofs.Lemmas.KeccakBits Proofs.Lemmas.KeccakLane Proofs.Lemmas.KeccakPad
open Proofs.Lemmas.KeccakString
open Spec.Keccak (stateOfString stringOfState xorString)
open Proofs.Lemmas.BitsBitVec (ofBV ofBV_wf xor_ofBV)

theorem bit_bitsOf {P : Bits} (h : P.WF) (i : Nat) : bit (bitsOf P) i = P.ival.testBit i :=
  BitsList.getD_bitsOf P h i

def laneBits {w} (v : BitVec w) : List Bool := (List.range w).map v.getLsbD

theorem bit_laneBits {w} (v : BitVec w) (t : Nat) : bit (laneBits v) t = v.getLsbD t := by
  by_cases ht : t < w
  · simp [bit, laneBits, List.getD_eq_getElem?_getD, List.getElem?_map, List.getElem?_range ht]
  · rw [bit_of_length_le (by simp [laneBits]; omega)]
    exact (BitVec.getLsbD_of_ge v t (by omega)).symm

theorem bitsOf_B {w} (v : BitVec w) : bitsOf (B v) = laneBits v := by
  apply ext_bit (by simp [B, laneBits])
  intro i _
  rw [B_eq, bit_bitsOf (ofBV_wf v), bit_laneBits]
  rfl

theorem load_eq (w : Nat) (P : Bits) : load w P = toLanes (stateOfString w (bitsOf P)) := by
  apply eq_toLanes _ _ (by simp [load])
  intro l hl
  simp only [load, Fold.getD_map_range, hl, stateOfString, Vector.getElem_ofFn]
  refine Bits.eq_of_size_ival rfl (Nat.eq_of_testBit_eq fun t => ?_)
  simp only [Bits.setSize, ofBV, BitVec.toNat_ofNat, Nat.testBit_mod_two_pow, testBit_bitsToNat]
  rw [← bit_bitsOf (sliceClip_WF _ _ _), bitsOf_sliceClip, bit_drop, bit_take, bit_take, bit_drop, Nat.mul_comm]
  by_cases ht : t < w
  · have : w * l + t < w * l + w := by omega
    simp [ht, this]
  · simp [ht]

theorem xorState_toLanes {w} (A B : Spec.Keccak.State w) :
    xorState (toLanes A) (toLanes B) = toLanes (Vector.zipWith (· ^^^ ·) A B) := by
  apply List.ext_getElem
  · simp [xorState, toLanes]
  · intro i h1 h2
    simp [xorState, toLanes, B_eq, xor_ofBV]

/-- `while i<25 and len(z)<=r` stops early, but only once more than r bits are there: up to the cut it is the
    concatenation of all lanes -/
theorem dump_cond_eq (r : Nat) (ls : List Bits) (z : Bits) (hz : z.WF) :
    (ls.foldl (fun (z : Bits) lane => if z.size ≤ r then z.concat lane else z) z).setSize r
      = (ls.foldl Bits.concat z).setSize r := by
  have h := Fold.foldl_rel (fun z z' : Bits => z'.WF ∧ (z = z' ∨ r < z.size ∧ r ≤ z'.size ∧ z.setSize r = z'.setSize r))
    (fun (z : Bits) lane => if z.size ≤ r then z.concat lane else z) Bits.concat ls
    (fun l _ z z' ⟨hz', h⟩ => ⟨Bits.concat_wf _ _, by
      rcases h with rfl | ⟨h1, h2, h3⟩
      · by_cases hle : z.size ≤ r
        · simp only [hle, if_true, true_or]
        · simp only [hle, if_false]
          exact Or.inr ⟨by omega, by rw [concat_size]; omega, (Bits.setSize_concat_of_le hz' l (by omega)).symm⟩
      · simp only [Nat.not_le.mpr h1, if_false]
        exact Or.inr ⟨h1, by rw [concat_size]; omega, h3.trans (Bits.setSize_concat_of_le hz' l h2).symm⟩⟩)
    (a := z) (b := z) ⟨hz, Or.inl rfl⟩
  rcases h.2 with h | h
  · rw [h]
  · exact h.2.2

theorem dump_spec {w} (A : Spec.Keccak.State w) (r : Nat) (hr : r ≤ 25 * w) :
    ∃ X, dump w (toLanes A) r = .ok X ∧ X.WF ∧ X.size = r ∧ bitsOf X = (stringOfState A).take r := by
  have hnot : ¬ r > 25 * w := by omega
  refine ⟨((toLanes A).foldl (fun (z : Bits) lane => if z.size ≤ r then z.concat lane else z) ⟨0, 0⟩).setSize r,
    by simp only [dump, hnot, if_false], Bits.setSize_wf _ _, rfl, ?_⟩
  rw [dump_cond_eq r _ _ (by simp [Bits.WF])]
  have hf := Bits.bools_foldl_concat (toLanes A) ⟨0, 0⟩ (by simp [Bits.WF])
  have hbits : bitsOf ((toLanes A).foldl Bits.concat ⟨0, 0⟩) = stringOfState A := by
    have h0 : Bits.bools (⟨0, 0⟩ : Bits) = [] := rfl
    rw [bitsOf_eq, hf.2, List.flatMap_def, stringOfState_eq, h0, List.nil_append, toLanes, List.map_map]
    congr 1
  rw [bitsOf_setSize_le r (by rw [← bitsOf_length, hbits, stringOfState_length]; exact hr), hbits]

theorem zero_eq (w : Nat) : zero w = toLanes (Vector.replicate 25 (0 : BitVec w)) := by
  simp [zero, toLanes, B]

theorem pack_spec (X : Bits) (hX : X.WF) : X.pack = Spec.Keccak.bytesOfBits (bitsOf X) := by
  have hn : (X.size + 7) / 8 = nblk 8 X.size := rfl
  rw [Bits.pack_le_eq X hX, Bytes.leBytes_eq_map, Spec.Keccak.bytesOfBits, chunksOf_eq 8 (by omega), List.map_map,
    bitsOf_length, hn]
  refine List.map_congr_left fun j _ => Nat.eq_of_testBit_eq fun t => ?_
  have h256 : 256 ^ j = 2 ^ (8 * j) := by rw [Nat.pow_mul]
  rw [Function.comp, testBit_bitsToNat, bit_take, bit_drop, bit_bitsOf hX, h256, show (256 : Nat) = 2 ^ 8 from rfl,
    Nat.testBit_mod_two_pow, Nat.testBit_div_two_pow, Nat.add_comm]

open Spec.Keccak (fString absorbBlock squeezeBlocks keccakF)

def absorbS {w} (A : Spec.Keccak.State w) (blocks : List Bits) : Spec.Keccak.State w :=
  blocks.foldl (fun A P => keccakF w (Vector.zipWith (· ^^^ ·) A (stateOfString w (bitsOf P)))) A

theorem absorb_toLanes (c : Cfg)
    (hf : ∀ A : Spec.Keccak.State c.w, f c.w c.n (toLanes A) = toLanes (keccakF c.w A))
    (blocks : List Bits) (A : Spec.Keccak.State c.w) : absorb c (toLanes A) blocks = toLanes (absorbS A blocks) :=
  Fold.foldl_sim toLanes _ _ _ (fun P _ A => by rw [load_eq, xorState_toLanes, hf]) A

theorem stringOfState_absorbS {w} (hw : 0 < w) (r : Nat) (hr25 : r ≤ 25 * w) (blocks : List Bits) (hg : Good r blocks)
    (A : Spec.Keccak.State w) :
    stringOfState (absorbS A blocks) = (blocks.map bitsOf).foldl (absorbBlock (fString w) (25 * w) r) (stringOfState A) := by
  rw [List.foldl_map]
  refine (Fold.foldl_sim stringOfState _ _ _ (fun P hP A => ?_) A).symm
  rw [absorbBlock, ← (hg P hP).2, ← bitsOf_length P,
    ← stringOfState_stateOfString hw _ (by rw [bitsOf_length, (hg P hP).2]; exact hr25), ← stringOfState_xor hw,
    fString_stringOfState]

theorem squeezeLoop_refines (c : Cfg) (r : Nat) (hr : 0 < r) (hr25 : r ≤ 25 * c.w)
    (hf : ∀ A : Spec.Keccak.State c.w, f c.w c.n (toLanes A) = toLanes (keccakF c.w A)) (d : Nat) :
    ∀ (fuel : Nat) (A : Spec.Keccak.State c.w) (Z : Bits), Z.WF → d ≤ fuel + Z.size →
      ∃ Z', squeezeLoop c r d fuel (toLanes A) Z = .ok Z' ∧ Z'.WF ∧
        bitsOf Z' = bitsOf Z ++
          squeezeBlocks (fString c.w) r (nblk r (d - Z.size)) (fString c.w (stringOfState A)) := by
  intro fuel
  induction fuel with
  | zero =>
    intro A Z hZ hd
    exact ⟨Z, rfl, hZ, by rw [squeeze_done _ r hr (by omega), List.append_nil]⟩
  | succ fuel ih =>
    intro A Z hZ hd
    by_cases hlt : Z.size < d
    · obtain ⟨z, hz1, hz2, hz3, hz4⟩ := dump_spec (keccakF c.w A) r hr25
      obtain ⟨Z', h1, h2, h3⟩ := ih (keccakF c.w A) (Z.concat z) (Bits.concat_wf _ _) (by simp [hz3]; omega)
      refine ⟨Z', ?_, h2, ?_⟩
      · simp only [squeezeLoop, hlt, if_true, hf, hz1]
        exact h1
      · have hs : fString c.w (stringOfState A) = stringOfState (keccakF c.w A) := fString_stringOfState A
        rw [h3, bitsOf_concat hZ, hz4, List.append_assoc, squeeze_more _ r hr hlt, hs, concat_size, hz3]
    · exact ⟨Z, by simp only [squeezeLoop, hlt, if_false], hZ,
        by rw [squeeze_done _ r hr (Nat.le_of_not_lt hlt), List.append_nil]⟩

/-- `r` is the rate `Keccak.__call__` settles on (the object's own or the call's; `c.r` is not read); `hf` is discharged
    by `Proofs.C04.f_refines` for every supported width -/
theorem callAt_refines (c : Cfg) (r : Nat) (hr : 0 < r) (hr25 : r ≤ 25 * c.w)
    (hf : ∀ A : Spec.Keccak.State c.w, f c.w c.n (toLanes A) = toLanes (keccakF c.w A))
    (d : Nat) (hd : 0 < d) (hout : c.outlen = some d)
    (M : List Nat) (hM : ∀ b ∈ M, b < 256) (bitlen : Option Nat) (hL : ∀ L, bitlen = some L → L ≤ 8 * M.length) :
    callAt c r M bitlen
      = .ok (Spec.Keccak.bytesOfBits (Spec.Keccak.keccak c.w r (msgBits c.duplexing M bitlen) d)) := by
  have hw : 0 < c.w := by omega
  obtain ⟨blocks, hb1, hb2, hb3⟩ := iterblocks_spec_aux r hr c.duplexing M hM bitlen hL
  obtain ⟨Z0, hz1, hz2, hz3, hz4⟩ := dump_spec (absorbS (Vector.replicate 25 0) blocks) r hr25
  obtain ⟨Z', hq1, hq2, hq3⟩ := squeezeLoop_refines c r hr hr25 hf d d (absorbS (Vector.replicate 25 0) blocks) Z0 hz2
    (by omega)
  simp only [callAt, hb1, bind, Except.bind, zero_eq, absorb_toLanes c hf, hz1, hout, hq1, pure, Except.pure]
  congr 1
  rw [pack_spec _ (sliceClip_WF _ _ _), bitsOf_sliceClip, List.drop_zero, hq3, hz4]
  congr 1
  simp only [Spec.Keccak.keccak, Spec.Keccak.sponge]
  rw [← hb3, chunksOf_of_Good hr hb2, ← stringOfState_zero hw, ← stringOfState_absorbS hw r hr25 blocks hb2]
  have hn : (d + r - 1) / r = nblk r (d - 0) := rfl
  rw [hn, squeeze_more _ r hr hd, hz3, Nat.zero_add]

theorem suffix_bits (M : List Nat) (s k : Nat) :
    msgBits true (M ++ [s]) (some (8 * M.length + k))
      = Spec.Keccak.bitsOfBytes M ++ ((List.range 8).map s.testBit).take k := by
  simp only [msgBits, if_true, Option.getD_some, Spec.Keccak.msgBitsLSB, bitsOfBytes_append]
  rw [← bitsOfBytes_length M, List.take_length_add_append]
  simp [Spec.Keccak.bitsOfBytes]

end Proofs.Lemmas.KeccakSponge
