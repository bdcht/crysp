/-
  Helper lemmas for C05 (modes of operation): block splitting, exception-free folds, xor, the nopadding generator, the
  cipher hypotheses `Implements`, CBC chaining in both directions.
-/
import Model.Mode
import Spec.Mode
import Proofs.Lemmas.Bytes
import Proofs.Lemmas.Fold
import Proofs.Lemmas.Pair
import Proofs.Lemmas.PaddingIter
namespace Proofs.Lemmas.ModeL
open Model Model.Mode Proofs.Lemmas.Bytes

def Bytes (X : List Nat) : Prop := ∀ x ∈ X, x < 256
def IsBlock (l : Nat) (b : List Nat) : Prop := b.length = l ∧ Bytes b

theorem Bytes.append {A B : List Nat} (ha : Bytes A) (hb : Bytes B) : Bytes (A ++ B) := AllBytes.append ha hb

theorem xorstr_eq_spec (a b : List Nat) : xorstr a b = Spec.Mode.xor a b := rfl

theorem xor_length {a b : List Nat} : (xorstr a b).length = min a.length b.length := List.length_zipWith

theorem xor_comm (a b : List Nat) : xorstr a b = xorstr b a := List.zipWith_comm_of_comm Nat.xor_comm

theorem xor_cancel_right (a b : List Nat) (h : a.length ≤ b.length) : xorstr (xorstr a b) b = a :=
  Fold.zipWith_cancel Bits.xor_cancel_right a b h

theorem xor_isBlock {l : Nat} {a b : List Nat} (ha : IsBlock l a) (hb : IsBlock l b) : IsBlock l (xorstr a b) :=
  ⟨by rw [xor_length, ha.1, hb.1, Nat.min_self], AllBytes.zipWith_xor ha.2 hb.2⟩

theorem xor_zeros_left : ∀ (n : Nat) (x : List Nat), x.length ≤ n → xorstr (List.replicate n 0) x = x
  | _, [], _ => by simp [xorstr]
  | 0, a :: x, h => by simp at h
  | n+1, a :: x, h => by
    have := xor_zeros_left n x (by simpa using h)
    simp only [xorstr] at this
    simp [xorstr, List.replicate_succ, this]

theorem isBlock_cons {l : Nat} {iv : List Nat} {Q : List (List Nat)} (hiv : IsBlock l iv) (hQ : ∀ x ∈ Q, IsBlock l x) :
    ∀ x ∈ iv :: Q, IsBlock l x :=
  List.forall_mem_cons.2 ⟨hiv, hQ⟩

theorem isBlock_snoc {l : Nat} {P' : List (List Nat)} {pl : List Nat} (hP' : ∀ x ∈ P', IsBlock l x) (hpl : IsBlock l pl) :
    ∀ x ∈ P' ++ [pl], IsBlock l x := by
  intro x hx
  rcases List.mem_append.1 hx with hx | hx
  · exact hP' x hx
  · rw [List.mem_singleton.1 hx]
    exact hpl

theorem isBlock_len {l : Nat} {Bs : List (List Nat)} (h : ∀ x ∈ Bs, IsBlock l x) : ∀ x ∈ Bs, x.length = l :=
  fun x hx => (h x hx).1

theorem mapE_ok {α β} (f : α → Except Err β) (g : α → β) :
    ∀ (l : List α), (∀ a ∈ l, f a = .ok (g a)) → mapE f l = .ok (l.map g)
  | [], _ => rfl
  | a :: as, h => by
    have h1 := h a (by simp)
    have h2 := mapE_ok f g as (fun x hx => h x (List.mem_cons_of_mem _ hx))
    simp [mapE, h1, h2]

theorem forBlocks_none (bs : List (List Nat)) (f : List (List Nat) → Except Err (List (List Nat))) :
    forBlocks (bs, none) f = f bs := by
  unfold forBlocks
  cases f bs <;> rfl

theorem length_join_of_all (l : Nat) (Bs : List (List Nat)) (h : ∀ b ∈ Bs, b.length = l) :
    (join Bs).length = Bs.length * l := by
  rw [join, ← List.flatMap_id, Fold.length_flatMap_const id l Bs h]

theorem blocks_eq_chunks (l : Nat) (hl : 0 < l) (X : List Nat) : Spec.Mode.blocks l X = Py.chunks l X := by
  rw [chunks_eq_range_map l hl X, chunks_length l hl]
  rfl

theorem blocks_full (l : Nat) (hl : 0 < l) (Bs : List (List Nat)) (hall : ∀ x ∈ Bs, x.length = l) :
    Spec.Mode.blocks l (join Bs) = Bs := by
  have := chunks_flatten_append l hl Bs [] hall
  rwa [List.append_nil, chunks_nil, List.append_nil, ← blocks_eq_chunks l hl] at this

theorem readBlocks_eq_chunks (l : Nat) (hl : 0 < l) : ∀ (n : Nat) (X : List Nat), n * l ≤ X.length →
    readBlocks l n X = Py.chunks l (X.take (n * l))
  | 0, X, _ => by rw [Nat.zero_mul, List.take_zero, chunks_nil]; rfl
  | n+1, X, h => by
    have hne : X.take ((n + 1) * l) ≠ [] := by
      intro h0
      have := congrArg List.length h0
      rw [List.length_take, Nat.min_eq_left h] at this
      exact absurd this (Nat.ne_of_gt (Nat.mul_pos (Nat.succ_pos n) hl))
    rw [chunks_cons l hl _ hne, List.take_take, List.drop_take, Nat.succ_mul, Nat.add_sub_cancel,
      Nat.min_eq_left (Nat.le_add_left _ _), readBlocks,
      readBlocks_eq_chunks l hl n (X.drop l) (by rw [List.length_drop]; rw [Nat.succ_mul] at h; omega)]

theorem readBlocks_join (l : Nat) (hl : 0 < l) (Bs : List (List Nat)) (h : ∀ b ∈ Bs, b.length = l) :
    readBlocks l Bs.length (join Bs) = Bs := by
  have hlen := length_join_of_all l Bs h
  rw [readBlocks_eq_chunks l hl _ _ (Nat.le_of_eq hlen.symm), ← hlen, List.take_length, ← blocks_eq_chunks l hl,
    blocks_full l hl Bs h]

theorem blocklen_mk (s : Scheme) (l : Nat) : (⟨s, 8 * l⟩ : Padder).blocklen = l := by
  simp [Padder.blocklen]

theorem blocks_of_bytes {l : Nat} (hl : 0 < l) {X : List Nat} (hn : ∃ n, X.length = n * l) (hX : Bytes X) :
    (∀ b ∈ Spec.Mode.blocks l X, IsBlock l b) ∧ join (Spec.Mode.blocks l X) = X := by
  obtain ⟨n, hn⟩ := hn
  rw [blocks_eq_chunks l hl]
  refine ⟨fun b hb => ⟨chunks_full l hl X ⟨n, by rw [hn, Nat.mul_comm]⟩ b hb, fun x hx => hX x ?_⟩, chunks_flatten l hl X⟩
  rw [← chunks_flatten l hl X]
  exact List.mem_flatten.2 ⟨b, hb, hx⟩

def toModel : Spec.ModePad.Scheme → Scheme
  | .none => .no
  | .pkcs7 => .pkcs7
  | .x923 => .x923
  | .bit => .bit

/-- nopadding, any non-empty message: the loop's ⌊(|M|-1)/l⌋ full blocks, then the last piece (1..l bytes), which `lastblock`
    returns as it is — the Spec's blocks -/
theorem iter_no (l : Nat) (hl : 0 < l) (M : List Nat) (hpos : 0 < M.length) :
    iter ⟨.no, 8 * l⟩ M = (Spec.Mode.blocks l M, none) := by
  have hlc : (⟨.no, 8 * l⟩ : Padder).loopCount (8 * M.length) = (M.length - 1) / l := by
    unfold Padder.loopCount
    rw [if_neg (by omega), ← Nat.div_div_eq_div_mul]
    congr 1
    omega
  have hd : ((M.drop ((M.length - 1) / l * l)).take l).drop l = [] :=
    List.drop_eq_nil_of_le (List.length_take_le _ _)
  unfold Spec.Mode.blocks iter
  rw [show M.length + l - 1 = (M.length - 1) + l by omega, Nat.add_div_right _ hl, List.range_succ, List.map_append,
    Padding.iterblocks_padded _ {} M none rfl (Nat.le_refl _),
    show Padder.lastblock ⟨.no, 8 * l⟩ _ _ _ = .ok (_, _) from rfl, Padding.finishTail_ok _ _ _ _ _ _ _ rfl]
  simp only [hlc, Option.getD_none, Padder.blockAt, Padder.loopYields, blocklen_mk, hd, List.take_take, Nat.min_self,
    List.length_nil, Nat.lt_irrefl, gt_iff_lt, if_false, List.map_append, List.map_map, List.map_cons, List.map_nil]
  rfl

theorem iter_no_nil (l : Nat) : iter ⟨.no, 8 * l⟩ [] = ([[]], none) := by
  unfold iter
  rw [Padding.iterblocks_padded _ {} [] none rfl (Nat.le_refl _),
    show Padder.lastblock ⟨.no, 8 * l⟩ _ _ _ = .ok (_, _) from rfl, Padding.finishTail_ok _ _ _ _ _ _ _ rfl]
  simp [Padder.blockAt, Padder.loopCount, Padder.loopYields]

theorem remove_no (l : Nat) (M : List Nat) (st : PadState) : Padder.remove ⟨.no, 8 * l⟩ st M = .ok M := rfl

structure Implements (c : BlockCipher) (k : Spec.Mode.Cipher) : Prop where
  len_eq : k.len = c.len
  len_pos : 0 < c.len
  enc_ok : ∀ b, IsBlock c.len b → c.enc b = .ok (k.E b)
  dec_ok : ∀ b, IsBlock c.len b → c.dec b = .ok (k.D b)
  E_block : ∀ b, IsBlock c.len b → IsBlock c.len (k.E b)
  D_block : ∀ b, IsBlock c.len b → IsBlock c.len (k.D b)
  D_E : ∀ b, IsBlock c.len b → k.D (k.E b) = b
  E_D : ∀ b, IsBlock c.len b → k.E (k.D b) = b

def totalCipher (c : BlockCipher) : Spec.Mode.Cipher :=
  ⟨c.len, fun b => match c.enc b with | .ok y => y | .error _ => [],
          fun b => match c.dec b with | .ok y => y | .error _ => []⟩

theorem implements_of_model (c : BlockCipher) (hpos : 0 < c.len)
    (henc : ∀ b, IsBlock c.len b → ∃ y, c.enc b = .ok y ∧ IsBlock c.len y ∧ c.dec y = .ok b)
    (hdec : ∀ y, IsBlock c.len y → ∃ b, c.dec y = .ok b ∧ IsBlock c.len b ∧ c.enc b = .ok y) :
    Implements c (totalCipher c) where
  len_eq := rfl
  len_pos := hpos
  enc_ok := fun b hb => by obtain ⟨y, h1, _, _⟩ := henc b hb; simp [totalCipher, h1]
  dec_ok := fun b hb => by obtain ⟨y, h1, _, _⟩ := hdec b hb; simp [totalCipher, h1]
  E_block := fun b hb => by obtain ⟨y, h1, h2, _⟩ := henc b hb; simpa [totalCipher, h1] using h2
  D_block := fun b hb => by obtain ⟨y, h1, h2, _⟩ := hdec b hb; simpa [totalCipher, h1] using h2
  D_E := fun b hb => by obtain ⟨y, h1, _, h3⟩ := henc b hb; simp [totalCipher, h1, h3]
  E_D := fun b hb => by obtain ⟨y, h1, _, h3⟩ := hdec b hb; simp [totalCipher, h1, h3]

theorem Implements.of_pair {c : BlockCipher} {l : Nat} {f g E D : List Nat → List Nat}
    (hlen : l = c.len) (hpos : 0 < c.len) (p : Pair (IsBlock c.len) f g E D)
    (hf : ∀ {b}, IsBlock c.len b → c.enc b = .ok (f b)) (hg : ∀ {b}, IsBlock c.len b → c.dec b = .ok (g b)) :
    Implements c ⟨l, E, D⟩ where
  len_eq := hlen
  len_pos := hpos
  enc_ok _ hb := (hf hb).trans (congrArg _ (p.spec hb).1)
  dec_ok _ hb := (hg hb).trans (congrArg _ (p.spec hb).2)
  E_block b hb := show IsBlock c.len (E b) from (p.spec hb).1 ▸ (p.st hb).1
  D_block b hb := show IsBlock c.len (D b) from (p.spec hb).2 ▸ (p.st hb).2
  D_E _ hb := (p.spec_undo hb).1
  E_D _ hb := (p.spec_undo hb).2

theorem mkPad_ok (c : BlockCipher) (s : Scheme) (h : 0 < c.len) : mkPad c s = .ok ⟨s, 8 * c.len⟩ := by
  unfold mkPad Padder.mk?
  rw [if_neg (by omega), if_neg (by omega)]

variable {c : BlockCipher} {k : Spec.Mode.Cipher}

theorem Implements.pair (h : Implements c k) : Pair (IsBlock c.len) k.E k.D k.E k.D :=
  .self (fun hb => ⟨h.E_block _ hb, h.D_block _ hb⟩) fun hb => ⟨h.D_E _ hb, h.E_D _ hb⟩

theorem cbcChain_eq (h : Implements c k) : ∀ (P : List (List Nat)) (iv : List Nat), IsBlock c.len iv →
    (∀ b ∈ P, IsBlock c.len b) →
    cbcChain c iv P = .ok (Spec.Mode.cbcEncrypt k iv P) ∧ ∀ b ∈ Spec.Mode.cbcEncrypt k iv P, IsBlock c.len b
  | [], iv, _, _ => ⟨rfl, by intro b hb; simp [Spec.Mode.cbcEncrypt] at hb⟩
  | p :: ps, iv, hiv, hP => by
    have hx : IsBlock c.len (xorstr p iv) := xor_isBlock (hP p (by simp)) hiv
    have hy := h.E_block _ hx
    obtain ⟨ih1, ih2⟩ := cbcChain_eq h ps (k.E (xorstr p iv)) hy (fun b hb => hP b (List.mem_cons_of_mem _ hb))
    constructor
    · simp only [cbcChain, h.enc_ok _ hx, ih1, Spec.Mode.cbcEncrypt, ← xorstr_eq_spec]
    · intro b hb
      simp only [Spec.Mode.cbcEncrypt, ← xorstr_eq_spec, List.mem_cons] at hb
      rcases hb with rfl | hb
      · exact hy
      · exact ih2 b hb

theorem cbcDecrypt_encrypt (h : Implements c k) : ∀ (P : List (List Nat)) (iv : List Nat), IsBlock c.len iv →
    (∀ b ∈ P, IsBlock c.len b) → Spec.Mode.cbcDecrypt k iv (Spec.Mode.cbcEncrypt k iv P) = P
  | [], _, _, _ => rfl
  | p :: ps, iv, hiv, hP => by
    have hp := hP p (by simp)
    have hx : IsBlock c.len (xorstr p iv) := xor_isBlock hp hiv
    simp only [Spec.Mode.cbcEncrypt, Spec.Mode.cbcDecrypt, ← xorstr_eq_spec]
    rw [h.D_E _ hx, xor_cancel_right p iv (by rw [hp.1, hiv.1]; exact Nat.le_refl _),
        cbcDecrypt_encrypt h ps _ (h.E_block _ hx) (fun b hb => hP b (List.mem_cons_of_mem _ hb))]

theorem cbcEncrypt_length (k : Spec.Mode.Cipher) : ∀ (P : List (List Nat)) (iv : List Nat),
    (Spec.Mode.cbcEncrypt k iv P).length = P.length
  | [], _ => rfl
  | p :: ps, iv => by simp [Spec.Mode.cbcEncrypt, cbcEncrypt_length k ps]

theorem cbcEncrypt_snoc (k : Spec.Mode.Cipher) : ∀ (P : List (List Nat)) (iv pl : List Nat),
    Spec.Mode.cbcEncrypt k iv (P ++ [pl])
      = Spec.Mode.cbcEncrypt k iv P ++ [k.E (Spec.Mode.xor pl ((Spec.Mode.cbcEncrypt k iv P).getLastD iv))]
  | [], _, _ => rfl
  | p :: ps, iv, pl => by
    simp only [List.cons_append, Spec.Mode.cbcEncrypt, cbcEncrypt_snoc k ps _ pl, List.getLastD_cons]

theorem cbcDecrypt_snoc (k : Spec.Mode.Cipher) : ∀ (xs : List (List Nat)) (c0 y : List Nat),
    Spec.Mode.cbcDecrypt k c0 (xs ++ [y]) = Spec.Mode.cbcDecrypt k c0 xs ++ [Spec.Mode.xor (k.D y) (xs.getLastD c0)]
  | [], _, _ => rfl
  | x :: xs, c0, y => by
    simp only [List.cons_append, Spec.Mode.cbcDecrypt, cbcDecrypt_snoc k xs x y, List.getLastD_cons]

theorem join_snoc (Bs : List (List Nat)) (b : List Nat) : join (Bs ++ [b]) = join Bs ++ b := by
  simp [join]

theorem join_snoc2 (Bs : List (List Nat)) (y t : List Nat) : join (Bs ++ [y, t]) = join (Bs ++ [y]) ++ t := by
  simp [join]

theorem last_of_join (l : Nat) (c0 : List Nat) (Q : List (List Nat)) (h0 : c0.length = l) (hQ : ∀ b ∈ Q, b.length = l) :
    (join (c0 :: Q)).drop ((join (c0 :: Q)).length - l) = Q.getLastD c0 := by
  rcases List.eq_nil_or_concat Q with rfl | ⟨Q', q, rfl⟩
  · simp [join, h0]
  · rw [List.concat_eq_append, ← List.cons_append, join_snoc, Fold.drop_len_sub _ _ _ (hQ q (by simp)), List.getLastD_concat]

theorem cbcUnchain_eq (h : Implements c k) (c0 : List Nat) (h0 : c0.length = c.len) : ∀ (n : Nat) (Q : List (List Nat))
    (acc : List (List Nat)) (fuel : Nat), Q.length = n → (∀ b ∈ Q, IsBlock c.len b) → n ≤ fuel →
    cbcUnchain c c.len fuel (join (c0 :: Q)) acc = .ok (Spec.Mode.cbcDecrypt k c0 Q ++ acc)
  | 0, Q, acc, fuel, hn, _, _ => by
    rw [List.length_eq_zero_iff.1 hn]
    cases fuel <;> simp [cbcUnchain, join, h0, Spec.Mode.cbcDecrypt]
  | n+1, Q, acc, fuel, hn, hQ, hf => by
    obtain ⟨Q', q, rfl⟩ : ∃ Q' q, Q = Q' ++ [q] := by
      rcases List.eq_nil_or_concat Q with rfl | ⟨Q', q, rfl⟩
      · cases hn
      · exact ⟨Q', q, List.concat_eq_append⟩
    obtain ⟨f, rfl⟩ : ∃ f, fuel = f + 1 := ⟨fuel - 1, by omega⟩
    have hq := hQ q (by simp)
    have hQ' : ∀ b ∈ Q', IsBlock c.len b := fun b hb => hQ b (List.mem_append_left _ hb)
    have hlen : (join (c0 :: Q')).length ≥ c.len := by
      simp only [join, List.flatten_cons, List.length_append, h0]; omega
    have hpos := h.len_pos
    rw [← List.cons_append, join_snoc]
    unfold cbcUnchain
    rw [if_pos (by rw [List.length_append, hq.1]; omega)]
    simp only [Fold.drop_len_sub _ _ _ hq.1, Fold.take_len_sub _ _ _ hq.1, h.dec_ok _ hq]
    rw [last_of_join c.len c0 Q' h0 (fun b hb => (hQ' b hb).1),
      cbcUnchain_eq h c0 h0 n Q' _ f (by simpa using hn) hQ' (by omega), cbcDecrypt_snoc, List.append_assoc,
      ← xorstr_eq_spec, xor_comm]
    rfl

theorem cbcUnchain_join (h : Implements c k) (c0 : List Nat) (h0 : c0.length = c.len) (Q : List (List Nat))
    (hQ : ∀ b ∈ Q, IsBlock c.len b) (acc : List (List Nat)) :
    cbcUnchain c c.len (join (c0 :: Q)).length (join (c0 :: Q)) acc = .ok (Spec.Mode.cbcDecrypt k c0 Q ++ acc) := by
  refine cbcUnchain_eq h c0 h0 Q.length Q acc _ rfl hQ ?_
  have hl : (join (c0 :: Q)).length = (Q.length + 1) * c.len :=
    length_join_of_all c.len (c0 :: Q) fun b hb => by
      rcases List.mem_cons.1 hb with rfl | hb
      · exact h0
      · exact (hQ b hb).1
  rw [hl]
  calc Q.length ≤ (Q.length + 1) * 1 := by omega
    _ ≤ (Q.length + 1) * c.len := Nat.mul_le_mul_left _ h.len_pos

end Proofs.Lemmas.ModeL
