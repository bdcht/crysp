/-
  `Salsa20.enc` on words and bytes: `split(8)` of a word vector, `bytes(c.ival)`, counter and nonce words, the
  encryption loop over the 64-byte pieces of the message, and what follows for the whole of `enc`.
-/
import Proofs.Lemmas.SalsaKey
namespace Proofs.Lemmas.StreamEnc
open Model Model.Poly Proofs.Lemmas.StreamPoly Proofs.Lemmas.SalsaRounds Proofs.Lemmas.SalsaKey

theorem digits_word (w : Word) :
    Spec.Poly.digits 32 8 w.toNat = (Spec.Salsa20.littleendianInv w).map BitVec.toNat := by
  simp [Spec.Poly.digits, Spec.Poly.pieces, List.range_succ, Spec.Salsa20.littleendianInv]

/-- `x.split(8)` of a vector of 32-bit words -/
theorem split8_ofBV (ws : List Word) : (ofBV ws).split 8 = .ok (ofBV (Spec.Salsa20.unwords ws)) := by
  rw [Proofs.PolyL.split_rechunk (a := ofBV ws) (Nat.zero_lt_succ 31) (ofBV_WF ws) (by decide) false]
  simp only [ofBV_size, ofBV_ival, List.map_map, Spec.Poly.rechunk, Bool.false_eq_true, if_false]
  apply congrArg fun l => Except.ok (Poly.mk l 8)
  rw [List.flatMap_map, List.map_flatMap, Spec.Salsa20.unwords, List.map_flatMap]
  apply Fold.flatMap_congr_mem
  intro w _
  show List.map Int.ofNat (Spec.Poly.digits 32 8 w.toNat) = _
  rw [digits_word, List.map_map]
  rfl

/-- `bytes(c.ival)` -/
theorem toBytes_ofBV (m : List Byte) : Salsa.toBytes (ofBV m).ival = .ok (m.map (·.toNat)) := by
  unfold Salsa.toBytes
  rw [if_pos, ofBV_ival, List.map_map]
  · rfl
  · simp only [ofBV_ival, List.all_map, List.all_eq_true, Function.comp, decide_eq_true_eq, Int.ofNat_eq_natCast]
    intro b _
    have := b.isLt
    omega

/-- the state words after `self.p[c:c+2] = (i & 0xffffffff, i >> 32)`: the 64-bit number `i` as two words at `c`, `c+1` -/
def ctrSet (c : Nat) (P : List Word) (i : Nat) : List Word :=
  (P.set c (BitVec.ofNat 32 (i % 2 ^ 32))).set (c + 1) (BitVec.ofNat 32 (i / 2 ^ 32))

theorem ctrSet_length (c : Nat) (P : List Word) (i : Nat) : (ctrSet c P i).length = P.length := by
  simp [ctrSet]

theorem ctrSet_ctrSet (c : Nat) (P : List Word) (i j : Nat) : ctrSet c (ctrSet c P i) j = ctrSet c P j := by
  unfold ctrSet
  apply List.ext_getElem
  · simp
  · intro n h1 h2
    simp only [List.getElem_set]
    grind

/-- the state words after `self.p[a:a+2] = v.split(32)` -/
def nonceSet (a : Nat) (P : List Word) (x : Nat) : List Word :=
  (P.set a (BitVec.ofNat 32 x)).set (a + 1) (BitVec.ofNat 32 (x / 2 ^ 32))

theorem nonceSet_eq (a : Nat) (P : List Word) (x : Nat) : nonceSet a P x = ctrSet a P x := by
  have h : BitVec.ofNat 32 (x % 2 ^ 32) = BitVec.ofNat 32 x :=
    BitVec.eq_of_toNat_eq (by simp only [BitVec.toNat_ofNat, Nat.mod_mod])
  rw [nonceSet, ctrSet, h]

theorem nonceSet_length (a : Nat) (P : List Word) (x : Nat) : (nonceSet a P x).length = P.length :=
  (congrArg List.length (nonceSet_eq a P x)).trans (ctrSet_length a P x)

structure VariantSpec (V : Salsa.Variant) (core : Nat → List Word → List Word) : Prop where
  hcore : ∀ n ws, ws.length = 16 → Salsa.core V (ofBV ws) n = .ok (ofBV (core n ws))
  hlen : ∀ n ws, ws.length = 16 → (core n ws).length = 16
  hc : V.ctrAt + 2 ≤ 16
  hn : V.nonceAt + 2 ≤ 16

theorem salsaSpec : VariantSpec Salsa.salsa Spec.Salsa20.coreWords :=
  ⟨salsaCore.core, salsaCore.core_length, by decide, by decide⟩

theorem chachaSpec : VariantSpec Chacha.chacha Spec.Chacha.coreWords :=
  ⟨chachaCore.core, chachaCore.core_length, by decide, by decide⟩

/-- `p[c:c+2] = (a,b)` -/
theorem setPair (P : List Word) (c : Nat) (hc : c + 2 ≤ P.length) (a b : Nat) :
    (ofBV P).setSlice (some (c : Int)) (some ((c : Int) + 2)) none (.list [(a : Int), (b : Int)])
      = .ok (ofBV ((P.set c (BitVec.ofNat 32 a)).set (c + 1) (BitVec.ofNat 32 b))) :=
  setSlice_ofBV (by decide) P c [a, b] hc

/-- `keystream`/`enc` without a key, or with a nonce that is not 64 bits wide: the assertion fails, whatever `p` holds -/
theorem setNonce_rejects (V : Salsa.Variant) (s : Salsa.State) (v : Bits) (h : s.K = none ∨ v.size ≠ 64) :
    Salsa.setNonce V s v = .error "AssertionError" := by
  unfold Salsa.setNonce
  rcases h with h | h
  · simp only [h, Option.isNone_none, ↓reduceIte]
    rfl
  · by_cases hk : s.K.isNone
    · simp only [hk, ↓reduceIte]
      rfl
    · simp only [hk, Bool.false_eq_true, ↓reduceIte, h, ne_eq, not_false_eq_true]
      rfl

theorem setNonce_words {V core} (hV : VariantSpec V core) (K : List Bits) (P : List Word) (hP : P.length = 16) (dr : Nat)
    (x : Nat) :
    Salsa.setNonce V ⟨some K, ofBV P, dr⟩ ⟨x, 64⟩ = .ok ⟨some K, ofBV (nonceSet V.nonceAt P x), dr⟩ := by
  unfold Salsa.setNonce
  simp only [Option.isNone_some, Bool.false_eq_true, ↓reduceIte, ne_eq, not_true_eq_false, pure, Except.pure]
  rw [split32 x 2, Fold.ok_bind, ints32, Fold.ok_bind, wordsOfNat_two, List.map_cons, List.map_cons, List.map_nil,
    setPair P V.nonceAt (by rw [hP]; exact hV.hn), Fold.ok_bind, BitVec.ofNat_toNat, BitVec.ofNat_toNat]
  rfl

theorem block_words {V core} (hV : VariantSpec V core) (K : Option (List Bits)) (P : List Word) (hP : P.length = 16)
    (dr i : Nat) :
    Salsa.block V ⟨K, ofBV P, dr⟩ i =
      .ok (ofBV (core dr (ctrSet V.ctrAt P i)), ⟨K, ofBV (ctrSet V.ctrAt P i), dr⟩) := by
  unfold Salsa.block
  simp only [Int.ofNat_eq_natCast]
  rw [setPair P V.ctrAt (by rw [hP]; exact hV.hc), Fold.ok_bind, hV.hcore dr _ (by simpa using hP), Fold.ok_bind]
  rfl

def ksBlock (core : Nat → List Word → List Word) (dr c : Nat) (P : List Word) (i : Nat) : List Byte :=
  Spec.Salsa20.unwords (core dr (ctrSet c P i))

theorem unwords_length (ws : List Word) : (Spec.Salsa20.unwords ws).length = 4 * ws.length := by
  rw [Spec.Salsa20.unwords, Fold.length_flatMap_const _ 4 ws fun _ _ => rfl, Nat.mul_comm]

theorem ksBlock_length {V core} (hV : VariantSpec V core) (dr c : Nat) (P : List Word) (hP : P.length = 16) (i : Nat) :
    (ksBlock core dr c P i).length = 64 := by
  unfold ksBlock
  rw [unwords_length, hV.hlen _ _ (by rw [ctrSet_length]; exact hP)]

theorem ksBlock_ctrSet (core : Nat → List Word → List Word) (dr c : Nat) (P : List Word) (i : Nat) :
    ksBlock core dr c (ctrSet c P i) = ksBlock core dr c P := by
  funext j
  rw [ksBlock, ctrSet_ctrSet, ksBlock]

/-- `P'` holds the same constants and key as `P`: they differ at most in the nonce and counter positions -/
def SameKey (a c : Nat) (P P' : List Word) : Prop :=
  P'.length = P.length ∧ ∀ x i, ctrSet c (nonceSet a P' x) i = ctrSet c (nonceSet a P x) i

theorem SameKey.refl (a c : Nat) (P : List Word) : SameKey a c P P := ⟨rfl, fun _ _ => rfl⟩

theorem SameKey.trans {a c : Nat} {P P' P'' : List Word} (h1 : SameKey a c P P') (h2 : SameKey a c P' P'') :
    SameKey a c P P'' := ⟨h2.1.trans h1.1, fun x i => (h2.2 x i).trans (h1.2 x i)⟩

/-- writing two words at the nonce position or at the counter position leaves the key: both pairs are overwritten
    whenever a keystream block is computed -/
theorem SameKey.of_ctrSet {a c k : Nat} (hk : k = a ∨ k = c) (P : List Word) (j : Nat) :
    SameKey a c P (StreamEnc.ctrSet k P j) := by
  refine ⟨ctrSet_length _ _ _, fun x i => ?_⟩
  simp only [nonceSet_eq]
  unfold StreamEnc.ctrSet
  apply List.ext_getElem
  · simp
  · intro n h1 h2
    simp only [List.getElem_set]
    grind

theorem SameKey.ctrSet (a c : Nat) (P : List Word) (j : Nat) : SameKey a c P (ctrSet c P j) :=
  SameKey.of_ctrSet (.inr rfl) P j

theorem SameKey.nonceSet (a c : Nat) (P : List Word) (y : Nat) : SameKey a c P (nonceSet a P y) :=
  nonceSet_eq a P y ▸ SameKey.of_ctrSet (.inl rfl) P y

theorem ksBlock_sameKey (core : Nat → List Word → List Word) (dr : Nat) {a c : Nat} {P P' : List Word} (h : SameKey a c P P')
    (x : Nat) : ksBlock core dr c (nonceSet a P' x) = ksBlock core dr c (nonceSet a P x) := by
  funext i
  rw [ksBlock, h.2, ksBlock]

/-- the `for x in self.keystream(v)` loop of `enc`, piece by piece; the object afterwards has the same key -/
theorem encLoop_chunks {V core} (hV : VariantSpec V core) (K : Option (List Bits)) (dr : Nat)
    (cs : List (List Byte)) (hcs : ∀ b ∈ cs, b ≠ [] ∧ b.length ≤ 64) (P : List Word) (hP : P.length = 16)
    (i : Nat) (hi : i + cs.length ≤ 2 ^ 64) :
    ∃ P', SameKey V.nonceAt V.ctrAt P P' ∧
      Salsa.encLoop V ⟨K, ofBV P, dr⟩ i (cs.map (List.map (·.toNat))) =
        .ok ((encChunks (ksBlock core dr V.ctrAt P) i cs).map (·.toNat), ⟨K, ofBV P', dr⟩) := by
  induction cs generalizing P i with
  | nil =>
    simp only [List.map_nil, Salsa.encLoop, encChunks]
    split
    · rw [block_words hV K P hP]; exact ⟨_, SameKey.ctrSet _ _ P i, rfl⟩
    · exact ⟨_, SameKey.refl _ _ P, rfl⟩
  | cons b bs ih =>
    have hb := hcs b (by simp)
    have hi' : i < 2 ^ 64 := by simp only [List.length_cons] at hi; omega
    simp only [List.map_cons, Salsa.encLoop, hi', ↓reduceIte]
    rw [block_words hV K P hP, Fold.ok_bind]
    dsimp only
    rw [split8_ofBV, Fold.ok_bind]
    have hks := ksBlock_length hV dr V.ctrAt P hP i
    unfold ksBlock at hks
    rw [List.length_map, setDim_ofBV _ _ (by intro h; exact hb.1 (List.eq_nil_of_length_eq_zero h)) (by rw [hks]; exact hb.2), Fold.ok_bind,
      ofBytes_ofBV, xor_ofBV (by decide) _ _ (by rw [List.length_take, hks]; have := hb.2; omega), Fold.ok_bind, toBytes_ofBV, Fold.ok_bind]
    obtain ⟨P', hk, hs'⟩ := ih (fun b hb => hcs b (by simp [hb])) (ctrSet V.ctrAt P i) (by rw [ctrSet_length]; exact hP) (i + 1)
      (by simp only [List.length_cons] at hi; omega)
    rw [hs', Fold.ok_bind, ksBlock_ctrSet]
    refine ⟨P', (SameKey.ctrSet _ _ P i).trans hk, ?_⟩
    simp only [pure, Except.pure, encChunks, List.map_append, xorB, ksBlock, zipWith_take_comm]

/-- `enc(v,M) = M xor KS[0:|M|]`, KS the blocks `b0, b0+1, …` of the state words `P` with the nonce `x` written -/
theorem encFrom_words {V core} (hV : VariantSpec V core) (K : List Bits) (P : List Word) (hP : P.length = 16) (dr x b0 : Nat)
    (M : List Byte) (hb : b0 + (M.length + 63) / 64 ≤ 2 ^ 64) :
    ∃ P', SameKey V.nonceAt V.ctrAt P P' ∧
      Salsa.encFrom V ⟨some K, ofBV P, dr⟩ ⟨x, 64⟩ b0 (M.map (·.toNat)) =
        .ok ((encW (ksBlock core dr V.ctrAt (nonceSet V.nonceAt P x)) b0 M).map (·.toNat), ⟨some K, ofBV P', dr⟩) := by
  unfold Salsa.encFrom
  rw [setNonce_words hV K P hP dr x, Fold.ok_bind, Bytes.chunks_map _ 64 (by decide)]
  have hN : (nonceSet V.nonceAt P x).length = 16 := by rw [nonceSet_length]; exact hP
  obtain ⟨P', hk, h⟩ := encLoop_chunks hV (some K) dr (Py.chunks 64 M) (Bytes.chunks_mem 64 (by decide) M)
    (nonceSet V.nonceAt P x) hN b0 (by rw [Bytes.chunks_length 64 (by decide)]; exact hb)
  refine ⟨P', (SameKey.nonceSet _ _ P x).trans hk, ?_⟩
  rw [h, encChunks_eq _ (ksBlock_length hV dr _ _ hN)]

theorem encFrom_length {V core} (hV : VariantSpec V core) (K : List Bits) (P : List Word) (hP : P.length = 16) (dr x b0 : Nat)
    (M : List Byte) (hb : b0 + (M.length + 63) / 64 ≤ 2 ^ 64) :
    ∃ C s', Salsa.encFrom V ⟨some K, ofBV P, dr⟩ ⟨x, 64⟩ b0 (M.map (·.toNat)) = .ok (C, s') ∧ C.length = M.length := by
  obtain ⟨P', _, h⟩ := encFrom_words hV K P hP dr x b0 M hb
  exact ⟨_, _, h, by rw [List.length_map, encW_length _ (ksBlock_length hV dr _ _ (by rw [nonceSet_length]; exact hP))]⟩

theorem encFrom_encFrom {V core} (hV : VariantSpec V core) (K : List Bits) (P : List Word) (hP : P.length = 16) (dr x b0 : Nat)
    (M : List Byte) (hb : b0 + (M.length + 63) / 64 ≤ 2 ^ 64) :
    ∃ s'', (do let (C, s') ← Salsa.encFrom V ⟨some K, ofBV P, dr⟩ ⟨x, 64⟩ b0 (M.map BitVec.toNat)
               Salsa.encFrom V s' ⟨x, 64⟩ b0 C) = .ok (M.map BitVec.toNat, s'') := by
  have h64 := ksBlock_length hV dr V.ctrAt (nonceSet V.nonceAt P x) (by rw [nonceSet_length]; exact hP)
  obtain ⟨P', hk, h⟩ := encFrom_words hV K P hP dr x b0 M hb
  obtain ⟨P'', _, h2⟩ := encFrom_words hV K P' (hk.1.trans hP) dr x b0
    (encW (ksBlock core dr V.ctrAt (nonceSet V.nonceAt P x)) b0 M) (by rw [encW_length _ h64]; exact hb)
  refine ⟨⟨some K, ofBV P'', dr⟩, ?_⟩
  rw [h, Fold.ok_bind]
  dsimp only
  rw [h2, ksBlock_sameKey core dr hk, encW_encW _ h64]

theorem encFrom_prefix {V core} (hV : VariantSpec V core) (K : List Bits) (P : List Word) (hP : P.length = 16) (dr x b0 : Nat)
    (M : List Byte) (k : Nat) (hb : b0 + (M.length + 63) / 64 ≤ 2 ^ 64) :
    ∃ C s' s'' s''', Salsa.encFrom V ⟨some K, ofBV P, dr⟩ ⟨x, 64⟩ b0 (M.map (·.toNat)) = .ok (C, s') ∧
      Salsa.encFrom V s' ⟨x, 64⟩ b0 ((M.take k).map (·.toNat)) = .ok (C.take k, s'') ∧
      Salsa.encFrom V ⟨some K, ofBV P, dr⟩ ⟨x, 64⟩ b0 ((M.take k).map (·.toNat)) = .ok (C.take k, s''') := by
  have h64 := ksBlock_length hV dr V.ctrAt (nonceSet V.nonceAt P x) (by rw [nonceSet_length]; exact hP)
  obtain ⟨P', hk, h⟩ := encFrom_words hV K P hP dr x b0 M hb
  have hb' : b0 + ((M.take k).length + 63) / 64 ≤ 2 ^ 64 := by
    have : ((M.take k).length + 63) / 64 ≤ (M.length + 63) / 64 := by simp only [List.length_take]; omega
    omega
  obtain ⟨P'', _, h2⟩ := encFrom_words hV K P' (hk.1.trans hP) dr x b0 (M.take k) hb'
  obtain ⟨P3, _, h3⟩ := encFrom_words hV K P hP dr x b0 (M.take k) hb'
  refine ⟨_, _, ⟨some K, ofBV P'', dr⟩, ⟨some K, ofBV P3, dr⟩, h, ?_, ?_⟩
  · rw [h2, ksBlock_sameKey core dr hk, encW_prefix _ h64, List.map_take]
  · rw [h3, encW_prefix _ h64, List.map_take]

/-- a constructor that leaves the words `P`, then `enc` with the nonce `Bits(v,bitorder=1)`: the word-level `encW` -/
theorem enc_of_init {V core} (hV : VariantSpec V core) (init : Option Bits → Int → Except Err Salsa.State)
    (key v M : List Byte) (hv : v.length = 8) (rounds : Int) (ks : List Bits) (P : List Word) (hP : P.length = 16) (dr : Nat)
    (hinit : init (some ⟨leVal key, 8 * key.length⟩) rounds = .ok ⟨some ks, ofBV P, dr⟩)
    (b0 : Nat) (hb : b0 + (M.length + 63) / 64 ≤ 2 ^ 64) :
    ∃ s', (do let K ← Bits.ofBytes (key.map BitVec.toNat) none 1
              let st ← init (some K) rounds
              let nv ← Bits.ofBytes (v.map BitVec.toNat) none 1
              Salsa.encFrom V st nv b0 (M.map BitVec.toNat)) =
      .ok ((encW (ksBlock core dr V.ctrAt (nonceSet V.nonceAt P (leVal v))) b0 M).map BitVec.toNat, s') := by
  obtain ⟨P', _, henc⟩ := encFrom_words hV ks P hP dr (leVal v) b0 M hb
  refine ⟨⟨some ks, ofBV P', dr⟩, ?_⟩
  rw [ofBytes_le, Fold.ok_bind, hinit, Fold.ok_bind, ofBytes_le, Fold.ok_bind, show 8 * v.length = 64 by omega]
  exact henc

theorem hash_words {V core} (hV : VariantSpec V core) (m : List Byte) (hm : m.length = 64) :
    Salsa.hash V (m.map BitVec.toNat) = .ok ((Spec.Salsa20.unwords (core 10 (Spec.Salsa20.words m))).map BitVec.toNat) := by
  unfold Salsa.hash
  rw [ofBytes_le, Fold.ok_bind, show 8 * m.length = 32 * 16 by omega, split32, Fold.ok_bind, ints32, Fold.ok_bind]
  dsimp only
  rw [ofList_ofBV, words_leVal 16 m (by omega), hV.hcore 10 _ (words_length 16 m (by omega)), Fold.ok_bind]
  exact congrArg Except.ok (pack_words _)

end Proofs.Lemmas.StreamEnc
