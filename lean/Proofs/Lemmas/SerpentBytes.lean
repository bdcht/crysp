/-
  Byte-string interface of Model.Serpent: `Bits(bytes,bitorder=1)` is the little-endian number; `pack` inverts it.
-/
import Proofs.Lemmas.SerpentEnc
namespace Proofs.Lemmas.SerpentBytes
open Model Model.Bits Proofs.Lemmas.SerpentBits Proofs.Lemmas.SerpentComp Proofs.Lemmas.SerpentSpec Proofs.Lemmas.SerpentKS Proofs.Lemmas.SerpentEnc Spec.Serpent
open Proofs.Lemmas.Bytes

def IsBytes (s : List Nat) : Prop := ∀ b ∈ s, b < 256
instance (s : List Nat) : Decidable (IsBytes s) := by unfold IsBytes; infer_instance

theorem leNat_lt (s : List Nat) : leNat s < 2 ^ (8 * s.length) := by
  induction s with
  | nil => simp [leNat]
  | cons b bs ih =>
    rw [leNat, List.length_cons, show 8 * (bs.length + 1) = 8 * bs.length + 8 by omega, Nat.pow_add]
    have : b % 256 < 256 := Nat.mod_lt _ (by decide)
    omega

theorem leNat_eq (s : List Nat) (hs : IsBytes s) : leNat s = Py.leInt s := by
  induction s with
  | nil => rfl
  | cons b bs ih => rw [leNat, Py.leInt, ih (AllBytes.tail hs), Nat.mod_eq_of_lt (AllBytes.head hs)]

theorem ofBytes_le (s : List Nat) (hs : IsBytes s) :
    Bits.ofBytes s none 1 = .ok ⟨leNat s, 8 * s.length⟩ := by
  rw [leNat_eq s hs]
  exact Bits.ofBytes_le_eq s hs

theorem leBytes_leNat (s : List Nat) (hs : IsBytes s) : leBytes s.length (leNat s) = s := by
  rw [leBytes_eq, leNat_eq s hs]
  exact leBytes_leInt s hs

theorem leBytes_isBytes (k n : Nat) : IsBytes (leBytes k n) := by
  rw [leBytes_eq]
  exact leBytes_allBytes k n

theorem leBytes_length (k n : Nat) : (leBytes k n).length = k := by
  rw [leBytes_eq]
  exact Bytes.leBytes_length k n

theorem leNat_leBytes (k n : Nat) (h : n < 2 ^ (8 * k)) : leNat (leBytes k n) = n := by
  rw [leNat_eq _ (leBytes_isBytes k n), leBytes_eq, leInt_leBytes, pow256]
  exact Nat.mod_eq_of_lt h

theorem encBytes_eq (key block : List Nat) (hk : IsBytes key) (hb : IsBytes block) (hkl : key.length ≤ 32)
    (hbl : block.length = 16) :
    Model.Serpent.encBytes key block = .ok (leBytes 16 (encNat (8 * key.length) (leNat key) (leNat block))) := by
  unfold Model.Serpent.encBytes
  rw [Fold.bind_eq_of_ok (ofBytes_le key hk), Fold.bind_eq_of_ok (ofBytes_le block hb)]
  exact enc_eq ⟨_, _⟩ ⟨_, _⟩ (leNat_lt key) (by show 8 * key.length ≤ 256; omega) (leNat_lt block)
    (by show 8 * block.length = 128; omega)

theorem decBytes_eq (key block : List Nat) (hk : IsBytes key) (hb : IsBytes block) (hkl : key.length ≤ 32)
    (hbl : block.length = 16) :
    Model.Serpent.decBytes key block = .ok (leBytes 16 (decNat (8 * key.length) (leNat key) (leNat block))) := by
  unfold Model.Serpent.decBytes
  rw [Fold.bind_eq_of_ok (ofBytes_le key hk), Fold.bind_eq_of_ok (ofBytes_le block hb)]
  exact dec_eq ⟨_, _⟩ ⟨_, _⟩ (leNat_lt key) (by show 8 * key.length ≤ 256; omega) (leNat_lt block)
    (by show 8 * block.length = 128; omega)

end Proofs.Lemmas.SerpentBytes
