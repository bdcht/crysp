/-
  The zero byte of a null pad survives the bit reversal in `Bits.bytes()`.
-/
import Model.Bits
namespace Proofs.Lemmas.NullPadBytes
open Model

theorem rb_zero : Bits.reverseByte 0 = 0 := by decide

end Proofs.Lemmas.NullPadBytes
