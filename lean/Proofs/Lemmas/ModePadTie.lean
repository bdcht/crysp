/-
  Spec.ModePad (byte-level, what the mode theorems of C05 are stated with) agrees with Spec.Padding (bit-level, the padding
  property C09) on byte strings, so that the two cannot drift apart: a whole-byte message padded by Spec.Padding, read back as
  bytes, is the Spec.ModePad string, and the PKCS#7 / X9.23 unpadding maps coincide.
-/
import Proofs.Lemmas.PaddingRemove
import Proofs.Lemmas.PaddingSpec
import Spec.ModePad
namespace Proofs.Lemmas.ModePadTie
open Spec.Padding Proofs.Lemmas.Padding

def toPadding : Spec.ModePad.Scheme → Spec.Padding.Scheme
  | .none => .no
  | .pkcs7 => .pkcs7
  | .x923 => .x923
  | .bit => .bit

theorem pkcs7_eq (l : Nat) (M : List Nat) : Spec.ModePad.pkcs7 l M = pkcs7Pad l M := rfl
theorem x923_eq (l : Nat) (M : List Nat) : Spec.ModePad.x923 l M = x923Pad l M := rfl

/-- 7 zeros fill the byte 0x80, then whole zero bytes to the block end -/
theorem fill_bit (a l : Nat) (hl : 0 < l) : fill (8 * l) (8 * a + 1) = 7 + 8 * (l - a % l - 1) := by
  have h2 := Nat.mod_lt a hl
  have e : a / l * (8 * l) + 8 * (a % l) = 8 * a := by
    rw [Nat.mul_left_comm, ← Nat.mul_add, Nat.mul_comm (a / l), Nat.div_add_mod]
  rw [← e, fill_gap (8 * l) (a / l) (8 * (a % l)) 1 (by omega) (by omega) (by omega) (by omega), gap, if_pos (by omega)]
  omega

theorem one_zeros (t : Nat) : [true] ++ zeros (7 + 8 * t) = byteBits 0x80 ++ zeros (8 * t) := by
  have : byteBits 0x80 = [true] ++ zeros 7 := by decide
  rw [this, List.append_assoc]
  simp only [zeros, List.replicate_append_replicate]

theorem bit_eq (l : Nat) (hl : 0 < l) (M : List Nat) (hM : Bytes M) :
    Spec.ModePad.bitpad l M = bitsToBytes (bitPad (8 * l) (bytesToBits M)) := by
  unfold bitPad Spec.ModePad.bitpad Spec.ModePad.padLen
  rw [bytesToBits_length, fill_bit M.length l hl, List.append_assoc, one_zeros,
    bitsToBytes_bytesToBits_append M hM, bitsToBytes_append _ _ (by rw [byteBits_length]),
    bitsToBytes_byteBits 0x80 (by decide), bitsToBytes_zeros]
  rfl

theorem pad_eq (s : Spec.ModePad.Scheme) (l : Nat) (hl : 0 < l) (M : List Nat) (hM : Bytes M)
    (h256 : s = .pkcs7 ∨ s = .x923 → l < 256) :
    Spec.ModePad.pad s l M = padBytes (toPadding s) (8 * l) M (8 * M.length) := by
  cases s with
  | none => exact (msgBytes_whole M hM).symm
  | pkcs7 => exact (padBytes_pkcs7 l hl (h256 (.inl rfl)) M hM).symm
  | x923 => exact (padBytes_x923 l hl (h256 (.inr rfl)) M hM).symm
  | bit =>
    show Spec.ModePad.bitpad l M = bitsToBytes (bitPad (8 * l) (takeBits (8 * M.length) M))
    rw [takeBits_whole]
    exact bit_eq l hl M hM

theorem unpkcs7_eq (l : Nat) (X : List Nat) : Spec.ModePad.unpkcs7 l X = pkcs7Unpad l X := rfl

theorem unx923_eq (l : Nat) (X : List Nat) : Spec.ModePad.unx923 l X = x923Unpad l X := by
  unfold Spec.ModePad.unx923 x923Unpad
  cases hlast : X.getLast? with
  | none => rfl
  | some q =>
    simp only
    by_cases h : 1 ≤ q ∧ q ≤ l ∧ q ≤ X.length
    · have := x923_cond X q hlast h.1 h.2.2
      by_cases hc : (X.drop (X.length - q)).take (q - 1) = List.replicate (q - 1) 0
      · rw [if_pos ⟨h.1, h.2.1, h.2.2, hc⟩, if_pos ⟨h.1, h.2.1, h.2.2, this.1 hc⟩]
      · rw [if_neg (fun hh => hc hh.2.2.2), if_neg (fun hh => hc (this.2 hh.2.2.2))]
    · rw [if_neg (fun hh => h ⟨hh.1, hh.2.1, hh.2.2.1⟩), if_neg (fun hh => h ⟨hh.1, hh.2.1, hh.2.2.1⟩)]

end Proofs.Lemmas.ModePadTie
