/-
  Nat bit operations and Model.Bits for the Serpent proofs: bit-function words (`Spec.Serpent.ofBitFn`), `concat`/`concatList`,
  `rol`/`ror`.
-/
import Proofs.Lemmas.BitsIndex
import Proofs.Lemmas.BitsExt
import Proofs.Lemmas.Fold
import Spec.Serpent
namespace Proofs.Lemmas.SerpentBits
open Model Model.Bits

theorem testBit_ofBitFn (n : Nat) (f : Nat → Bool) (j : Nat) :
    (Spec.Serpent.ofBitFn n f).testBit j = (decide (j < n) && f j) := by
  induction n with
  | zero => simp [Spec.Serpent.ofBitFn]
  | succ n ih =>
    rw [Spec.Serpent.ofBitFn, Nat.testBit_or, ih]
    by_cases hj : j = n
    · subst hj
      cases f j <;> simp
    · have h : (decide (j < n + 1)) = decide (j < n) := by simp; omega
      cases f n <;> simp [h, Ne.symm hj]

theorem ofBitFn_lt (n : Nat) (f : Nat → Bool) : Spec.Serpent.ofBitFn n f < 2 ^ n := by
  apply Nat.lt_pow_two_of_testBit
  intro i hi
  rw [testBit_ofBitFn, decide_eq_false (Nat.not_lt.mpr hi)]
  rfl

theorem ofBitFn_congr (n : Nat) (f g : Nat → Bool) (h : ∀ j < n, f j = g j) :
    Spec.Serpent.ofBitFn n f = Spec.Serpent.ofBitFn n g := by
  apply Nat.eq_of_testBit_eq; intro j
  rw [testBit_ofBitFn, testBit_ofBitFn]
  by_cases hj : j < n
  · simp [hj, h j hj]
  · simp [hj]

theorem ofBitFn_testBit (n x : Nat) (h : x < 2 ^ n) : Spec.Serpent.ofBitFn n (fun j => x.testBit j) = x := by
  apply Nat.eq_of_testBit_eq; intro j
  rw [testBit_ofBitFn]
  by_cases hj : j < n
  · simp [hj]
  · simp [hj, Bits.testBit_of_lt h (Nat.le_of_not_lt hj)]

theorem concat_wf (a o : Bits) : (a.concat o).WF := Bits.concat_wf a o

theorem concatList_uniform (l : List Bits) (w : Nat) (hw : 0 < w) (hne : l ≠ [])
    (hs : ∀ y ∈ l, y.size = w) (hwf : ∀ y ∈ l, y.WF) :
    concatList l = .ok ⟨Spec.Serpent.ofBitFn (w * l.length) fun j => (l.getD (j / w) default).ival.testBit (j % w),
      w * l.length⟩ := by
  obtain ⟨r, hr⟩ := Bits.concatList_isOk hne false
  have h2 : r.toBitList = l.flatMap toBitList := (Bits.concatList_ok_spec l hwf false r hr).2
  have hlen : ∀ y ∈ l, y.toBitList.length = w := fun y hy => by rw [Bits.toBitList_length, hs y hy]
  have hsz : r.size = w * l.length := by
    rw [← Bits.toBitList_length, h2, Fold.length_flatMap_const _ w l hlen, Nat.mul_comm]
  rw [hr]
  refine congrArg Except.ok (Bits.ext_of_wf (b := ⟨_, _⟩) (Bits.concatList_ok_spec l hwf false r hr).1 (ofBitFn_lt _ _) hsz
    fun j hj => ?_)
  rw [hsz] at hj
  have hk : j / w < l.length := (Nat.div_lt_iff_lt_mul hw).2 (Nat.mul_comm w _ ▸ hj)
  have hm : j % w < (l[j / w]).toBitList.length := by
    rw [hlen _ (List.getElem_mem hk)]
    exact Nat.mod_lt _ hw
  have hj' : j < r.toBitList.length := by
    rw [Bits.toBitList_length, hsz]
    exact hj
  have e := Fold.getElem?_flatMap_uniform toBitList w hw l hlen j
  rw [← h2, List.getElem?_eq_getElem hj', List.getElem?_eq_getElem hk, Option.bind_some, List.getElem?_eq_getElem hm,
    Bits.toBitList_getElem, Bits.toBitList_getElem] at e
  rw [testBit_ofBitFn, decide_eq_true hj, Bool.true_and, List.getD_eq_getElem?_getD, List.getElem?_eq_getElem hk,
    Option.getD_some]
  revert e
  cases r.ival.testBit j <;> cases (l[j / w]).ival.testBit (j % w) <;> decide

theorem rol!_eq (x : Bits) (n : Nat) (hwf : x.WF) (hn : n ≤ x.size) :
    x.rol! n = ⟨Spec.Serpent.rolBits x.size x.ival n, x.size⟩ := by
  apply Bits.ext_of_wf (b := ⟨_, x.size⟩) (Bits.rol!_wf x n) (ofBitFn_lt _ _) (Bits.rol!_size x n)
  intro j hj
  rw [Bits.rol!_size] at hj
  rw [Bits.rol!_testBit x hwf n hn j hj]
  simp only [testBit_ofBitFn, hj, decide_true, Bool.true_and]
  by_cases hns : n = x.size
  · subst hns
    rw [Nat.mod_self, Nat.add_sub_cancel, Nat.sub_zero, Nat.add_mod_right]
  · rw [Nat.mod_eq_of_lt (show n < x.size by omega), Nat.add_sub_assoc hn]

theorem ror!_eq (x : Bits) (n : Nat) (hwf : x.WF) (hn : n ≤ x.size) :
    x.ror! n = ⟨Spec.Serpent.rorBits x.size x.ival n, x.size⟩ := by
  apply Bits.ext_of_wf (b := ⟨_, x.size⟩) (Bits.ror!_wf x n) (ofBitFn_lt _ _) (Bits.ror!_size x n)
  intro j hj
  rw [Bits.ror!_size] at hj
  rw [Bits.ror!_testBit x hwf n hn j hj]
  simp only [testBit_ofBitFn, hj, decide_true, Bool.true_and]

end Proofs.Lemmas.SerpentBits
