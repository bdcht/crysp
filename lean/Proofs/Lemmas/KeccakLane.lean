/-
  Lemmas for C04: a w-bit `Bits` lane (Nat value + size) versus a `BitVec w` lane, and the 25-lane
  state list versus the state vector.
-/
import Model.Keccak
import Spec.Keccak
import Proofs.Lemmas.KeccakString
import Proofs.Lemmas.BitsBitVec
import Proofs.Lemmas.Fold
namespace Proofs.Lemmas.KeccakLane
open Model Model.Keccak
open Proofs.Lemmas.KeccakString (getElem_mkState lane_mkState)
open Proofs.Lemmas.BitsBitVec (ofBV ofBV_size ofBV_inj xor_ofBV and_ofBV or_ofBV inv_ofBV shl_ofBV shr_ofBV)

/-- the `Bits` object holding a `BitVec w` lane: `BitsBitVec.ofBV` (`B_eq`), under the name the statements of C04 use -/
def B {w} (v : BitVec w) : Bits := ⟨v.toNat, w⟩

def toLanes {w} (A : Spec.Keccak.State w) : Lanes := A.toList.map B

theorem B_eq {w} (v : BitVec w) : B v = ofBV v := rfl

theorem B_inj {w} {a b : BitVec w} (h : B a = B b) : a = b := ofBV_inj h

theorem rot_ofBV {w} (a : BitVec w) (n : Nat) : rot (ofBV a) n = ofBV (a.rotateLeft n) := by
  simp only [rot, ofBV_size, shl_ofBV, shr_ofBV, or_ofBV, BitVec.rotateLeft_def]

theorem toLanes_length {w} (A : Spec.Keccak.State w) : (toLanes A).length = 25 := by simp [toLanes]

theorem getD_toLanes {w} (A : Spec.Keccak.State w) (i : Nat) (hi : i < 25) : (toLanes A).getD i ⟨0, 0⟩ = ofBV A[i] := by
  simp [toLanes, B_eq, List.getD_eq_getElem?_getD, hi]

theorem get_toLanes {w} (A : Spec.Keccak.State w) (x y : Nat) : get (toLanes A) x y = ofBV (Spec.Keccak.lane A x y) := by
  rw [Keccak.get, getD_toLanes A _ (by omega), Spec.Keccak.lane]
  congr 2
  omega

theorem lane_eq {w} (A : Spec.Keccak.State w) (i : Nat) (hi : i < 25) : Spec.Keccak.lane A (i % 5) (i / 5) = A[i] := by
  simp only [Spec.Keccak.lane]
  congr 1
  omega

theorem eq_toLanes {w} (L : Lanes) (A : Spec.Keccak.State w) (hl : L.length = 25)
    (h : ∀ i (hi : i < 25), L.getD i ⟨0, 0⟩ = ofBV A[i]) : L = toLanes A := by
  apply List.ext_getElem (by rw [hl, toLanes_length])
  intro i h1 h2
  have hi : i < 25 := by omega
  have e1 := h i hi
  rw [← getD_toLanes A i hi] at e1
  simpa [List.getD_eq_getElem?_getD, List.getElem?_eq_getElem h1, List.getElem?_eq_getElem h2] using e1

/-! ### the in-place loops of `Round`

Each of `for x: for y: A[…] = …` writes every lane once, and what it writes depends on the state being rebuilt at
most through the lane it overwrites; so lane i of the result is the value written at the one (x,y) that lands on i. -/

theorem loop_toLanes {w} (g : Bits → Nat × Nat → Bits) (A : Spec.Keccak.State w) (h : Nat → Nat → BitVec w)
    (hg : ∀ x < 5, ∀ y < 5, g (ofBV (Spec.Keccak.lane A x y)) (x, y) = ofBV (h x y)) :
    xy25.foldl (fun A p => put A p.1 p.2 (g (get A p.1 p.2) p)) (toLanes A) = toLanes (Spec.Keccak.mkState h) := by
  have hf : ∀ i < 25, (xy25.find? fun p => 5 * (p.2 % 5) + p.1 % 5 == i) = some (i % 5, i / 5) := by decide
  apply eq_toLanes _ _ (Fold.foldl_inv (fun B : Lanes => B.length = 25) _ _ (fun _ _ _ h => List.length_set.trans h) (toLanes_length A))
  intro i hi
  have := Fold.getD_foldl_set (fun p : Nat × Nat => 5 * (p.2 % 5) + p.1 % 5) g ⟨0, 0⟩ xy25 (toLanes A) i (by decide)
    (by rw [toLanes_length]; exact hi)
  rw [hf i hi] at this
  rw [getElem_mkState _ i hi, ← hg _ (Nat.mod_lt _ (by decide)) _ (by omega), lane_eq A i hi, ← getD_toLanes A i hi]
  exact this

theorem loop_pi_toLanes {w} (g : Nat × Nat → Bits) (B0 : Lanes) (hB : B0.length = 25) (h : Nat → Nat → BitVec w)
    (hg : ∀ x < 5, ∀ y < 5, g ((x + 3 * y) % 5, x) = ofBV (h x y)) :
    xy25.foldl (fun B p => put B p.2 (2 * p.1 + 3 * p.2) (g p)) B0 = toLanes (Spec.Keccak.mkState h) := by
  have hf : ∀ i < 25, (xy25.find? fun p => 5 * ((2 * p.1 + 3 * p.2) % 5) + p.2 % 5 == i)
      = some ((i % 5 + 3 * (i / 5)) % 5, i % 5) := by decide
  apply eq_toLanes _ _ (Fold.foldl_inv (fun B : Lanes => B.length = 25) _ _ (fun _ _ _ h => List.length_set.trans h) hB)
  intro i hi
  have := Fold.getD_foldl_set (fun p : Nat × Nat => 5 * ((2 * p.1 + 3 * p.2) % 5) + p.2 % 5) (fun _ p => g p) ⟨0, 0⟩
    xy25 B0 i (by decide) (by omega)
  rw [hf i hi] at this
  rw [getElem_mkState _ i hi, ← hg _ (Nat.mod_lt _ (by decide)) _ (by omega)]
  exact this

theorem theta_refines {w} (A : Spec.Keccak.State w) : theta (toLanes A) = toLanes (Spec.Keccak.theta A) := by
  unfold Spec.Keccak.theta
  refine loop_toLanes (fun a p => a.xor ((thetaD (thetaC (toLanes A))).getD p.1 ⟨0, 0⟩)) A _ fun x hx y hy => ?_
  simp only [thetaD, thetaC, Fold.getD_map_range, hx, Nat.mod_lt _ (show 0 < 5 by decide), get_toLanes, xor_ofBV, rot_ofBV]

/-- `htab` (and `hrc` below) are the table equations `Proofs.C04.rhoOffsets_eq_walk` / `RC_eq_rule`: the kernel
    decides them there, as results of their own, and the lemmas of this file take them as hypotheses. -/
theorem offset_eq (htab : Gen.KeccakG.rhoOffsets = Spec.Keccak.rhoTable.map (· % 64)) :
    ∀ x < 5, ∀ y < 5, offset x y = Spec.Keccak.rhoOffset x y % 64 := by
  intro x hx y hy
  have h1 : x % 5 + 5 * (y % 5) = 5 * y + x := by omega
  have h2 : 5 * y + x < 25 := by omega
  have hlen : Spec.Keccak.rhoTable.length = 25 := by decide +kernel
  simp only [offset, Spec.Keccak.rhoOffset, htab, h1]
  rw [List.getD_eq_getElem?_getD, List.getD_eq_getElem?_getD, List.getElem?_map]
  rw [List.getElem?_eq_getElem (by omega)]
  simp

theorem rotl_rhoOffset {w} (htab : Gen.KeccakG.rhoOffsets = Spec.Keccak.rhoTable.map (· % 64)) (h : w ∣ 64)
    (a : BitVec w) (x y : Nat) (hx : x < 5) (hy : y < 5) :
    a.rotateLeft (Spec.Keccak.rhoOffset x y) = a.rotateLeft (offset x y) := by
  rw [← BitVec.rotateLeft_mod_eq_rotateLeft (r := offset x y), offset_eq htab x hx y hy, Nat.mod_mod_of_dvd _ h,
    BitVec.rotateLeft_mod_eq_rotateLeft]

theorem rhoPi_refines {w} (htab : Gen.KeccakG.rhoOffsets = Spec.Keccak.rhoTable.map (· % 64)) (h : w ∣ 64)
    (A : Spec.Keccak.State w) : rhoPi w (toLanes A) = toLanes (Spec.Keccak.pi (Spec.Keccak.rho A)) := by
  unfold Spec.Keccak.pi
  refine loop_pi_toLanes (fun p => rot (Keccak.get (toLanes A) p.1 p.2) (offset p.1 p.2)) _ List.length_replicate _
    fun x hx y hy => ?_
  rw [Spec.Keccak.rho, lane_mkState, get_toLanes, rot_ofBV,
    rotl_rhoOffset htab h _ _ _ (Nat.mod_lt _ (by decide)) (Nat.mod_lt _ (by decide)), Nat.mod_mod,
    Nat.mod_eq_of_lt hx]

/-- χ (the 25 lanes of the target are all overwritten) -/
theorem chi_refines {w} (A0 A : Spec.Keccak.State w) :
    chi (toLanes A0) (toLanes A) = toLanes (Spec.Keccak.chi A) := by
  unfold Spec.Keccak.chi
  refine loop_toLanes (fun _ p => (Keccak.get (toLanes A) p.1 p.2).xor
    ((Keccak.get (toLanes A) (p.1 + 1) p.2).inv.and (Keccak.get (toLanes A) (p.1 + 2) p.2))) A0 _ fun x _ y _ => ?_
  simp only [get_toLanes, inv_ofBV, and_ofBV, xor_ofBV]

theorem iota_refines {w} (A : Spec.Keccak.State w) (ir : Nat) (rci : Bits) (hrc : rci = B (Spec.Keccak.RC w ir)) :
    iota (toLanes A) rci = toLanes (Spec.Keccak.iota A ir) := by
  apply eq_toLanes _ _ (List.length_set.trans (toLanes_length A))
  intro i hi
  rw [Spec.Keccak.iota, getElem_mkState _ i hi, hrc, B_eq, get_toLanes, xor_ofBV]
  by_cases h0 : i = 0
  · subst h0
    simp [List.getD_eq_getElem?_getD, toLanes_length]
  · have h1 : ¬ (i % 5 = 0 ∧ i / 5 = 0) := by omega
    have h2 : (toLanes A).getD i ⟨0, 0⟩ = ofBV (Spec.Keccak.lane A (i % 5) (i / 5)) := by
      rw [getD_toLanes A i hi, lane_eq A i hi]
    rw [if_neg h1, ← h2]
    simp [List.getD_eq_getElem?_getD, List.getElem?_set_ne (Ne.symm h0)]

theorem round_refines {w} (htab : Gen.KeccakG.rhoOffsets = Spec.Keccak.rhoTable.map (· % 64)) (h : w ∣ 64)
    (A : Spec.Keccak.State w) (ir : Nat) (rci : Bits) (hrc : rci = B (Spec.Keccak.RC w ir)) :
    round w (toLanes A) rci = toLanes (Spec.Keccak.rnd A ir) := by
  simp only [round, Spec.Keccak.rnd, theta_refines, rhoPi_refines htab h, chi_refines, iota_refines _ ir rci hrc]

theorem rounds_refines {w} (htab : Gen.KeccakG.rhoOffsets = Spec.Keccak.rhoTable.map (· % 64)) (h : w ∣ 64)
    (hrc : ∀ i < 24, rcLane w i = B (Spec.Keccak.RC w i)) (n : Nat) (hn : n ≤ 24) (A : Spec.Keccak.State w) :
    f w n (toLanes A) = toLanes ((List.range n).foldl (fun A i => Spec.Keccak.rnd A i) A) :=
  Fold.foldl_sim toLanes (fun A i => round w A (rcLane w i)) (fun A i => Spec.Keccak.rnd A i) (List.range n)
    (fun i hi A => round_refines htab h A i _ (hrc i (by have := List.mem_range.mp hi; omega))) A

theorem f_refines_aux {w} (htab : Gen.KeccakG.rhoOffsets = Spec.Keccak.rhoTable.map (· % 64)) (h : w ∣ 64)
    (hrc : ∀ i < 24, rcLane w i = B (Spec.Keccak.RC w i)) (hn : Spec.Keccak.nRounds w ≤ 24)
    (A : Spec.Keccak.State w) :
    f w (Spec.Keccak.nRounds w) (toLanes A) = toLanes (Spec.Keccak.keccakF w A) := by
  rw [rounds_refines htab h hrc _ hn A]
  simp [Spec.Keccak.keccakF, Spec.Keccak.keccakP, Spec.Keccak.nRounds]

theorem dvd64 {w} (hw : w ∈ [1, 2, 4, 8, 16, 32, 64]) : w ∣ 64 := by
  simp only [List.mem_cons, List.not_mem_nil, or_false] at hw
  rcases hw with rfl | rfl | rfl | rfl | rfl | rfl | rfl <;> decide

end Proofs.Lemmas.KeccakLane
