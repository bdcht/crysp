/-
  BLAKE2 end to end: the final update from any chain value and byte count is RFC 7693's loop `absorb` continued from
  there (`update_absorb`): `absorb` peels one block off the front, and so does `BlakeStream.blake2_update_append`.  The
  one-shot call is the instance (IV xor parameter block, 0).
-/
import Proofs.Lemmas.Blake2Refine
import Proofs.Lemmas.BlakeBytes
import Proofs.Lemmas.BlakeStream
namespace Proofs.Lemmas.Blake2End
open Model Model.Py Proofs.Lemmas.BlakeWords Proofs.Lemmas.BlakeBytes Proofs.Lemmas.Blake2Refine
open Proofs.Lemmas.Padding Proofs.Lemmas.BlakeStream

theorem words_length (V : Spec.Blake2.Variant) (hw : V.w = 32 ∨ V.w = 64) (k : Nat) (bs : List Nat)
    (hb : bs.length = k * (V.w / 8)) : (Spec.Blake2.words V bs).length = k := by
  have hn : 0 < V.w / 8 := by rcases hw with h | h <;> rw [h] <;> decide
  rw [Spec.Blake2.words, List.length_map, ← chunks_eq_blake2 _ (Nat.ne_of_gt hn), Bytes.chunks_length_whole _ hn k bs hb]

theorem wordsLE_eq (V : Spec.Blake2.Variant) (hw : V.w = 32 ∨ V.w = 64) (bs : List Nat) :
    Blake2.wordsLE V.w bs = (Spec.Blake2.words V bs).map ofBV := by
  have hn : V.w / 8 ≠ 0 := by rcases hw with h | h <;> rw [h] <;> simp
  simp only [Blake2.wordsLE, Spec.Blake2.words, chunks_eq_blake2 _ hn, List.map_map]
  apply List.map_congr_left
  intro g _
  simp [wd_eq, leInt_eq]

theorem digest_eq (V : Spec.Blake2.Variant) (hw8 : V.w % 8 = 0) (n : Nat) (h : List (BitVec V.w)) :
    Blake2.digest n (h.map ofBV) = Spec.Blake2.output V n h := by
  simp only [Blake2.digest, Spec.Blake2.output, List.flatMap_map]
  congr 2
  funext x
  exact pack_le x hw8

def toModel (sp : Spec.Blake2.Params) : Blake2.Params :=
  { outlen := some sp.digestLength, salt := sp.salt, pers := sp.personal, fanout := sp.fanout, depth := sp.depth,
    leafl := sp.leafLength, noffset := sp.nodeOffset, ndepth := sp.nodeDepth, inner := sp.innerLength }

def Pair (c : Blake.Cfg) (V : Spec.Blake2.Variant) : Prop :=
  (c = Blake2.blake2b ∧ V = Spec.Blake2.blake2b) ∨ (c = Blake2.blake2s ∧ V = Spec.Blake2.blake2s)

theorem pair_match {c V} (h : Pair c V) : Match c V := by
  rcases h with ⟨rfl, rfl⟩ | ⟨rfl, rfl⟩ <;> constructor <;> decide +kernel

theorem pair_word {c V} (h : Pair c V) : V.w = 32 ∨ V.w = 64 := by
  rcases h with ⟨_, rfl⟩ | ⟨_, rfl⟩
  · exact Or.inr rfl
  · exact Or.inl rfl

theorem pair_cfg {c V} (hp : Pair c V) : blake2Cfg c := hp.imp And.left And.left

theorem pair_bb {c V} (hp : Pair c V) : c.blocksize / 8 = V.bb := by
  rw [(pair_match hp).block, Nat.mul_div_cancel_left _ (by decide : 0 < 8)]

theorem paramBytes_eq {c V} (h : Pair c V) (sp : Spec.Blake2.Params) (hv : sp.valid V) :
    Blake2.paramBytes c sp.digestLength (toModel sp) sp.salt sp.personal = Spec.Blake2.paramBlock V sp := by
  obtain ⟨h1, h2, h3, h4, h5, h6, h7, h8, _, _⟩ := hv
  rcases h with ⟨rfl, rfl⟩ | ⟨rfl, rfl⟩
  all_goals
    simp [Spec.Blake2.blake2b, Spec.Blake2.blake2s, Spec.Blake2.Variant.maxOut] at h2 h6 h8
    simp [Blake2.paramBytes, Spec.Blake2.paramBlock, toModel, Blake2.blake2b, Blake2.blake2s, Spec.Blake2.blake2b,
      Spec.Blake2.blake2s, leBytes_eq, Nat.mod_eq_of_lt, h3, h4, h5, h6, h7, show sp.digestLength < 256 by omega,
      show sp.innerLength < 256 by omega]

theorem bb_pos (V : Spec.Blake2.Variant) (hw : V.w = 32 ∨ V.w = 64) : 0 < V.bb := by
  rcases hw with h | h <;> simp [Spec.Blake2.Variant.bb, h]

theorem paramBlock_length (V : Spec.Blake2.Variant) (hw : V.w = 32 ∨ V.w = 64) (sp : Spec.Blake2.Params)
    (hv : sp.valid V) : (Spec.Blake2.paramBlock V sp).length = 8 * (V.w / 8) := by
  obtain ⟨_, _, _, _, _, _, _, _, hs, hp⟩ := hv
  have hle : ∀ k n, (Spec.Blake2.leBytes k n).length = k := by
    intro k n
    rw [← leBytes_eq, Bytes.leBytes_length]
  unfold Spec.Blake2.paramBlock
  rcases hw with h | h <;>
    simp [h, hs, hp, hle]

theorem init_length (V : Spec.Blake2.Variant) (hw : V.w = 32 ∨ V.w = 64) (hiv : V.iv.length = 8) (sp : Spec.Blake2.Params)
    (hv : sp.valid V) : (Spec.Blake2.init V sp).length = 8 := by
  simp [Spec.Blake2.init, hiv, words_length V hw 8 _ (paramBlock_length V hw sp hv)]

theorem init_refines {c V} (h : Pair c V) (sp : Spec.Blake2.Params) (hv : sp.valid V) :
    Blake2.initstate c (toModel sp) =
      .ok { H := (Spec.Blake2.init V sp).map ofBV, pad := {}, outlen := sp.digestLength, t := 0 } := by
  have hm := pair_match h
  have hw := pair_word h
  have hpb := paramBytes_eq h sp hv
  obtain ⟨h1, h2, _, _, _, _, _, _, hs, hp⟩ := hv
  have hl : 0 < V.w / 4 := by rcases hw with h | h <;> rw [h] <;> simp
  have hsne : sp.salt ≠ [] := by intro h0; rw [h0] at hs; simp at hs; omega
  have hpne : sp.personal ≠ [] := by intro h0; rw [h0] at hp; simp at hp; omega
  have hmax : V.maxOut = V.w := by rcases hw with h | h <;> simp [Spec.Blake2.Variant.maxOut, h]
  unfold Blake2.initstate
  simp only [toModel, Option.getD_some, hsne, hpne, if_false, hm.w, hs, hp, ne_eq, not_true_eq_false, or_self]
  rw [if_neg (by rw [hmax] at h2; omega)]
  have := hpb
  simp only [toModel] at this
  rw [this, wordsLE_eq V hw, hm.iv, map_wd_toNat, xorL_map]
  rfl

theorem F_length (V : Spec.Blake2.Variant) (h m : List (BitVec V.w)) (t : Nat) (f : Bool) :
    (Spec.Blake2.F V h m t f).length = 8 := by simp [Spec.Blake2.F]

theorem update_one {c V} (hp : Pair c V) (H : List (BitVec V.w)) (hH : H.length = 8) (st : PadState) (n t' : Nat)
    (M : List Nat) (padding : Bool) (B : List Nat) (hB : B.length = V.bb) (st' fin : PadState)
    (h : (Padder.mk .null c.blocksize).iterblocks st M none padding = ⟨[(B, st')], fin, none⟩) :
    Blake2.update c ⟨H.map ofBV, st, n, t'⟩ M padding =
      (⟨(Spec.Blake2.F V H (Spec.Blake2.words V B) (st'.bitcnt / 8) padding).map ofBV, fin, n, st'.bitcnt / 8⟩,
        .ok (Spec.Blake2.output V n (Spec.Blake2.F V H (Spec.Blake2.words V B) (st'.bitcnt / 8) padding))) := by
  have hm := pair_match hp
  have hw := pair_word hp
  have htr : Blake2.trace c st M padding = [(B, st'.bitcnt / 8, padding)] := by
    simp only [Blake2.trace, h]
    exact congrArg (fun f => [(B, st'.bitcnt / 8, f)]) (Bool.and_true padding)
  simp only [Blake2.update, htr, h, hm.w, List.foldl_cons, List.foldl_nil, List.getLast?_singleton]
  rw [wordsLE_eq V hw, (compress_refines hm H _ hH (words_length V hw 16 _ hB) _ _).1, digest_eq V hm.w8]

theorem full_block {c V} (hp : Pair c V) (H : List (BitVec V.w)) (hH : H.length = 8) (st : PadState)
    (hpf : st.padflag = false) (t : Nat) (hst : st.bitcnt = 8 * t) (n t' : Nat) (a : List Nat) (ha : a.length = V.bb) :
    (Blake2.update c ⟨H.map ofBV, st, n, t'⟩ a false).1 =
      ⟨(Spec.Blake2.F V H (Spec.Blake2.words V a) (t + V.bb) false).map ofBV,
        { st with bitcnt := 8 * (t + V.bb) }, n, t + V.bb⟩ := by
  have hB : c.blocksize = 8 * V.bb := (pair_match hp).block
  have hfin : st.bitcnt + c.blocksize = 8 * (t + V.bb) := by omega
  rw [update_one hp H hH st n t' a false a ha _ _
    (one_block_run ⟨.null, c.blocksize⟩ (valid_null c (pair_cfg hp)) st hpf a (ha.trans (pair_bb hp).symm))]
  simp only [hfin, Nat.mul_div_cancel_left _ (show 0 < 8 by decide)]

/-- `hne`: an empty final piece after data is compressed with counter 0, not `t` -/
theorem last_block {c V} (hp : Pair c V) (H : List (BitVec V.w)) (hH : H.length = 8) (st : PadState)
    (hpf : st.padflag = false) (t : Nat) (hst : st.bitcnt = 8 * t) (n t' : Nat) (d : List Nat) (hd : ∀ b ∈ d, b < 256)
    (hle : d.length ≤ V.bb) (hne : d ≠ [] ∨ t = 0) :
    (Blake2.update c ⟨H.map ofBV, st, n, t'⟩ d true).2 =
      .ok (Spec.Blake2.output V n (Spec.Blake2.F V H (Spec.Blake2.words V (Spec.Blake2.padBlock V d)) (t + d.length) true)) := by
  have hB : c.blocksize = 8 * V.bb := (pair_match hp).block
  have hbb := pair_bb hp
  have hne : 0 < d.length ∨ t = 0 := hne.imp_left List.length_pos_iff.mpr
  have hcnt : (yieldState ⟨.null, c.blocksize⟩ st d none 0).bitcnt / 8 = t + d.length := by
    show (if 0 * c.blocksize < 8 * d.length then st.bitcnt + min (8 * d.length) ((0 + 1) * c.blocksize) else 0) / 8 = _
    split <;> omega
  have hy := null_last_yield ⟨.null, c.blocksize⟩ rfl (valid_null c (pair_cfg hp)) st hpf d hd
    (Nat.le_trans hle (Nat.le_of_eq hbb.symm))
  rw [update_one hp H hH st n t' d true (Spec.Blake2.padBlock V d)
    (by rw [Spec.Blake2.padBlock, List.length_append, List.length_replicate]; omega) _ _
    (by rw [Spec.Blake2.padBlock, ← hbb]; exact hy), hcnt]

theorem update_absorb {c V} (hp : Pair c V) (n fuel : Nat) (H : List (BitVec V.w)) (hH : H.length = 8) (st : PadState)
    (hpf : st.padflag = false) (t : Nat) (hst : st.bitcnt = 8 * t) (t' : Nat) (d : List Nat) (hd : ∀ b ∈ d, b < 256)
    (hne : d ≠ [] ∨ t = 0) (hf : d.length < fuel) :
    (Blake2.update c ⟨H.map ofBV, st, n, t'⟩ d true).2 = .ok (Spec.Blake2.output V n (Spec.Blake2.absorb V H t d fuel)) := by
  induction fuel generalizing H st t t' d with
  | zero => exact absurd hf (Nat.not_lt_zero _)
  | succ fuel ih =>
    have hbb := bb_pos V (pair_word hp)
    unfold Spec.Blake2.absorb
    by_cases hle : d.length ≤ V.bb
    · rw [if_pos hle]
      exact last_block hp H hH st hpf t hst n t' d hd hle hne
    · have hb : d.drop V.bb ≠ [] := fun h => hle (List.drop_eq_nil_iff.mp h)
      have ha : (d.take V.bb).length = V.bb := by rw [List.length_take]; omega
      rw [if_neg hle]
      conv => lhs; rw [← List.take_append_drop V.bb d]
      rw [blake2_update_append c (pair_cfg hp) _ hpf _ _ (by rw [pair_bb hp, ha, Nat.mod_self]) hb,
        full_block hp H hH st hpf t hst n t' _ ha]
      exact ih _ (F_length V _ _ _ _) { st with bitcnt := 8 * (t + V.bb) } hpf (t + V.bb) rfl _ _
        (fun b hb => hd b (List.mem_of_mem_drop hb)) (Or.inl hb) (by rw [List.length_drop]; omega)

theorem blake2_call_eq {c V} (hp : Pair c V) (sp : Spec.Blake2.Params) (hv : sp.valid V) (M : List Nat)
    (hM : ∀ b ∈ M, b < 256) :
    Blake2.call c M (toModel sp) = .ok (Spec.Blake2.hash V sp M) := by
  unfold Blake2.call
  rw [init_refines hp sp hv]
  exact update_absorb hp _ _ _ (init_length V (pair_word hp) (pair_match hp).ivlen sp hv) {} rfl 0 rfl 0 M hM (Or.inr rfl)
    (Nat.lt_succ_self _)

theorem absorb_length (V : Spec.Blake2.Variant) (fuel : Nat) (h : List (BitVec V.w)) (t : Nat) (d : List Nat)
    (hh : h.length = 8) : (Spec.Blake2.absorb V h t d fuel).length = 8 := by
  induction fuel generalizing h t d with
  | zero => exact hh
  | succ fuel ih =>
    unfold Spec.Blake2.absorb
    split
    · exact F_length V _ _ _ _
    · exact ih _ _ _ (F_length V _ _ _ _)

theorem hash_length (V : Spec.Blake2.Variant) (hw : V.w = 32 ∨ V.w = 64) (hiv : V.iv.length = 8) (sp : Spec.Blake2.Params)
    (hv : sp.valid V) (M : List Nat) : (Spec.Blake2.hash V sp M).length = sp.digestLength := by
  unfold Spec.Blake2.hash Spec.Blake2.output
  rw [List.length_take, Fold.length_flatMap_const (Spec.Blake2.wordBytes V) (V.w / 8) _ (by
    intro x _; simp [Spec.Blake2.wordBytes, ← leBytes_eq, Bytes.leBytes_length]),
    absorb_length V _ _ _ _ (init_length V hw hiv sp hv)]
  obtain ⟨_, h2, _⟩ := hv
  simp only [Spec.Blake2.Variant.maxOut] at h2
  omega

end Proofs.Lemmas.Blake2End
