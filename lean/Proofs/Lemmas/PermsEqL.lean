/-
  The recursion equations of `Spec.Perms.perms` and `Spec.Perms.combs` by position: the first element of an arrangement
  (of a combination) is chosen by its index, the rest comes from the list without it (from the list behind it).  Core
  Lean only: PermutkL and CombinkL (the model's generators) and PermsSpecL (Mathlib's enumerations) start from these.
-/
import Spec.Perms
import Proofs.Lemmas.Fold
namespace Proofs.Lemmas.PermsEqL
open Spec.Perms
variable {α : Type}

theorem perms_nil : perms ([] : List α) = [[]] := rfl

theorem perms_unfold (t : List α) (ht : t ≠ []) :
    perms t = (List.range t.length).flatMap fun i =>
      match t[i]? with
      | some x => (perms (t.eraseIdx i)).map (x :: ·)
      | none => [] := by
  unfold perms
  cases hlen : t.length with
  | zero => exact absurd (List.length_eq_zero_iff.1 hlen) ht
  | succ n =>
    show (List.range t.length).flatMap (fun i =>
      match t[i]? with
      | some x => (permsAux n (t.eraseIdx i)).map (x :: ·)
      | none => []) = _
    rw [hlen]
    apply Proofs.Lemmas.Fold.flatMap_congr_mem
    intro i hi
    have hi' : i < t.length := by
      rw [hlen]
      exact List.mem_range.1 hi
    rw [List.length_eraseIdx, if_pos hi', hlen]
    rfl

theorem combs_short : ∀ (xs : List α) (q : Nat), xs.length < q → combs q xs = [] := by
  intro xs
  induction xs with
  | nil =>
    intro q h
    cases q with
    | zero => exact absurd h (Nat.not_lt_zero _)
    | succ q => rfl
  | cons x xs ih =>
    intro q h
    cases q with
    | zero => exact absurd h (Nat.not_lt_zero _)
    | succ q =>
      rw [List.length_cons] at h
      rw [combs, ih q (by omega), ih (q + 1) (by omega)]
      rfl

theorem combs_unfold (l : List α) (q : Nat) : ∀ (d m : Nat), l.length - m = d →
    combs (q + 1) (l.drop m) = (List.range' m (l.length - q - m)).flatMap (fun i =>
      match l[i]? with
      | some x => (combs q (l.drop (i + 1))).map (x :: ·)
      | none => []) := by
  intro d
  induction d with
  | zero =>
    intro m hm
    rw [List.drop_eq_nil_of_le (by omega), show l.length - q - m = 0 by omega]
    rfl
  | succ d ih =>
    intro m hm
    have hlt : m < l.length := by omega
    rw [List.drop_eq_getElem_cons hlt, combs, ih (m + 1) (by omega)]
    by_cases hc : m + q < l.length
    · rw [show l.length - q - m = (l.length - q - (m + 1)) + 1 by omega, List.range'_succ, List.flatMap_cons,
        List.getElem?_eq_getElem hlt]
    · rw [show l.length - q - m = 0 by omega, show l.length - q - (m + 1) = 0 by omega,
        combs_short _ q (by rw [List.length_drop]; omega)]
      rfl

end Proofs.Lemmas.PermsEqL
