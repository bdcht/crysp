/-
  `Spec.Threefish` on numbers, proved equal to `Spec.Threefish` as functions, and used only to evaluate the known answers of
  Proofs/C02_ThreefishKat and Proofs/C12_Kat in the kernel.  A list of words of the specification is ONE number, `packW l`,
  word i at bits 64·i … 64·i+63: `l.getD i 0` is `word (packW l) i`, which reads 0 outside the list as `getD` does, so the
  lemma of an operation needs no length (`pack_flatMap` alone asks that the pieces have one length), and `(List.range n).map f`
  is `build 64 f n`.
-/
import Spec.Threefish
import Proofs.Lemmas.Fold
namespace Proofs.Lemmas.TfEval
open Spec.Threefish

def pack : List Nat → Nat
  | [] => 0
  | w :: l => w + 2 ^ 64 * pack l
def packW (l : List W) : Nat := pack (l.map BitVec.toNat)

theorem pack_append (l m : List Nat) : pack (l ++ m) = pack l + pack m <<< (64 * l.length) := by
  induction l with
  | nil => simp [pack]
  | cons w l ih =>
    rw [List.cons_append, pack, ih, pack, List.length_cons, Nat.mul_succ, Nat.shiftLeft_eq, Nat.shiftLeft_eq, Nat.add_comm _ 64,
      Nat.pow_add, Nat.mul_add, Nat.add_assoc, Nat.mul_left_comm]

-- as in DesEval (at `bit`): `word`, `build`, `add64` and `rotl64`, evaluated once for every word, name `Nat.add`, `Nat.shiftRight` …
def word (X i : Nat) : Nat := Nat.mod (Nat.shiftRight X (Nat.mul 64 i)) (Nat.pow 2 64)
theorem word_eq (X i : Nat) : word X i = X / 2 ^ (64 * i) % 2 ^ 64 := by
  rw [← Nat.shiftRight_eq_div_pow]
  rfl
theorem word_pack (l : List W) (i : Nat) : word (packW l) i = (l.getD i 0).toNat := by
  rw [word_eq, packW]
  induction l generalizing i with
  | nil =>
    rw [List.map_nil, pack, Nat.zero_div, Nat.zero_mod, List.getD_nil]
    rfl
  | cons w l ih =>
    rw [List.map_cons, pack]
    cases i with
    | zero => rw [Nat.mul_zero, Nat.pow_zero, Nat.div_one, Nat.add_mul_mod_self_left, Nat.mod_eq_of_lt w.isLt, List.getD_cons_zero]
    | succ i =>
      rw [Nat.mul_succ, Nat.add_comm _ 64, Nat.pow_add, ← Nat.div_div_eq_div_mul, Nat.add_mul_div_left _ _ (Nat.two_pow_pos 64),
        Nat.div_eq_of_lt w.isLt, Nat.zero_add, List.getD_cons_succ, ih i]

/-- the number whose piece i, of w bits, is f i, for i < n -/
def build (w : Nat) (f : Nat → Nat) : Nat → Nat
  | 0 => 0
  | n + 1 => Nat.add (build w f n) (Nat.shiftLeft (f n) (Nat.mul w n))
theorem pack_flatMap (g : Nat → List Nat) (m n : Nat) (h : ∀ j, (g j).length = m) :
    pack ((List.range n).flatMap g) = build (64 * m) (fun j => pack (g j)) n := by
  induction n with
  | zero => rfl
  | succ n ih =>
    rw [List.range_succ, List.flatMap_append, pack_append, ih, Fold.length_flatMap_const g m _ (fun j _ => h j), List.length_range,
      List.flatMap_cons, List.flatMap_nil, List.append_nil, Nat.mul_comm n m, ← Nat.mul_assoc]
    rfl
theorem packW_map (f : Nat → W) (n : Nat) : packW ((List.range n).map f) = build 64 (fun i => (f i).toNat) n := by
  rw [packW, List.map_map, List.map_eq_flatMap, pack_flatMap _ 1 n (fun _ => rfl)]
  simp only [Function.comp_apply, pack, Nat.mul_zero, Nat.add_zero]
theorem packW_pairs (a b : Nat → W) (n : Nat) :
    packW ((List.range n).flatMap fun j => [a j, b j]) = build 128 (fun j => (a j).toNat + 2 ^ 64 * (b j).toNat) n := by
  rw [packW, List.map_flatMap, pack_flatMap _ 2 n (fun _ => rfl)]
  simp only [List.map_cons, List.map_nil, pack, Nat.mul_zero, Nat.add_zero]

def add64 (a b : Nat) : Nat := Nat.mod (Nat.add a b) (Nat.pow 2 64)
theorem toNat_add (x y : W) : (x + y).toNat = add64 x.toNat y.toNat := BitVec.toNat_add x y
def rotl64 (r x : Nat) : Nat :=
  Nat.lor (Nat.mod (Nat.shiftLeft x (Nat.mod r 64)) (Nat.pow 2 64)) (Nat.shiftRight x (Nat.sub 64 (Nat.mod r 64)))
theorem toNat_rotl (r : Nat) (x : W) : (x.rotateLeft r).toNat = rotl64 r x.toNat := BitVec.toNat_rotateLeft

-- the parity word goes behind the last key word, and a packed key does not say where that is: the key comes as a list
def keyExtN (K : List Nat) : Nat := Nat.add (pack K) (Nat.shiftLeft (K.foldl Nat.xor 0x1BD11BDAA9FC1A22) (Nat.mul 64 K.length))
theorem keyExt_eq (K : List W) : packW (keyExt K) = keyExtN (K.map BitVec.toNat) := by
  rw [keyExt, packW, List.map_append, pack_append, keyExtN, List.foldl_map]
  exact congrArg (fun x => pack _ + (x + 2 ^ 64 * 0) <<< _) (List.foldl_hom BitVec.toNat fun _ _ => rfl).symm

def tweakExtN (T : List Nat) : Nat := pack [T.getD 0 0, T.getD 1 0, Nat.xor (T.getD 0 0) (T.getD 1 0)]
theorem tweakExt_eq (T : List W) : packW (tweakExt T) = tweakExtN (T.map BitVec.toNat) := by
  have h (i : Nat) : (T.map BitVec.toNat).getD i 0 = (T.getD i 0).toNat := Fold.getD_map BitVec.toNat T i 0
  simp only [tweakExtN, h]
  rfl

def subkeyN (nw k t s i : Nat) : Nat :=
  let b := word k ((s + i) % (nw + 1))
  if i + 3 = nw then add64 b (word t (s % 3))
  else if i + 2 = nw then add64 b (word t ((s + 1) % 3))
  else if i + 1 = nw then add64 b (s % 2 ^ 64)
  else b
theorem subkey_eq (nw : Nat) (k t : List W) (s i : Nat) : (subkey nw k t s i).toNat = subkeyN nw (packW k) (packW t) s i := by
  simp only [subkey, subkeyN, apply_ite BitVec.toNat, toNat_add, BitVec.toNat_ofNat, word_pack]
def subkeysN (nw k t s : Nat) : Nat := build 64 (subkeyN nw k t s) nw
theorem subkeys_eq (nw : Nat) (k t : List W) (s : Nat) : packW (subkeys nw k t s) = subkeysN nw (packW k) (packW t) s := by
  simp only [subkeys, packW_map, subkey_eq, subkeysN]
def addWordsN (nw v k : Nat) : Nat := build 64 (fun i => add64 (word v i) (word k i)) nw
theorem addWords_eq (nw : Nat) (v k : List W) : packW (addWords nw v k) = addWordsN nw (packW v) (packW k) := by
  simp only [addWords, packW_map, toNat_add, word_pack, addWordsN]

def mixN (r x0 x1 : Nat) : Nat :=
  let y0 := add64 x0 x1
  Nat.add y0 (Nat.mul (Nat.pow 2 64) (Nat.xor (rotl64 r x1) y0))
-- The kernel puts an argument into a body unevaluated, so `rot nw d j` would walk Table 4 anew for every d.  A `match`
-- evaluates what it matches on first, and the kernel remembers the value of a term it has met: with d mod 8 evaluated by
-- `strict`, the terms `rot nw (m + 1) j` come back every eight rounds and Table 4 is walked 8 · nw/2 times in all.
def strict (f : Nat → Nat) : Nat → Nat
  | 0 => f 0
  | m + 1 => f (m + 1)
theorem strict_eq (f : Nat → Nat) (x : Nat) : strict f x = f x := by
  cases x <;> rfl
theorem rot_mod (nw d j : Nat) : rot nw (Nat.mod d 8) j = rot nw d j :=
  congrArg (fun x => ((R nw).getD x []).getD j 0) (Nat.mod_mod d 8)

def mixLayerN (nw d e : Nat) : Nat :=
  strict (fun d => build 128 (fun j => mixN (rot nw d j) (word e (2 * j)) (word e (2 * j + 1))) (nw / 2)) (Nat.mod d 8)
theorem mixLayer_eq (nw d : Nat) (e : List W) : packW (mixLayer nw d e) = mixLayerN nw d (packW e) := by
  simp only [mixLayer, mix, packW_pairs, toNat_add, BitVec.toNat_xor, toNat_rotl, word_pack, mixLayerN, strict_eq, rot_mod]
  rfl
def permuteN (p : List Nat) (nw f : Nat) : Nat := build 64 (fun i => word f (p.getD i 0)) nw
theorem permute_eq (p : List Nat) (nw : Nat) (f : List W) : packW (permute p nw f) = permuteN p nw (packW f) := by
  simp only [permute, packW_map, word_pack, permuteN]

def roundN (nw k t v d : Nat) : Nat :=
  let e := if d % 4 = 0 then addWordsN nw v (subkeysN nw k t (d / 4)) else v
  permuteN (pi nw) nw (mixLayerN nw d e)
theorem round_eq (nw : Nat) (k t v : List W) (d : Nat) :
    packW (round nw k t v d) = roundN nw (packW k) (packW t) (packW v) d := by
  simp only [round, permute_eq, mixLayer_eq, apply_ite packW, addWords_eq, subkeys_eq, roundN]

def stateN (nw k t p : Nat) : Nat → Nat
  | 0 => p
  | d + 1 => roundN nw k t (stateN nw k t p d) d
theorem state_eq (nw : Nat) (k t p : List W) (d : Nat) :
    packW (state nw k t p d) = stateN nw (packW k) (packW t) (packW p) d := by
  induction d with
  | zero => rfl
  | succ d ih => rw [state, round_eq, ih, stateN]

def encWordsN (nw : Nat) (K T P : List Nat) : Nat :=
  let k := keyExtN K
  let t := tweakExtN T
  addWordsN nw (stateN nw k t (pack P) (Nr nw)) (subkeysN nw k t (Nr nw / 4))
theorem encWords_pack (nw : Nat) (K T P : List W) :
    packW (encWords nw K T P) = encWordsN nw (K.map BitVec.toNat) (T.map BitVec.toNat) (P.map BitVec.toNat) := by
  simp only [encWords, addWords_eq, state_eq, subkeys_eq, keyExt_eq, tweakExt_eq, encWordsN]
  rfl

theorem wordsToBytes_eq (l : List W) :
    wordsToBytes l = (List.range l.length).flatMap fun i => toBytes 8 (word (packW l) i) := by
  simp only [word_pack]
  rw [← List.flatMap_map (fun i => l.getD i 0) (fun w => toBytes 8 w.toNat), Fold.map_getD_range l 0 _ (Nat.le_refl _),
    List.take_length]
  rfl

def wordsOf : Nat → List Nat → List Nat
  | 0, _ => []
  | n + 1, s => toInt (s.take 8) % 2 ^ 64 :: wordsOf n (s.drop 8)
theorem bytesToWords_eq (s : List Nat) : (bytesToWords s).map BitVec.toNat = wordsOf (s.length / 8) s := by
  simp only [bytesToWords, List.map_map, Function.comp_def, BitVec.toNat_ofNat]
  generalize s.length / 8 = n
  induction n generalizing s with
  | zero => rfl
  | succ n ih =>
    rw [wordsOf, ← ih, List.range_succ_eq_map, List.map_cons, List.map_map, Nat.mul_zero, List.drop_zero]
    simp only [Function.comp_def, List.drop_drop, Nat.mul_succ, Nat.add_comm]

theorem enc_eq :
    enc = fun key tweak block =>
      if sizesOk key tweak block then
        let nw := key.length / 8
        let C := encWordsN nw (wordsOf nw key) (wordsOf (tweak.length / 8) tweak) (wordsOf (block.length / 8) block)
        some ((List.range nw).flatMap fun i => toBytes 8 (word C i))
      else none := by
  funext key tweak block
  refine ite_congr rfl (fun _ => ?_) fun _ => rfl
  rw [wordsToBytes_eq, encWords_pack, bytesToWords_eq, bytesToWords_eq, bytesToWords_eq, encWords, addWords, List.length_map,
    List.length_range]

end Proofs.Lemmas.TfEval
