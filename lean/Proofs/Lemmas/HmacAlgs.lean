/- HMAC over hash objects that are only known to compute their standard function on byte strings, and what that asks of
   the ten MD/SHA objects of the library: the end-to-end refinement of the one-shot hash on whole byte strings, digests
   that are bytes and fit a block -/
import Proofs.Lemmas.Hmac
import Proofs.Lemmas.EndToEnd
import Proofs.Lemmas.Bytes
namespace Proofs.Lemmas.HmacAlgs
open Model Model.Hmac Proofs.Lemmas.Parse Proofs.Lemmas.EndToEnd Proofs.Lemmas.Bytes

def IsBytes (m : List Nat) : Prop := ∀ x ∈ m, x < 256

theorem hmac_eq_on_bytes (h : HashFn) (H : List Nat → List Nat) (B : Nat) (hB : 0 < B) (key msg : List Nat)
    (hh : ∀ m, IsBytes m → h m = .ok (H m)) (hH : ∀ m, IsBytes (H m))
    (hkey : IsBytes key) (hmsg : IsBytes msg) (hL : B < key.length → (H key).length ≤ B) :
    Hmac.hmac h (8 * B) key msg = .ok (Spec.rfc2104 H B key msg) := by
  have hK : AllBytes (Spec.hmacKey H B key) := by
    unfold Spec.hmacKey
    split
    · exact AllBytes.append (hH key) (.replicate (by decide) _)
    · exact AllBytes.append hkey (.replicate (by decide) _)
  have hx (c : Nat) (hc : c < 256) : AllBytes ((Spec.hmacKey H B key).map (· ^^^ c)) :=
    hK.map fun _ hb => Nat.xor_lt_two_pow (n := 8) hb hc
  exact Hmac.hmac_eq_of_agree h H B hB key msg hL (fun _ => hh key hkey)
    (hh _ (AllBytes.append (hx _ (by decide)) hmsg))
    (hh _ (AllBytes.append (hx _ (by decide)) (hH _)))

def specFn (alg : Model.Alg) (m : List Nat) : List Nat :=
  toNatBytes (Spec.hash (toSpec alg) (Spec.bytesToBits (m.map (BitVec.ofNat 8))))

theorem model_hash_on_bytes (alg : Model.Alg) (m : List Nat) (hm : IsBytes m) :
    Model.hash alg m none = .ok (specFn alg m) := by
  have := hash_eq_none alg (m.map (BitVec.ofNat 8))
  rwa [toNatBytes_ofNat m hm] at this

theorem specFn_bytes (alg : Model.Alg) (m : List Nat) : IsBytes (specFn alg m) := toNatBytes_lt _

/-- a digest fits a block: RFC 2104's assumption for keys longer than a block -/
theorem specFn_length_le (alg : Model.Alg) (m : List Nat) : (specFn alg m).length ≤ alg.blocklen := by
  rw [specFn, toNatBytes_length, spec_length]
  cases alg <;> decide

end Proofs.Lemmas.HmacAlgs
