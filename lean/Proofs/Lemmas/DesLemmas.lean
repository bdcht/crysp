/-
  Lemmas about Model.Des: pure forms of the components, the control skeleton as a Feistel network.
-/
import Proofs.Lemmas.BitsBools
import Proofs.Lemmas.Feistel
namespace Model.Des
open Model.Bits Proofs

theorem len_ip : Gen.Des.ip.length = 64 := by decide
theorem len_ipinv : Gen.Des.ipinv.length = 64 := by decide
theorem len_pc1 : Gen.Des.pc1.length = 56 := by decide
theorem len_pc2 : Gen.Des.pc2.length = 48 := by decide
theorem len_e : Gen.Des.e.length = 48 := by decide
theorem len_p : Gen.Des.p.length = 32 := by decide

theorem ipinv_after_ip : Gen.Des.ipinv.map (fun x => Gen.Des.ip[x]?) = (List.range 64).map some := by decide +kernel
theorem ip_after_ipinv : Gen.Des.ip.map (fun x => Gen.Des.ipinv[x]?) = (List.range 64).map some := by decide +kernel

theorem cumShift_le (r : Nat) : cumShift r ≤ 28 :=
  Nat.le_trans (Proofs.Lemmas.Fold.sum_take_le _ _) (by decide)

def subkeyP (k : Bits) (r : Nat) : Bits :=
  ((rotIdiom (k.sliceFast 0 28) (cumShift r)).concat (rotIdiom (k.sliceFast 28 56) (cumShift r))).pick Gen.Des.pc2

theorem subkey_eq (k : Bits) (hk : 56 ≤ k.size) (r : Nat) : subkey k r = .ok (subkeyP k r) := by
  have h1 : ¬ k.size < 56 := by omega
  have h2 : ¬ cumShift r > 28 := Nat.not_lt.mpr (cumShift_le r)
  simp only [subkey, h1, h2, if_false, PC2, subkeyP, rotIdiom, size_concat]
  simp [Bits.or, wsize, shr, shl]

@[simp] theorem size_subkeyP (k : Bits) (r : Nat) : (subkeyP k r).size = 48 := by
  simp [subkeyP, len_pc2]

theorem WF_subkeyP (k : Bits) (r : Nat) : (subkeyP k r).WF := WF_pick _ _

/-- the 4-bit value `F` writes for S-box `n` when the 6-bit chunk has value `c` -/
def sOut (n c : Nat) : Nat :=
  let x : Bits := ⟨c, 6⟩
  let i := (x.pick [5, 0]).ival
  let j := (x.pick [4, 3, 2, 1]).ival
  let v := ofNatSz ((Gen.Des.sbox.getD n []).getD ((i <<< 4) + j) 0) 4
  ((ofNatSz v.ival 4).pick [3, 2, 1, 0]).ival

theorem sOut_lt (n c : Nat) : sOut n c < 16 := WF_pick _ [3, 2, 1, 0]

def sboxStepP (s Z : Bits) (n : Nat) : Bits :=
  Z.putSlice (4 * n) (4 * n + 4) (ofNat (sOut n (s.sliceFast (6 * n) (6 * n + 6)).ival))

theorem S_chunk (n : Nat) (hn : n < 8) (x : Bits) :
    S n (((x.pick [5, 0]).ival <<< 4) + (x.pick [4, 3, 2, 1]).ival) =
      .ok (ofNatSz ((Gen.Des.sbox.getD n []).getD (((x.pick [5, 0]).ival <<< 4) + (x.pick [4, 3, 2, 1]).ival) 0) 4) := by
  have hi : (x.pick [5, 0]).ival < 4 := by simpa [WF] using WF_pick x [5, 0]
  have hj : (x.pick [4, 3, 2, 1]).ival < 16 := by simpa [WF] using WF_pick x [4, 3, 2, 1]
  have hx : ((x.pick [5, 0]).ival <<< 4) + (x.pick [4, 3, 2, 1]).ival < 64 := by
    rw [Nat.shiftLeft_eq]
    omega
  simp only [S, hn, hx, and_self, if_true]

theorem sboxStep_eq (s Z : Bits) (n : Nat) (hn : n < 8) : sboxStep s Z n = .ok (sboxStepP s Z n) := by
  simp only [sboxStep, S_chunk n hn, bind, Except.bind, pure, Except.pure]
  -- `sOut` selects from `⟨x.ival, 6⟩` where the code selects from the chunk `x`: `pick` reads `ival` only
  rfl

def sboxLoopP (s : Bits) (ns : List Nat) (Z : Bits) : Bits := ns.foldl (sboxStepP s) Z

theorem sboxLoop_eq (s : Bits) (ns : List Nat) (hns : ∀ n ∈ ns, n < 8) (Z : Bits) :
    sboxLoop s ns Z = .ok (sboxLoopP s ns Z) := by
  induction ns generalizing Z with
  | nil => rfl
  | cons n ns ih =>
    simp only [sboxLoop, sboxStep_eq s Z n (hns n (by simp)), bind, Except.bind, sboxLoopP, List.foldl_cons]
    exact ih (fun m hm => hns m (by simp [hm])) _

/-- `des.F` of crysp: the round function, not a final permutation -/
def FP (R k : Bits) (r : Nat) : Bits :=
  (sboxLoopP ((R.pick Gen.Des.e).xor (subkeyP k r)) (List.range 8) (ofNatSz 0 32)).pick Gen.Des.p

@[simp] theorem size_sboxStepP (s Z : Bits) (n : Nat) : (sboxStepP s Z n).size = Z.size := rfl
@[simp] theorem size_sboxLoopP (s : Bits) (ns : List Nat) (Z : Bits) : (sboxLoopP s ns Z).size = Z.size :=
  Proofs.Lemmas.Fold.foldl_inv (fun b : Bits => b.size = Z.size) (sboxStepP s) ns (fun _ _ _ h => h) rfl

theorem F_eq (R k : Bits) (r : Nat) (hR : R.size = 32) (hk : 56 ≤ k.size) : F R k r = .ok (FP R k r) := by
  have h8 : ∀ n ∈ List.range 8, n < 8 := fun n hn => by simpa using hn
  simp only [F, E, hR, subkey_eq k hk r, bind, Except.bind, sboxLoop_eq _ _ h8, P, FP]
  simp [ofNatSz]

@[simp] theorem size_FP (R k : Bits) (r : Nat) : (FP R k r).size = 32 := by simp [FP, len_p]
theorem WF_FP (R k : Bits) (r : Nat) : (FP R k r).WF := WF_pick _ _

def Half (b : Bits) : Prop := b.size = 32 ∧ b.WF

theorem xor_cancel (a b : Bits) (ha : Half a) (hb : Half b) : (a.xor b).xor b = a := by
  cases a with | mk av as => cases b with | mk bv bs =>
  simp only [Half] at ha hb
  obtain ⟨rfl, _⟩ := ha
  obtain ⟨rfl, _⟩ := hb
  simp [Bits.xor, wsize, Nat.xor_assoc]

theorem half_xor (a b : Bits) (ha : Half a) (hb : Half b) : Half (a.xor b) :=
  ⟨by simp [Bits.xor, wsize, ha.1, hb.1], WF_xor a b ha.2 hb.2 (by rw [ha.1, hb.1])⟩

theorem half_FP (R k : Bits) (r : Nat) : Half (FP R k r) := ⟨size_FP R k r, WF_FP R k r⟩

theorem half_slices (b : Bits) : Half (b.sliceFast 0 32) ∧ Half (b.sliceFast 32 64) :=
  ⟨⟨rfl, WF_sliceFast _ _ _⟩, ⟨rfl, WF_sliceFast _ _ _⟩⟩

theorem concat_slices (b : Bits) (hb : b.WF) (hs : b.size = 64) : (b.sliceFast 0 32).concat (b.sliceFast 32 64) = b := by
  rw [Lemmas.Bits.concat_sliceFast b 0 32 64 (by decide) (by decide), ← hs, Lemmas.Bits.sliceFast_full b hb]

theorem slices_concat (A B : Bits) (hA : Half A) (hB : Half B) :
    (A.concat B).sliceFast 0 32 = A ∧ (A.concat B).sliceFast 32 64 = B := by
  have h1 := Lemmas.Bits.sliceFast_concat_left A B hA.2
  have h2 := Lemmas.Bits.sliceFast_concat_right A B hA.2 hB.2
  rw [hA.1] at h1 h2
  rw [hB.1] at h2
  exact ⟨h1, h2⟩

/-- the loop `Z[4n:4n+4] = S(n, …)[::-1]` of `F` over the eight S-boxes, from `Z = 0`, bit by bit -/
theorem sboxLoopP_bits (s : Bits) :
    Half (sboxLoopP s (List.range 8) (ofNatSz 0 32)) ∧
      ∀ i < 32, (sboxLoopP s (List.range 8) (ofNatSz 0 32)).ival.testBit i =
        (sOut (i / 4) (s.sliceFast (6 * (i / 4)) (6 * (i / 4) + 6)).ival).testBit (i % 4) := by
  obtain ⟨_, e, a12, a3⟩ := Proofs.Lemmas.Fold.loop_writes (ε := Empty) (fun ns Z => .ok (sboxLoopP s ns Z))
    (fun _ => rfl) Half (fun b i => b.ival.testBit i) (· / 4)
    (fun n i => (sOut n (s.sliceFast (6 * n) (6 * n + 6)).ival).testBit (i % 4)) (ofNatSz 0 32) (List.range 8)
    List.nodup_range
    (fun n hn b hb _ => by
      have hy := sOut_lt n (s.sliceFast (6 * n) (6 * n + 6)).ival
      have he : 4 * n + 4 ≤ b.size := by
        have := List.mem_range.mp hn
        have := hb.1
        omega
      exact ⟨sboxStepP s b n, fun _ => rfl, ⟨hb.1, WF_putField b 4 n _ he hy⟩,
        testBit_putField b hb.2 4 n _ (by decide) he hy⟩)
    (ofNatSz 0 32) ⟨rfl, WF_ofNatSz 0 32⟩ fun _ _ => rfl
  cases e
  exact ⟨a12, fun i hi => by rw [a3, if_pos (List.mem_range.mpr (by omega))]⟩

theorem half_sboxLoopP (s : Bits) : Half (sboxLoopP s (List.range 8) (ofNatSz 0 32)) := (sboxLoopP_bits s).1

/-- `C=Bits(0,64); C[0:32]=A; C[32:64]=B` is `A // B` -/
theorem join_eq_concat (A B : Bits) (hA : Half A) (hB : Half B) : join A B = A.concat B := by
  apply Lemmas.Bits.eq_of_size_ival (by rw [size_join, size_concat, hA.1, hB.1])
  apply Nat.eq_of_testBit_eq
  intro i
  rw [join, testBit_putSlice, testBit_putSlice, testBit_concat A B hA.2, hA.1, hB.1]
  by_cases h : i < 32
  · simp [h, ofNatSz, show ¬ 32 ≤ i by omega, show i < 64 by omega]
  · have hAi := Lemmas.Bits.wf_testBit hA.2 (show A.size ≤ i by rw [hA.1]; omega)
    by_cases h' : i < 64
    · simp [h, h', ofNatSz, hAi, Nat.le_of_not_lt h]
    · simp [h, h', ofNatSz, hAi, Lemmas.Bits.wf_testBit hB.2 (show B.size ≤ i - 32 by rw [hB.1]; omega)]

theorem rounds_eq_run (k : Bits) (order : List Nat) (L R : Bits) :
    rounds k order L R = Feistel.run Bits.xor (fun r R => F R k r) order L R := by
  induction order generalizing L R with
  | nil => rfl
  | cons r rs ih =>
    simp only [rounds, Feistel.run, bind, Except.bind]
    cases F R k r with
    | error e => rfl
    | ok y => exact ih _ _

/-- `Feistel.runP Bits.xor (fun r R => FP R k r)` written out, which `rounds_eq` and `roundsP_reverse` use as it
    stands -/
def roundsP (k : Bits) (order : List Nat) (LR : Bits × Bits) : Bits × Bits :=
  order.foldl (fun p r => (p.2, p.1.xor (FP p.2 k r))) LR

theorem rounds_eq (k : Bits) (hk : 56 ≤ k.size) (order : List Nat) (L R : Bits) (hL : Half L) (hR : Half R) :
    rounds k order L R = .ok (roundsP k order (L, R)) ∧ Half (roundsP k order (L, R)).1 ∧ Half (roundsP k order (L, R)).2 := by
  rw [rounds_eq_run]
  exact Feistel.run_eq Bits.xor _ (fun r R => FP R k r) Half half_xor (fun r a ha => ⟨F_eq a k r ha.1 hk, half_FP a k r⟩)
    order L R hL hR

theorem roundsP_reverse (k : Bits) (order : List Nat) (L R : Bits) (hL : Half L) (hR : Half R) :
    roundsP k order.reverse ((roundsP k order (L, R)).2, (roundsP k order (L, R)).1) = (R, L) ∧
      Half (roundsP k order (L, R)).1 ∧ Half (roundsP k order (L, R)).2 :=
  Feistel.runP_reverse Bits.xor (fun r R => FP R k r) Half xor_cancel half_xor (fun r a _ => half_FP a k r) order L R hL hR

theorem half_roundsP (k : Bits) (order : List Nat) (L R : Bits) (hL : Half L) (hR : Half R) :
    Half (roundsP k order (L, R)).1 ∧ Half (roundsP k order (L, R)).2 :=
  (roundsP_reverse k order L R hL hR).2

theorem size_PC1 (k : Bits) : (PC1 k).size = 56 := by simp [PC1, len_pc1]

theorem pc1_no_parity : ∀ i < 56, Gen.Des.pc1.getD i 0 % 8 ≠ 7 := by decide +kernel

/-- PC1 never reads a parity bit (bit 7 of a byte = its least significant bit in the bitstream numbering) -/
theorem PC1_parity (K K' : Bits) (h : ∀ i, i % 8 ≠ 7 → K.ival.testBit i = K'.ival.testBit i) : PC1 K = PC1 K' := by
  unfold PC1
  apply Lemmas.Bits.ext_of_wf (WF_pick _ _) (WF_pick _ _) (by rw [size_pick, size_pick])
  intro i hi
  rw [size_pick] at hi
  rw [testBit_pick, testBit_pick, dif_pos hi, dif_pos hi, List.getElem_eq_getD 0]
  exact h _ (pc1_no_parity i (by rw [← len_pc1]; exact hi))

/-- the block the code assembles by `C[0:32]=R; C[32:64]=L` is written `R // L` (`join_eq_concat`) -/
def cryptP (k : Bits) (order : List Nat) (Mb : Bits) : Bits :=
  let p := roundsP k order ((Mb.pick Gen.Des.ip).sliceFast 0 32, (Mb.pick Gen.Des.ip).sliceFast 32 64)
  (p.2.concat p.1).pick Gen.Des.ipinv

@[simp] theorem size_cryptP (k : Bits) (order : List Nat) (Mb : Bits) : (cryptP k order Mb).size = 64 := len_ipinv
theorem WF_cryptP (k : Bits) (order : List Nat) (Mb : Bits) : (cryptP k order Mb).WF := WF_pick _ _

theorem crypt_eq (d : DES) (order : List Nat) (M : List Nat) (hM : M.length = 8) :
    d.crypt order M = .ok (toBytes (cryptP (PC1 d.K) order (ofByteStr M))) := by
  have h64 : (ofByteStr M).size = 64 := by simp [ofByteStr, hM]
  obtain ⟨hr, hL', hR'⟩ := rounds_eq (PC1 d.K) (by rw [size_PC1]; decide) order _ _
    (half_slices ((ofByteStr M).pick Gen.Des.ip)).1 (half_slices ((ofByteStr M).pick Gen.Des.ip)).2
  rw [cryptP, ← join_eq_concat _ _ hR' hL']
  simp [DES.crypt, ofBytes_bitstream, bind, Except.bind, h64, IP, pure, Except.pure, hr, IPinv, join,
    show (ofNatSz 0 64).size = 64 from rfl]

theorem crypt_badlen (d : DES) (order : List Nat) (M : List Nat) (hM : M.length ≠ 8) :
    d.crypt order M = .error assertErr := by
  have h64 : (ofByteStr M).size ≠ 64 := by
    simp [ofByteStr]
    omega
  simp only [DES.crypt, ofBytes_bitstream, bind, Except.bind, h64, ne_eq, not_false_eq_true, if_true]
  rfl

theorem cryptP_reverse (k : Bits) (order : List Nat) (Mb : Bits) (hM : Mb.WF) (hs : Mb.size = 64) :
    cryptP k order.reverse (cryptP k order Mb) = Mb := by
  obtain ⟨hL0, hR0⟩ := half_slices (Mb.pick Gen.Des.ip)
  obtain ⟨hrev, hL', hR'⟩ := roundsP_reverse k order _ _ hL0 hR0
  rw [cryptP, cryptP, pick_pick_id _ (Lemmas.Bits.concat_wf _ _) _ _ (by rw [size_concat, hR'.1, hL'.1]; exact ip_after_ipinv),
    (slices_concat _ _ hR' hL').1, (slices_concat _ _ hR' hL').2, hrev]
  dsimp only
  rw [concat_slices (Mb.pick Gen.Des.ip) (WF_pick _ _) len_ip, pick_pick_id _ hM _ _ (by rw [hs]; exact ipinv_after_ip)]

theorem DES_new_eq (K : List Nat) (hK : K.length = 8) : DES.new K = .ok ⟨(ofByteStr K).setSize 64⟩ := by
  simp [DES.new, hK, ofBytes, load_bitstream, bind, Except.bind, pure, Except.pure]

theorem DES_new_ok (K : List Nat) (hK : K.length = 8) : ∃ d, DES.new K = .ok d ∧ d.K.size = 64 :=
  ⟨_, DES_new_eq K hK, rfl⟩

theorem DES_new_bytes (K : List Nat) (hK : K.length = 8) (hb : IsBytes K) : DES.new K = .ok ⟨ofByteStr K⟩ := by
  rw [DES_new_eq K hK, setSize_ofByteStr K hb 64 (by omega)]

theorem DES_new_badlen (K : List Nat) (hK : K.length ≠ 8) : DES.new K = .error assertErr := by
  simp [DES.new, hK]

/-- `DES(K).enc(M)`, `DES(K).dec(M)` for every key string and block -/
theorem new_crypt_eq (K M : List Nat) (order : List Nat) :
    (DES.new K >>= fun d => d.crypt order M) =
      if K.length = 8 ∧ M.length = 8 then .ok (toBytes (cryptP (PC1 ((ofByteStr K).setSize 64)) order (ofByteStr M)))
      else .error assertErr := by
  by_cases hK : K.length = 8
  · rw [DES_new_eq K hK, Lemmas.Fold.ok_bind]
    by_cases hM : M.length = 8
    · rw [crypt_eq _ order M hM, if_pos ⟨hK, hM⟩]
    · rw [crypt_badlen _ order M hM, if_neg fun h => hM h.2]
  · rw [DES_new_badlen K hK, if_neg fun h => hK h.1]
    rfl

theorem crypt_inverse (d : DES) (order : List Nat) (M : List Nat) (hM : M.length = 8) (hb : IsBytes M) :
    ∃ C, d.crypt order M = .ok C ∧ C.length = 8 ∧ IsBytes C ∧ d.crypt order.reverse C = .ok M := by
  have hsz := size_cryptP (PC1 d.K) order (ofByteStr M)
  have hl : (toBytes (cryptP (PC1 d.K) order (ofByteStr M))).length = 8 := by rw [length_toBytes, hsz]
  refine ⟨_, crypt_eq d order M hM, hl, isBytes_toBytes _ 8 hsz, ?_⟩
  rw [crypt_eq d _ _ hl, ofByteStr_toBytes _ (WF_cryptP _ _ _) 8 hsz,
    cryptP_reverse _ order _ (WF_ofByteStr M hb) (by simp [ofByteStr, hM]), toBytes_ofByteStr M hb]

theorem des_roundtrip (K M : List Nat) (hK : K.length = 8) (hM : M.length = 8) (hb : IsBytes M) (order : List Nat) :
    ∃ C, (DES.new K >>= fun d => d.crypt order M) = .ok C ∧ C.length = 8 ∧ IsBytes C ∧
      (DES.new K >>= fun d => d.crypt order.reverse C) = .ok M := by
  simp only [DES_new_eq K hK, Lemmas.Fold.ok_bind]
  exact crypt_inverse _ order M hM hb

theorem crypt3_inverse (d1 d2 d3 : DES) (o1 o2 o3 : List Nat) (M : List Nat) (hM : M.length = 8) (hb : IsBytes M) :
    ∃ C, (d1.crypt o1 M >>= fun a => d2.crypt o2 a >>= fun b => d3.crypt o3 b) = .ok C ∧ C.length = 8 ∧ IsBytes C ∧
      (d3.crypt o3.reverse C >>= fun a => d2.crypt o2.reverse a >>= fun b => d1.crypt o1.reverse b) = .ok M := by
  obtain ⟨A, a1, a2, a3, a4⟩ := crypt_inverse d1 o1 M hM hb
  obtain ⟨B, b1, b2, b3, b4⟩ := crypt_inverse d2 o2 A a2 a3
  obtain ⟨C, c1, c2, c3, c4⟩ := crypt_inverse d3 o3 B b2 b3
  exact ⟨C, by simp [a1, b1, c1, bind, Except.bind], c2, c3, by simp [a4, b4, c4, bind, Except.bind]⟩

end Model.Des
