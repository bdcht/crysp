/-
  Key expansion: `Salsa20.__init__` / `Chacha.__init__` for 16- and 32-byte keys given as `Bits(key, bitorder=1)`,
  and the input blocks of the two specifications as the state words the constructors leave.
-/
import Proofs.Lemmas.StreamEnc
namespace Proofs.Lemmas.SalsaInit
open Model Model.Poly Proofs.Lemmas.StreamPoly Proofs.Lemmas.SalsaRounds Proofs.Lemmas.StreamEnc Proofs.Lemmas.SalsaKey

/-- `K.split(128)` of a 256-bit key -/
theorem split128_k32 (k0 k1 : List Byte) (h0 : k0.length = 16) (h1 : k1.length = 16) :
    (⟨leVal (k0 ++ k1), 256⟩ : Bits).split 128 false = .ok [⟨leVal k0, 128⟩, ⟨leVal k1, 128⟩] := by
  have b0 := leVal_lt k0
  have b1 := leVal_lt k1
  rw [h0] at b0
  rw [h1] at b1
  rw [leVal_append, h0]
  refine (Bits.split_uniform _ 2 128 (by decide) rfl).trans ?_
  simp only [List.range_succ, List.range_zero, List.nil_append, List.cons_append, List.map_cons, List.map_nil]
  congr 4 <;> omega

/-- `K.split(128)` of a 128-bit key -/
theorem split128_k16 (k : List Byte) (h : k.length = 16) :
    (⟨leVal k, 128⟩ : Bits).split 128 false = .ok [⟨leVal k, 128⟩] := by
  have b0 := leVal_lt k
  rw [h] at b0
  refine (Bits.split_uniform _ 1 128 (by decide) rfl).trans ?_
  simp only [List.range_succ, List.range_zero, List.nil_append, List.map_cons, List.map_nil]
  congr 3
  omega

theorem words4_length (k : List Byte) (h : k.length = 16) : (wordsOfNat 4 (leVal k)).length = 4 := by simp [wordsOfNat]

/-- `p[a:a+4] = [x.int() for x in k.split(32)]` for a key half `k`, in both constructors (`s`, `e` are the literal
    bounds `a`, `a+4` of the source) -/
theorem place_key {β} (f : Poly → Except Err β) (P : List Word) (k : List Byte) (hk : k.length = 16) (a : Nat) (s e : Int)
    (hs : s = (a : Nat)) (he : e = ((a + 4 : Nat) : Int)) (h : a + 4 ≤ P.length) :
    (do let l ← (⟨leVal k, 128⟩ : Bits).split 32
        let k ← Salsa.bitsInts l
        let p ← (ofBV P).setSlice (some s) (some e) none (.list k)
        f p) = f (ofBV (setW P (List.range' a 4) (Spec.Salsa20.words k))) := by
  have hw := words_length 4 k (by omega)
  rw [split32 (leVal k) 4, Fold.ok_bind, ints32, Fold.ok_bind, words_leVal 4 k (by omega),
    setSlice_words (by decide) P _ a s e _ hs (hw.symm ▸ he) rfl (by omega), Fold.ok_bind, hw]

/-- the state words after `Salsa20.__init__`: constants at 0,5,10,15, key halves at 1..4 and 11..14, zeros elsewhere -/
def salsaLayout (c a b : List Word) : List Word :=
  setW (setW (setW (List.replicate 16 0) [0, 5, 10, 15] c) [1, 2, 3, 4] a) [11, 12, 13, 14] b

/-- the state words after `Chacha.__init__`: constants 0..3, key 4..11, zeros at 12..15 -/
def chachaLayout (c a b : List Word) : List Word :=
  setW (setW (setW (List.replicate 16 0) [0, 1, 2, 3] c) [4, 5, 6, 7] a) [8, 9, 10, 11] b

theorem salsaLayout_eq (c0 c1 c2 c3 a0 a1 a2 a3 b0 b1 b2 b3 : Word) :
    salsaLayout [c0, c1, c2, c3] [a0, a1, a2, a3] [b0, b1, b2, b3] =
      [c0, a0, a1, a2, a3, c1, 0, 0, 0, 0, c2, b0, b1, b2, b3, c3] := by
  simp [salsaLayout, setW, List.replicate]

theorem chachaLayout_eq (c0 c1 c2 c3 a0 a1 a2 a3 b0 b1 b2 b3 : Word) :
    chachaLayout [c0, c1, c2, c3] [a0, a1, a2, a3] [b0, b1, b2, b3] =
      [c0, c1, c2, c3, a0, a1, a2, a3, b0, b1, b2, b3, 0, 0, 0, 0] := by
  simp [chachaLayout, setW, List.replicate]

theorem sigma_words : Gen.Streams.sigma.map (BitVec.ofNat 32) = Spec.Salsa20.words Spec.Salsa20.sigma := by decide +kernel
theorem tau_words : Gen.Streams.tau.map (BitVec.ofNat 32) = Spec.Salsa20.words Spec.Salsa20.tau := by decide +kernel

theorem p0 : Poly.ofInt 0 32 16 = ofBV (List.replicate 16 (0 : Word)) := by decide +kernel

/-- `Salsa20.__init__` once `K.split(128)` and the choice of constant are known: key halves `ka`, `kb` -/
theorem salsa_init_halves (K : Bits) (hK : K.size = 128 ∨ K.size = 256) (ks : List Bits) (hs : K.split 128 = .ok ks)
    (consts : List Nat) (hc : consts.length = 4) (ka kb : List Byte) (ha : ka.length = 16) (hb : kb.length = 16)
    (hsel : (if ks.length = 1 then (ks ++ [ks.getD 0 default], Gen.Streams.tau) else (ks, Gen.Streams.sigma))
      = ([⟨leVal ka, 128⟩, ⟨leVal kb, 128⟩], consts))
    (rounds : Int) (hr : rounds > 0 ∧ rounds % 2 = 0) :
    Salsa.init (some K) rounds =
      .ok ⟨some [⟨leVal ka, 128⟩, ⟨leVal kb, 128⟩],
           ofBV (salsaLayout (consts.map (BitVec.ofNat 32)) (Spec.Salsa20.words ka) (Spec.Salsa20.words kb)),
           (rounds / 2).toNat⟩ := by
  unfold Salsa.init
  have hK' : ¬ (K.size ≠ 128 ∧ K.size ≠ 256) := by omega
  simp only [hK', ↓reduceIte, hs, Fold.ok_bind, hsel, List.getD_cons_zero, List.getD_cons_succ, bind_assoc]
  have hidx : ([0, 5, 10, 15] : List Int) = ([0, 5, 10, 15] : List Nat).map fun (i : Nat) => (i : Int) := rfl
  rw [p0, hidx, setIdx, Salsa.ints, List.length_map, List.length_map, hc, if_pos (show ([0, 5, 10, 15] : List Nat).length = 4 from rfl),
    setMany_ofBV (by decide) _ _ consts (by decide), Fold.ok_bind,
    place_key _ _ ka ha 1 1 5 rfl rfl (by simp [setW_length]),
    place_key _ _ kb hb 11 11 15 rfl rfl (by simp [setW_length])]
  simp only [hr, and_self, not_true_eq_false, ↓reduceIte, pure, Except.pure, Fold.ok_bind]
  rfl

/-- `Chacha.__init__` after the inherited constructor: constants and key halves moved to words 0..3, 4..7, 8..11 -/
theorem chacha_init_of_salsa (K : Option Bits) (rounds : Int) (dr : Nat) (cW : List Word) (hc4 : cW.length = 4)
    (ka kb : List Byte) (ha : ka.length = 16) (hb : kb.length = 16)
    (h : Salsa.init K rounds = .ok ⟨some [⟨leVal ka, 128⟩, ⟨leVal kb, 128⟩],
      ofBV (salsaLayout cW (Spec.Salsa20.words ka) (Spec.Salsa20.words kb)), dr⟩) :
    Chacha.init K rounds = .ok ⟨some [⟨leVal ka, 128⟩, ⟨leVal kb, 128⟩],
      ofBV (chachaLayout cW (Spec.Salsa20.words ka) (Spec.Salsa20.words kb)), dr⟩ := by
  obtain ⟨c0, c1, c2, c3, rfl⟩ := Fold.exists_of_length_4 hc4
  obtain ⟨a0, a1, a2, a3, ea⟩ := Fold.exists_of_length_4 (words_length 4 ka (by omega))
  obtain ⟨b0, b1, b2, b3, eb⟩ := Fold.exists_of_length_4 (words_length 4 kb (by omega))
  unfold Chacha.init
  rw [h, Fold.ok_bind]
  simp only [List.getD_cons_zero, List.getD_cons_succ]
  have hg : (ofBV (salsaLayout [c0, c1, c2, c3] (Spec.Salsa20.words ka) (Spec.Salsa20.words kb))).getList [0, 5, 10, 15]
      = .ok (ofBV [c0, c1, c2, c3]) := by
    rw [ea, eb, salsaLayout_eq]
    exact getList_ofBV _ [0, 5, 10, 15] (by simp)
  rw [hg, Fold.ok_bind, p0, setSlice_words (by decide) _ [c0, c1, c2, c3] 0 0 4 (ofBV _).ival rfl rfl rfl (by simp), Fold.ok_bind,
    place_key _ _ ka ha 4 4 8 rfl rfl (by simp [setW_length]),
    place_key _ _ kb hb 8 8 12 rfl rfl (by simp [setW_length])]
  rfl

/-- the Salsa20 input block (σ0,k0,σ1,v,i_,σ2,k1,σ3), σ0..σ3 the four pieces of the 16-byte constant `c` as
    `Spec.Salsa20.expand` takes them, in words = the object's state words with nonce and counter written -/
theorem salsa_input_words (c ka kb v : List Byte) (hc : c.length = 16) (ha : ka.length = 16) (hb : kb.length = 16)
    (hv : v.length = 8) (i : Nat) :
    Spec.Salsa20.words (c.take 4 ++ ka ++ (c.drop 4).take 4 ++ (v ++ Spec.Salsa20.le64 i) ++ (c.drop 8).take 4 ++ kb ++ c.drop 12) =
      ctrSet 8 (nonceSet 6 (salsaLayout (Spec.Salsa20.words c) (Spec.Salsa20.words ka) (Spec.Salsa20.words kb)) (leVal v)) i := by
  have hle : (Spec.Salsa20.le64 i).length = 8 := by simp [Spec.Salsa20.le64]
  obtain ⟨x0, x1, x2, x3, x4, x5, x6, x7, x8, x9, x10, x11, x12, x13, x14, x15, rfl⟩ := Fold.exists_of_length_16 hc
  obtain ⟨a0, a1, a2, a3, ea⟩ := Fold.exists_of_length_4 (words_length 4 ka (by omega))
  obtain ⟨b0, b1, b2, b3, eb⟩ := Fold.exists_of_length_4 (words_length 4 kb (by omega))
  simp (disch := simp [*]) only [List.take, List.drop, words_append, words_nonce v hv, words_le64, ea, eb]
  simp only [Spec.Salsa20.words, salsaLayout_eq]
  rfl

/-- the ChaCha input block (constants, key, counter, nonce) in words -/
theorem chacha_input_words (c ka kb v : List Byte) (hc : c.length = 16) (ha : ka.length = 16) (hb : kb.length = 16)
    (hv : v.length = 8) (i : Nat) :
    Spec.Salsa20.words (c ++ (ka ++ kb) ++ Spec.Salsa20.le64 i ++ v) =
      ctrSet 12 (nonceSet 14 (chachaLayout (Spec.Salsa20.words c) (Spec.Salsa20.words ka) (Spec.Salsa20.words kb)) (leVal v)) i := by
  have hle : (Spec.Salsa20.le64 i).length = 8 := by simp [Spec.Salsa20.le64]
  simp (disch := simp [*]) only [words_append, words_nonce v hv, words_le64]
  obtain ⟨w0, w1, w2, w3, e0⟩ := Fold.exists_of_length_4 (words_length 4 c (by omega))
  obtain ⟨a0, a1, a2, a3, ea⟩ := Fold.exists_of_length_4 (words_length 4 ka (by omega))
  obtain ⟨b0, b1, b2, b3, eb⟩ := Fold.exists_of_length_4 (words_length 4 kb (by omega))
  rw [e0, ea, eb]
  exact (congrArg (fun P => ctrSet 12 (nonceSet 14 P (leVal v)) i) (chachaLayout_eq ..)).symm

end Proofs.Lemmas.SalsaInit
