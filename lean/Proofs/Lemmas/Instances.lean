/- the ten hash objects of the library refine the ten standard functions: IV, compression, serialisation (`Refines`) -/
import Proofs.Lemmas.Md4
import Proofs.Lemmas.Md5
import Proofs.Lemmas.Sha1
import Proofs.Lemmas.Sha2
import Proofs.Lemmas.Compose
import Proofs.Lemmas.Pack
import Proofs.Lemmas.SpecList
import Model.Hash
namespace Proofs.Lemmas.Instances
open Model Model.Gen.Hashes Proofs.Lemmas.BitsBitVec Proofs.Lemmas.Parse Proofs.Lemmas.Compose Proofs.Lemmas.Pack

/-- RFC 1320 and RFC 1321 serialise alike (`Spec.Md5.out` is `Spec.Md4.out` written again) -/
theorem md_digest (s : Md.State) : Model.Md.joinLE (Md.embH s) = toNatBytes (Spec.Md4.out s) := by
  obtain ⟨a, b, c, d⟩ := s
  simp only [Model.Md.joinLE, Md.embH, Spec.Md4.out, List.map_cons, List.map_nil, List.flatten_cons, List.flatten_nil,
    pack_le _ (by decide : 32 % 8 = 0), List.flatMap_cons, List.flatMap_nil, toNatBytes_append, List.append_nil]

theorem sha1_digest (s : Spec.Sha1.State) :
    Model.Sha.joinBE (Sha1.embH s) = toNatBytes (Spec.Sha1.out s) := by
  obtain ⟨a, b, c, d, e⟩ := s
  simp only [Model.Sha.joinBE, Sha1.embH, Spec.Sha1.out, List.map_cons, List.map_nil, List.flatten_cons,
    List.flatten_nil, pack_be _ (by decide : 32 % 8 = 0), List.flatMap_cons, List.flatMap_nil, toNatBytes_append,
    List.append_nil]

theorem sha2_digest {w : Nat} (hw : w % 8 = 0) (n : Nat) (s : Spec.Sha2.State w) :
    (Model.Sha.joinBE (Sha2.embH s)).take n = toNatBytes (Spec.Sha2.out n s) := by
  obtain ⟨a, b, c, d, e, f, g, h⟩ := s
  simp only [Model.Sha.joinBE, Sha2.embH, Spec.Sha2.out, List.map_cons, List.map_nil, List.flatten_cons,
    List.flatten_nil, pack_be _ hw, List.flatMap_cons, List.flatMap_nil,
    List.append_nil, toNatBytes, List.map_take, List.map_append]

theorem md4_refines : Refines Model.Md.md4Core Spec.Md4.md Md.embH where
  iv := Md4.iv_eq
  compress := Md4.compress_refines
  digest := md_digest
  blockLen := rfl

theorem md5_refines : Refines Model.Md.md5Core Spec.Md5.md Md.embH where
  iv := Md5.iv_eq
  compress := Md5.compress_refines
  digest := md_digest
  blockLen := rfl

theorem sha1_refines (v : Nat) (hv : v ≤ 32) : Refines (Model.Sha.sha1Core v) (Spec.Sha1.md v) Sha1.embH where
  iv := Sha1.iv_eq v
  compress := Sha1.compress_refines v hv
  digest := sha1_digest
  blockLen := by simp [Model.Sha.sha1Core, Padder.blocklen, Spec.Sha1.md]

/-- both families at once: `Spec.Sha2.md256`/`md512` unfold to this record (a block is 16 words) -/
theorem sha2_refines {w : Nat} {F : Spec.Sha2.Family w} {c : Model.Sha.Sha2Cfg} (L : Sha2.Link c F) (hw : w % 8 = 0)
    (hw8 : 8 ≤ w) (hb : c.blocksize = 16 * w) {ivs : List Nat} {iv : Spec.Sha2.State w}
    (hiv : ivs.map (fun v => Bits.ofNatSz v w) = Sha2.embH iv) {ll : Nat} {enc : Nat → List Spec.Byte} :
    Refines (Model.Sha.sha2Core c ivs) ⟨16 * (w / 8), ll, enc, iv, Spec.Sha2.compress F, Spec.Sha2.out c.outlen⟩ Sha2.embH where
  iv := by simp only [Model.Sha.sha2Core, L.hw]; exact hiv
  compress := Sha2.compress_refines L hw8
  digest := sha2_digest hw c.outlen
  blockLen := by simp only [Model.Sha.sha2Core, Padder.blocklen, hb]; omega

/-- initial hash values: the regenerated `H` after `initstate()` are the standard's, SHA-512/t by the §5.3.6
    generation function evaluated in the kernel -/
theorem iv224_eq : sha2H_224_0.map (fun v => Bits.ofNatSz v 32) = Sha2.embH (Spec.Sha2.stateOf Spec.Sha2.iv224) := by decide +kernel
theorem iv256_eq : sha2H_256_0.map (fun v => Bits.ofNatSz v 32) = Sha2.embH (Spec.Sha2.stateOf Spec.Sha2.iv256) := by decide +kernel
theorem iv384_eq : sha2H_384_0.map (fun v => Bits.ofNatSz v 64) = Sha2.embH (Spec.Sha2.stateOf Spec.Sha2.iv384) := by decide +kernel
theorem iv512_eq : sha2H_512_0.map (fun v => Bits.ofNatSz v 64) = Sha2.embH (Spec.Sha2.stateOf Spec.Sha2.iv512) := by decide +kernel
theorem iv512_224_eq : sha2H_512_224.map (fun v => Bits.ofNatSz v 64) = Sha2.embH (Spec.Sha2.ivT 224) := by
  rw [Spec.Sha2.ivT, SpecList.padFrom_bytes _ 0 _ (by decide)]
  decide +kernel
theorem iv512_256_eq : sha2H_512_256.map (fun v => Bits.ofNatSz v 64) = Sha2.embH (Spec.Sha2.ivT 256) := by
  rw [Spec.Sha2.ivT, SpecList.padFrom_bytes _ 0 _ (by decide)]
  decide +kernel

end Proofs.Lemmas.Instances
