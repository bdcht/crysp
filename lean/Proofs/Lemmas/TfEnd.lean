/-
  End-to-end: Threefish(key,tweak).enc/dec on byte strings versus Spec.Threefish.enc/dec.
-/
import Proofs.Lemmas.TfBytes
import Proofs.Lemmas.TfInverse
namespace Proofs.Lemmas.TfEnd
open Model Proofs.Lemmas.Bytes Proofs.Lemmas.TfBridge Proofs.Lemmas.TfRefine Proofs.Lemmas.TfBytes
open Proofs.Lemmas.BitsBitVec (xor_ofBV)
open Spec.Threefish (W toInt toBytes bytesToWords wordsToBytes)

theorem tables (nw : Nat) (hv : nw = 4 ∨ nw = 8 ∨ nw = 16) :
    Threefish.piOf nw = Spec.Threefish.pi nw ∧ Threefish.piinvOf nw = Spec.Threefish.piInv nw ∧
    Threefish.rotOf nw = Spec.Threefish.R nw ∧ Threefish.nrOf nw = Spec.Threefish.Nr nw ∧
    (⟨Threefish.c240Of nw, 64⟩ : Bits) = ofBV Spec.Threefish.C240 := by
  have h1 := pi_eq
  have h2 := piinv_eq
  have h3 := rot_eq
  have h4 := nr_eq
  have h5 := c240_eq
  unfold Threefish.piOf Threefish.piinvOf Threefish.rotOf Threefish.nrOf Threefish.c240Of ofBV
  rcases hv with h | h | h <;> subst h <;> simp [*]

theorem init_rel (key tweak : List Nat) (hk : AllBytes key) (ht : AllBytes tweak)
    (hkl : key.length = 32 ∨ key.length = 64 ∨ key.length = 128) (htl : tweak.length = 16) :
    ∃ c, Threefish.init key tweak = .ok c ∧ c.K.size = 8 * key.length ∧
      Rel c (key.length / 8) (Spec.Threefish.keyExt (bytesToWords key)) (Spec.Threefish.tweakExt (bytesToWords tweak)) := by
  have hv : key.length / 8 = 4 ∨ key.length / 8 = 8 ∨ key.length / 8 = 16 := by omega
  obtain ⟨t1, t2, t3, t4, t5⟩ := tables _ hv
  have hsz : (8 * key.length) / 64 = key.length / 8 := by omega
  unfold Threefish.init
  rw [loadLE_eq key hk, loadLE_eq tweak ht]
  simp only [bind, Except.bind, Threefish.mkCtx]
  have c1 : (8 * key.length = 256 ∨ 8 * key.length = 512 ∨ 8 * key.length = 1024) := by omega
  have c2 : 8 * tweak.length = 128 := by omega
  simp only [c1, not_true_eq_false, ite_false, c2, ne_eq]
  refine ⟨_, rfl, rfl, ?_⟩
  -- the tweak has exactly two words; naming them `a`, `b` lets `tweakExt` reduce to `[a, b, a ^^^ b]`
  have hw := words_eq tweak ht
  have hT2 : Threefish.words ⟨toInt tweak, 8 * tweak.length⟩ =
      [(⟨toInt tweak, 8 * tweak.length⟩ : Bits).sliceFast 0 64, (⟨toInt tweak, 8 * tweak.length⟩ : Bits).sliceFast 64 128] := by
    unfold Threefish.words
    simp only [c2, show 128 / 64 = 2 from rfl, show List.range 2 = [0, 1] by decide, List.map_cons, List.map_nil]
  obtain ⟨a, b, hTw⟩ := Fold.exists_of_length_2 (l := bytesToWords tweak) (by rw [bytesToWords_length, htl])
  rw [hT2, hTw] at hw
  simp only [List.map_cons, List.map_nil, List.cons.injEq, and_true] at hw
  obtain ⟨ha, hb⟩ := hw
  rw [c2] at ha hb
  constructor
  · exact hv
  · exact hsz
  · simp only [hsz]; exact t4
  · simp only [hsz]; exact t1
  · simp only [hsz]; exact t2
  · simp only [hsz]; exact t3
  · simp only [hsz, t5, TfBridge.ofBV_eq, words_eq key hk, BitsBitVec.foldl_xor_ofBV, Spec.Threefish.keyExt, List.map_append, List.map_cons, List.map_nil]
  · simp only [hTw, ha, hb, xor_ofBV, Spec.Threefish.tweakExt, List.getD_cons_zero, List.getD_cons_succ, List.map_cons, List.map_nil]

theorem sizesOk_iff (key tweak block : List Nat) :
    Spec.Threefish.sizesOk key tweak block = true ↔
      (key.length = 32 ∨ key.length = 64 ∨ key.length = 128) ∧ tweak.length = 16 ∧ block.length = key.length := by
  simp [Spec.Threefish.sizesOk, and_assoc, or_assoc]

theorem encrypt_ok (key tweak block : List Nat) (hk : AllBytes key) (ht : AllBytes tweak) (hb : AllBytes block)
    (hs : Spec.Threefish.sizesOk key tweak block = true) :
    Threefish.encrypt key tweak block = .ok (wordsToBytes (Spec.Threefish.encWords (key.length / 8)
        (bytesToWords key) (bytesToWords tweak) (bytesToWords block))) := by
  obtain ⟨hkl, htl, hbl⟩ := (sizesOk_iff _ _ _).1 hs
  obtain ⟨c, hc, hsz, hrel⟩ := init_rel key tweak hk ht hkl htl
  unfold Threefish.encrypt
  rw [hc]
  simp only [bind, Except.bind, Threefish.enc]
  rw [loadLE_eq block hb]
  simp only [hsz, hbl, ne_eq, not_true_eq_false, ite_false, pure, Except.pure]
  rw [show 8 * key.length = 8 * block.length by omega, words_eq block hb, encWords_refines hrel, join_eq]
  rfl

theorem decrypt_ok (key tweak block : List Nat) (hk : AllBytes key) (ht : AllBytes tweak) (hb : AllBytes block)
    (hs : Spec.Threefish.sizesOk key tweak block = true) :
    Threefish.decrypt key tweak block = .ok (wordsToBytes (Spec.Threefish.decWords (key.length / 8)
        (bytesToWords key) (bytesToWords tweak) (bytesToWords block))) := by
  obtain ⟨hkl, htl, hbl⟩ := (sizesOk_iff _ _ _).1 hs
  obtain ⟨c, hc, hsz, hrel⟩ := init_rel key tweak hk ht hkl htl
  unfold Threefish.decrypt
  rw [hc]
  simp only [bind, Except.bind, Threefish.dec]
  rw [loadLE_eq block hb]
  simp only [hsz, hbl, ne_eq, not_true_eq_false, ite_false, pure, Except.pure]
  rw [show 8 * key.length = 8 * block.length by omega, words_eq block hb, decWords_refines hrel, join_eq]
  rfl

theorem init_rejects (key tweak : List Nat) (hk : AllBytes key) (ht : AllBytes tweak)
    (h : ¬ ((key.length = 32 ∨ key.length = 64 ∨ key.length = 128) ∧ tweak.length = 16)) :
    ∃ e, Threefish.init key tweak = .error e := by
  unfold Threefish.init
  rw [loadLE_eq key hk, loadLE_eq tweak ht]
  simp only [bind, Except.bind, Threefish.mkCtx]
  by_cases c1 : (8 * key.length = 256 ∨ 8 * key.length = 512 ∨ 8 * key.length = 1024)
  · have c2 : ¬ (8 * tweak.length = 128) := by omega
    simp only [c1, not_true_eq_false, ite_false, c2, ne_eq, not_false_eq_true, ite_true]
    exact ⟨_, rfl⟩
  · simp only [c1, not_false_eq_true, ite_true]
    exact ⟨_, rfl⟩

theorem encrypt_decrypt_reject (key tweak block : List Nat) (hk : AllBytes key) (ht : AllBytes tweak) (hb : AllBytes block)
    (hs : Spec.Threefish.sizesOk key tweak block = false) :
    ∃ e, Threefish.encrypt key tweak block = .error e ∧ ∃ e', Threefish.decrypt key tweak block = .error e' := by
  have hs' : ¬ ((key.length = 32 ∨ key.length = 64 ∨ key.length = 128) ∧ tweak.length = 16 ∧ block.length = key.length) := by
    rw [← sizesOk_iff]; simp [hs]
  unfold Threefish.encrypt Threefish.decrypt
  by_cases hkt : (key.length = 32 ∨ key.length = 64 ∨ key.length = 128) ∧ tweak.length = 16
  · obtain ⟨c, hc, hsz, _⟩ := init_rel key tweak hk ht hkt.1 hkt.2
    have c3 : ¬ (8 * block.length = 8 * key.length) := by omega
    simp only [hc, bind, Except.bind, Threefish.enc, Threefish.dec, loadLE_eq block hb, hsz, ne_eq, c3, not_false_eq_true, ite_true]
    exact ⟨_, rfl, _, rfl⟩
  · obtain ⟨e, he⟩ := init_rejects key tweak hk ht hkt
    simp only [he, bind, Except.bind]
    exact ⟨_, rfl, _, rfl⟩

theorem valid_of_len {n : Nat} (h : n = 32 ∨ n = 64 ∨ n = 128) : n / 8 = 4 ∨ n / 8 = 8 ∨ n / 8 = 16 := by omega

theorem bytes_inv {n : Nat} {f g : List W → List W} (h : TfInverse.Inv n f g) :
    Pair (NBytes (8 * n)) (fun b => wordsToBytes (f (bytesToWords b))) (fun b => wordsToBytes (g (bytesToWords b)))
      (fun b => wordsToBytes (f (bytesToWords b))) (fun b => wordsToBytes (g (bytesToWords b))) := by
  have hw : ∀ {b}, NBytes (8 * n) b → (bytesToWords b).length = n := fun hb => by rw [bytesToWords_length, hb.len]; omega
  exact .self
    (fun hb => ⟨⟨allBytes_wordsToBytes _, by rw [wordsToBytes_length, (h.st (hw hb)).1]⟩,
      ⟨allBytes_wordsToBytes _, by rw [wordsToBytes_length, (h.st (hw hb)).2]⟩⟩)
    fun hb => ⟨by rw [bytesToWords_wordsToBytes, (h.undo (hw hb)).1, wordsToBytes_bytesToWords n _ hb.bytes hb.len],
      by rw [bytesToWords_wordsToBytes, (h.undo (hw hb)).2, wordsToBytes_bytesToWords n _ hb.bytes hb.len]⟩

theorem sizes_block {key tweak block : List Nat} (hkl : key.length = 32 ∨ key.length = 64 ∨ key.length = 128)
    (htl : tweak.length = 16) (h : NBytes (8 * (key.length / 8)) block) : Spec.Threefish.sizesOk key tweak block = true :=
  (sizesOk_iff _ _ _).2 ⟨hkl, htl, by rw [h.len]; omega⟩

/-- `encrypt` and `decrypt` return the two maps of `enc_inv` taken through bytes (`bytes_inv`) -/
theorem round_trip (key tweak block : List Nat) (hk : AllBytes key) (ht : AllBytes tweak) (hb : AllBytes block)
    (hs : Spec.Threefish.sizesOk key tweak block = true) :
    (Threefish.encrypt key tweak block >>= Threefish.decrypt key tweak) = .ok block ∧
    (Threefish.decrypt key tweak block >>= Threefish.encrypt key tweak) = .ok block := by
  obtain ⟨hkl, htl, hbl⟩ := (sizesOk_iff _ _ _).1 hs
  exact ((bytes_inv (TfInverse.enc_inv (valid_of_len hkl) (bytesToWords key) (bytesToWords tweak))).exposed
    (fun h => encrypt_ok key tweak _ hk ht h.bytes (sizes_block hkl htl h))
    (fun h => decrypt_ok key tweak _ hk ht h.bytes (sizes_block hkl htl h)) ⟨hb, by omega⟩).1

theorem lengths (key tweak block : List Nat) (hk : AllBytes key) (ht : AllBytes tweak) (hb : AllBytes block) :
    (∀ out, Threefish.encrypt key tweak block = .ok out → out.length = block.length) ∧
    (∀ out, Threefish.decrypt key tweak block = .ok out → out.length = block.length) := by
  cases hs : Spec.Threefish.sizesOk key tweak block with
  | false =>
    obtain ⟨e, he, e', he'⟩ := encrypt_decrypt_reject key tweak block hk ht hb hs
    rw [he, he']
    exact ⟨(fun _ h => nomatch h), (fun _ h => nomatch h)⟩
  | true =>
    obtain ⟨hkl, htl, hbl⟩ := (sizesOk_iff _ _ _).1 hs
    have hb' : NBytes (8 * (key.length / 8)) block := ⟨hb, by omega⟩
    have hst := (bytes_inv (TfInverse.enc_inv (valid_of_len hkl) (bytesToWords key) (bytesToWords tweak))).st hb'
    rw [encrypt_ok key tweak block hk ht hb hs, decrypt_ok key tweak block hk ht hb hs]
    exact ⟨fun _ h => Except.ok.inj h ▸ hst.1.len.trans hb'.len.symm, fun _ h => Except.ok.inj h ▸ hst.2.len.trans hb'.len.symm⟩

theorem rel_of_init (key tweak : List Nat) (hk : AllBytes key) (ht : AllBytes tweak) (c : Threefish.Ctx)
    (h : Threefish.init key tweak = .ok c) :
    (key.length = 32 ∨ key.length = 64 ∨ key.length = 128) ∧ tweak.length = 16 ∧
    Rel c (key.length / 8) (Spec.Threefish.keyExt (bytesToWords key)) (Spec.Threefish.tweakExt (bytesToWords tweak)) := by
  by_cases hkt : (key.length = 32 ∨ key.length = 64 ∨ key.length = 128) ∧ tweak.length = 16
  · obtain ⟨c', hc', _, hrel⟩ := init_rel key tweak hk ht hkt.1 hkt.2
    rw [hc'] at h
    injection h with h
    subst h
    exact ⟨hkt.1, hkt.2, hrel⟩
  · obtain ⟨e, he⟩ := init_rejects key tweak hk ht hkt
    rw [he] at h
    cases h

end Proofs.Lemmas.TfEnd
