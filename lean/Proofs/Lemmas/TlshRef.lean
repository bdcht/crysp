/-
  For the refinement Model.Tlsh = Spec.Tlsh (Proofs.C19.tlsh_refines, finalOf_refines, dist_refines); continues the
  namespace of Proofs/Lemmas/Tlsh.lean.
-/
import Proofs.Lemmas.Tlsh
import Proofs.Lemmas.Lsh
import Proofs.Lemmas.Fold
import Spec.Tlsh
namespace Proofs.Lemmas.Tlsh
open Model Model.Tlsh Model.Gen.Lsh Proofs.Lemmas.Lsh

theorem isort_getD_eq_kth (l : List Nat) (k : Nat) (hk : k < l.length) : (isort l).getD k 0 = Spec.Tlsh.kth l k := by
  have hmin : (l.filter fun x => decide (k < (l.filter (· ≤ x)).length)).min? = some ((isort l).getD k 0) := by
    rw [List.min?_eq_some_iff]
    constructor
    · rw [List.mem_filter, decide_eq_true_eq, isort_count_iff l k hk]
      exact ⟨isort_getD_mem l k hk, Nat.le_refl _⟩
    · intro b hb
      rw [List.mem_filter, decide_eq_true_eq, isort_count_iff l k hk] at hb
      exact hb.2
  unfold Spec.Tlsh.kth
  rw [hmin]
  rfl

theorem pearsonT_eq : pearsonT = Spec.Tlsh.vTable := by decide +kernel

theorem pearson_eq_v : pearson = Spec.Tlsh.v := by
  funext x
  simp only [pearson, Spec.Tlsh.v, pearsonT_eq]

theorem bMapping4_eq (s a b c : Nat) : bMapping [s, a, b, c] = Spec.Tlsh.bMapping s a b c := by
  simp only [bMapping, List.foldl, Spec.Tlsh.bMapping, pearson_eq_v]

theorem triplets_eq : triplets = Spec.Tlsh.refTriplets.map fun t => [t.1, 1, t.2.1 + 1, t.2.2 + 1] := by decide +kernel

theorem lag_succ (r : List Nat) (k : Nat) : lag r (k + 1) = r[k]? := rfl

/-- the generator stops at the first lag beyond the window; in a table ordered by its largest lag that leaves exactly the
    triplets that fit -/
theorem tripletsOf_ordered (r : List Nat) (ts : List (Nat × Nat × Nat)) (hs : ts.Pairwise fun t u => t.2.2 ≤ u.2.2)
    (ha : ∀ t ∈ ts, t.2.1 ≤ t.2.2) :
    tripletsOf r (ts.map fun t => [t.1, 1, t.2.1 + 1, t.2.2 + 1])
      = (ts.filter fun t => t.2.2 < r.length).map fun t => [t.1, r.getD 0 0, r.getD t.2.1 0, r.getD t.2.2 0] := by
  induction ts with
  | nil => rfl
  | cons t ts ih =>
    have hat := ha t (List.mem_cons_self ..)
    rw [List.map_cons, tripletsOf]
    by_cases hb : t.2.2 < r.length
    · rw [List.filter_cons_of_pos (by simpa using hb), List.map_cons,
        ← ih (List.Pairwise.of_cons hs) fun u hu => ha u (List.mem_cons_of_mem _ hu)]
      simp [tripletOf, lag_succ, List.getD_eq_getElem?_getD, hb, show 0 < r.length by omega,
        show t.2.1 < r.length by omega]
    · have hnil : (ts.filter fun t => t.2.2 < r.length) = [] := by
        rw [List.filter_eq_nil_iff]
        intro u hu
        have := List.rel_of_pairwise_cons hs hu
        simp
        omega
      rw [List.filter_cons_of_neg (by simpa using hb), hnil]
      simp [tripletOf, lag_succ, List.getElem?_eq_none (Nat.le_of_not_lt hb)]

theorem window_hashes (r : List Nat) (f : Nat → Nat) (hf : ∀ j < r.length, f j = r.getD j 0) :
    (tripletsOf r triplets).map bMapping
      = (Spec.Tlsh.triplets r.length).map fun t => Spec.Tlsh.bMapping t.1 (f 0) (f t.2.1) (f t.2.2) := by
  have ha : ∀ t ∈ Spec.Tlsh.refTriplets, t.2.1 ≤ t.2.2 := by decide
  rw [triplets_eq, tripletsOf_ordered r _ (by decide) ha, List.map_map]
  apply List.map_congr_left
  intro t ht
  have hb : t.2.2 < r.length := by simpa using (List.mem_filter.mp ht).2
  have hat := ha t (List.mem_filter.mp ht).1
  simp only [Function.comp, bMapping4_eq]
  rw [hf 0 (by omega), hf _ hb, hf t.2.1 (by omega)]

theorem windowsAux_eq (w k : Nat) (l : List Nat) : windowsAux w k l = (List.range k).map fun i => (l.drop i).take w := by
  induction k generalizing l with
  | zero => rfl
  | succ k ih =>
    rw [windowsAux, ih, List.range_succ_eq_map, List.map_cons, List.map_map]
    simp only [List.drop_zero, List.cons.injEq, true_and]
    apply List.map_congr_left
    intro i _
    simp [Function.comp, List.drop_tail]

theorem foldl_stepWindow_checksum (ws : List (List Nat)) (st : St) :
    (ws.foldl stepWindow st).checksum
      = ws.foldl (fun ck win => ckStep (win.reverse.getD 0 0) (win.reverse.getD 1 0) 0 ck) st.checksum :=
  (Fold.foldl_sim St.checksum _ stepWindow ws (fun _ _ _ => rfl) st).symm

theorem foldl_stepWindow_bucket (ws : List (List Nat)) (st : St) :
    (ws.foldl stepWindow st).bucket
      = (ws.flatMap fun win => (tripletsOf win.reverse triplets).map bMapping).foldl bump st.bucket := by
  rw [List.foldl_flatMap]
  exact (Fold.foldl_sim St.bucket _ stepWindow ws (fun _ _ _ => by simp only [stepWindow, List.foldl_map]) st).symm

theorem arr_getD (d : List Nat) (i : Nat) : Spec.Tlsh.at' d.toArray i = d.getD i 0 := Fold.toArray_getD d i 0

theorem windows_eq (w : Nat) (data : List Nat) :
    windows w data = (List.range (data.length + 1 - w)).map fun i => (data.drop i).take w := windowsAux_eq _ _ _

theorem spec_ends_eq (w : Nat) (hw : 1 ≤ w) (data : List Nat) :
    Spec.Tlsh.ends w data.toArray = (List.range (data.length + 1 - w)).map (· + (w - 1)) := by
  rw [← show data.length - (w - 1) = data.length + 1 - w by omega, ← Fold.filter_le_range]
  apply List.filter_congr
  intro e _
  simp

theorem all_hashes (w : Nat) (hw : 1 ≤ w) (data : List Nat) :
    ((windows w data).flatMap fun win => (tripletsOf win.reverse triplets).map bMapping)
      = Spec.Tlsh.hashes w data.toArray := by
  unfold Spec.Tlsh.hashes
  rw [windows_eq, spec_ends_eq _ hw, List.flatMap_map, List.flatMap_map, List.flatMap_def, List.flatMap_def]
  congr 1
  apply List.map_congr_left
  intro i hi
  have hi' : i + w ≤ data.length := by have := List.mem_range.mp hi; omega
  have hl : (((data.drop i).take w).reverse).length = w := by simp; omega
  have h := window_hashes _ (fun j => Spec.Tlsh.at' data.toArray (i + (w - 1) - j))
    (fun j hj => by rw [arr_getD, Fold.getD_reverse_window data w i j 0 hi' (hl ▸ hj)])
  rw [hl] at h
  exact h

theorem update_bucket (c : Cfg) (hw : 1 ≤ c.window) (data : List Nat) :
    (update c data).bucket = Spec.Tlsh.buckets c.window data.toArray := by
  unfold update
  rw [foldl_stepWindow_bucket, all_hashes _ hw]
  simp only [St.init]
  rw [← hist_nil]
  exact (foldl_modify_hist _ []).trans (by rw [List.nil_append]; rfl)

/-- the bytes `cs` still to be updated sit behind the already updated `pre`; the salt `s` is the new value of the byte
    before them (0 for the first) -/
theorem ckStep_suffix (d0 d1 : Nat) : ∀ (cs pre : List Nat) (s : Nat),
    (s = match pre.length with | 0 => 0 | t + 1 => Spec.Tlsh.ckNew d0 d1 (pre ++ cs) t) →
    ckStep d0 d1 s cs = (List.range cs.length).map fun t => Spec.Tlsh.ckNew d0 d1 (pre ++ cs) (pre.length + t)
  | [], _, _, _ => rfl
  | c :: cs, pre, s, hs => by
    have hc : (pre ++ c :: cs).getD pre.length 0 = c := by simp [List.getD_eq_getElem?_getD]
    have h0 : bMapping [s, d0, d1, c] = Spec.Tlsh.ckNew d0 d1 (pre ++ c :: cs) pre.length := by
      rw [bMapping4_eq, hs]
      cases hp : pre.length with
      | zero => rw [hp] at hc; simp only [Spec.Tlsh.ckNew, hc]
      | succ t => rw [hp] at hc; simp only [Spec.Tlsh.ckNew, hc]
    have ih := ckStep_suffix d0 d1 cs (pre ++ [c]) (bMapping [s, d0, d1, c])
      (by simp only [List.length_append, List.length_singleton, List.append_assoc, List.singleton_append]; exact h0)
    rw [ckStep, ih, List.length_cons, List.range_succ_eq_map, List.map_cons, List.map_map, Nat.add_zero, ← h0]
    simp only [List.length_append, List.length_singleton, List.append_assoc, List.singleton_append,
      Function.comp_def, Nat.succ_eq_add_one, Nat.add_assoc, Nat.add_comm 1]

theorem ckStep_eq (d0 d1 : Nat) (ck : List Nat) :
    ckStep d0 d1 0 ck = (List.range ck.length).map (Spec.Tlsh.ckNew d0 d1 ck) := by
  simpa using ckStep_suffix d0 d1 ck [] 0 rfl

theorem update_checksum (c : Cfg) (hw : 2 ≤ c.window) (data : List Nat) :
    (update c data).checksum = Spec.Tlsh.checksum c.window c.chklen data.toArray := by
  unfold update Spec.Tlsh.checksum
  rw [foldl_stepWindow_checksum, windows_eq, spec_ends_eq _ (by omega), List.foldl_map, List.foldl_map]
  -- both folds run over the window positions; the checksum keeps its length, which is all the reference reads of it
  refine (Fold.foldl_range_rel (fun _ a b => a = b ∧ a.length = c.chklen) _ _ _ _ _ ⟨rfl, List.length_replicate ..⟩ ?_).1
  rintro i hi ck _ ⟨rfl, hck⟩
  have e0 := Fold.getD_reverse_window data c.window i 0 0 (by omega) (by omega)
  have e1 := Fold.getD_reverse_window data c.window i 1 0 (by omega) (by omega)
  rw [e0, e1, ckStep_eq, hck, arr_getD, arr_getD]
  simp

theorem swp8_eq (x : Nat) (hx : x < 256) : swp8 x = Spec.Tlsh.swapNibbles x := by
  rw [swp8_val x hx, Spec.Tlsh.swapNibbles]
  omega

theorem tooFew_eq (b nz : Nat) : tooFew b nz = Spec.Tlsh.tooFew b nz := by
  unfold tooFew Spec.Tlsh.tooFew
  by_cases h : b = 48
  · simp [h]
  · have h1 : (b == 48) = false := by simp [h]
    have h2 : (b != 48) = true := by simp [h]
    simp [h, h1, h2]

theorem nonzero_eq (l : List Nat) : (l.filter (· ≠ 0)).length = (l.filter (0 < ·)).length := by
  congr 1
  apply List.filter_congr
  intro x _
  simp [Nat.pos_iff_ne_zero]

theorem quart_eq (q1 q2 q3 x : Nat) : quart q1 q2 q3 x = Spec.Tlsh.code q1 q2 q3 x := rfl

theorem quartiles_eq (c : Cfg) (hc : c.valid = true) (bucket : List Nat) (hb : bucket.length = 256) :
    quartiles c bucket = (Spec.Tlsh.kth (bucket.take c.buckets) (c.buckets / 4 - 1),
                          Spec.Tlsh.kth (bucket.take c.buckets) (c.buckets / 2 - 1),
                          Spec.Tlsh.kth (bucket.take c.buckets) (3 * (c.buckets / 4) - 1)) := by
  have hv := (valid_cases hc).1
  have hlen := take_length hc hb
  unfold quartiles Cfg.codesize
  simp only
  rw [isort_getD_eq_kth _ _ (by rw [hlen]; omega), isort_getD_eq_kth _ _ (by rw [hlen]; omega),
    isort_getD_eq_kth _ _ (by rw [hlen]; omega)]
  have : 2 * (c.buckets / 4) - 1 = c.buckets / 2 - 1 := by omega
  rw [this]

theorem encode_eq (lcap : Nat → Nat) (c : Cfg) (hc : c.valid = true) (st : St) (hb : st.bucket.length = 256)
    (hck : ∀ x ∈ st.checksum, x < 256) (n : Nat) (force : Bool) :
    Spec.Tlsh.encode lcap c.buckets st.bucket st.checksum n force
      = (if n < 50 ∨ (force = false ∧ n < 256) ∨ tooFew c.buckets (nonzero c st.bucket) = true then none
         else some (mkObjOf lcap c st n)).map digest := by
  have hg : Spec.Tlsh.tooFew c.buckets (((st.bucket.take c.buckets).filter (0 < ·)).length)
      = tooFew c.buckets (nonzero c st.bucket) := by
    rw [tooFew_eq, nonzero, nonzero_eq]
  unfold Spec.Tlsh.encode
  simp only [hg, gates_or, or_assoc]
  split
  · rfl
  · have hq := quartiles_eq c hc _ hb
    refine congrArg some (Eq.symm ?_)
    unfold digest mkObjOf
    simp only [hq]
    congr 1
    · congr 1
      · apply List.map_congr_left
        intro x hx
        exact swp8_eq x (hck x hx)
      · rw [swp8_eq _ (Nat.mod_lt _ (by decide)), qb_val _ _ (Nat.mod_lt _ (by decide))]
    · unfold bodyCode Cfg.codesize
      rw [Fold.reverse_map_range]
      apply List.map_congr_left
      intro m hm
      have hm' : m < c.buckets / 4 := List.mem_range.mp hm
      rw [← codeByte_take _ _ _ _ c.buckets _ (by omega)]
      unfold codeByte
      simp only [quart_eq, Nat.shiftLeft_eq]
      omega

theorem pairDiff_eq4 : ∀ a < 4, ∀ b < 4, pairDiff a b = Spec.Tlsh.pairDiff a b := by decide +kernel

theorem byteDiff_eq (x y : Nat) : byteDiff x y = Spec.Tlsh.byteDiff x y := by
  unfold byteDiff Spec.Tlsh.byteDiff
  rw [pairDiff_eq4 _ (mod4_lt _) _ (mod4_lt _), pairDiff_eq4 _ (mod4_lt _) _ (mod4_lt _),
    pairDiff_eq4 _ (mod4_lt _) _ (mod4_lt _), pairDiff_eq4 _ (mod4_lt _) _ (mod4_lt _)]
  simp [List.range, List.range.loop]

theorem modDiff_eq (x y n : Nat) (hx : x < n) (hy : y < n) : Spec.Tlsh.modDiff x y n = diffmod y x n := by
  unfold Spec.Tlsh.modDiff diffmod absDiff
  rw [Nat.mod_eq_of_lt hx, Nat.mod_eq_of_lt hy]
  split <;> split <;> simp <;> omega

theorem map_swp8_inj {l1 l2 : List Nat} (h1 : ∀ x ∈ l1, x < 256) (h2 : ∀ x ∈ l2, x < 256)
    (h : l1.map swp8 = l2.map swp8) : l1 = l2 := by
  have := congrArg (List.map swp8) h
  rwa [map_swp8_swp8 _ h1, map_swp8_swp8 _ h2] at this

theorem digest_parts {c : Cfg} {o : TObj} (h : ObjWF c o) :
    (digest o).take c.chklen = o.checksum.map swp8 ∧ (digest o).getD c.chklen 0 = swp8 o.lvalue
    ∧ (digest o).getD (c.chklen + 1) 0 = ((o.q1 <<< 4) ||| o.q2) ∧ (digest o).drop (c.chklen + 2) = o.code.reverse := by
  obtain ⟨ht, hd⟩ := digest_split h.cklen
  refine ⟨ht, ?_, ?_, ?_⟩
  · rw [← Nat.add_zero c.chklen, ← Fold.getD_drop, hd]; rfl
  · rw [← Fold.getD_drop, hd]; rfl
  · rw [← List.drop_drop, hd]; rfl

theorem spec_distance_eq {c : Cfg} {o1 o2 : TObj} (h1 : ObjWF c o1) (h2 : ObjWF c o2) (lv : Bool) :
    Spec.Tlsh.distance c.chklen (digest o1) (digest o2) lv = headerDiff o1 o2 lv + bodyDiff o2.code o1.code := by
  obtain ⟨a1, b1, c1, d1⟩ := digest_parts h1
  obtain ⟨a2, b2, c2, d2⟩ := digest_parts h2
  unfold Spec.Tlsh.distance headerDiff
  simp only [a1, a2, b1, b2, c1, c2, d1, d2]
  rw [← swp8_eq _ (swp8_lt _ h1.lv), ← swp8_eq _ (swp8_lt _ h2.lv), swp8_swp8 _ h1.lv, swp8_swp8 _ h2.lv,
    (qb_div _ _ h1.q2).1, (qb_div _ _ h1.q2).2, (qb_div _ _ h2.q2).1, (qb_div _ _ h2.q2).2,
    modDiff_eq _ _ _ h1.lv h2.lv, modDiff_eq _ _ _ h1.q1 h2.q1, modDiff_eq _ _ _ h1.q2 h2.q2]
  have hck : (if o1.checksum.map swp8 = o2.checksum.map swp8 then 0 else 1) = (if o2.checksum ≠ o1.checksum then 1 else 0) := by
    by_cases h : o1.checksum = o2.checksum
    · simp [h]
    · have h' : ¬ o2.checksum = o1.checksum := fun e => h e.symm
      have h'' : ¬ o1.checksum.map swp8 = o2.checksum.map swp8 := fun e => h (map_swp8_inj h1.cklt h2.cklt e)
      simp [h', h'']
  have hbody : (List.zipWith Spec.Tlsh.byteDiff o1.code.reverse o2.code.reverse).sum = bodyDiff o2.code o1.code := by
    rw [bodyDiff_comm]
    unfold bodyDiff
    rw [← List.reverse_zipWith (by rw [h1.codelen, h2.codelen]), List.sum_reverse]
    congr 2
    funext x y
    exact (byteDiff_eq x y).symm
  rw [hck, hbody]
  omega

end Proofs.Lemmas.Tlsh
