/-
  The round chains of Model.Serpent refine Spec.Serpent (enc/dec end to end), and decState inverts encState.
-/
import Proofs.Lemmas.SerpentKS
import Proofs.Lemmas.BitsConv
namespace Proofs.Lemmas.SerpentEnc
open Model Model.Bits Proofs.Lemmas.SerpentBits Proofs.Lemmas.SerpentComp Proofs.Lemmas.SerpentSpec Proofs.Lemmas.SerpentKS Spec.Serpent
open Proofs.Lemmas.SerpentStdLin (inv_lt)
open Proofs.Lemmas.Fold (bind_eq_of_ok)

def WSL (ks : List State) : Prop := ∀ k ∈ ks, WS k

theorem rk_ws (ks : List State) (h : WSL ks) (i : Nat) : WS (rk ks i) :=
  Fold.getD_of_forall ⟨Nat.two_pow_pos _, Nat.two_pow_pos _, Nat.two_pow_pos _, Nat.two_pow_pos _⟩ h i

theorem key_eq (ks : List State) (i : Nat) (hi : i < ks.length) :
    Model.Serpent.key ⟨ks.map B⟩ i = .ok (B (rk ks i)) := by
  unfold Model.Serpent.key rk
  simp [List.getElem?_map, List.getElem?_eq_getElem hi, List.getD_eq_getElem?_getD]

theorem inv_round (ks : List State) (hks : WSL ks) (i : Nat) : Inv (round ks · i) (roundInv ks · i) :=
  ((inv_xor _ (rk_ws ks hks i)).comp (inv_box _ (Nat.mod_lt _ (by decide)))).comp inv_lt

theorem inv_enc (ks : List State) (hks : WSL ks) : Inv (encState ks) (decState ks) :=
  (Pair.foldl (List.range 31) fun i _ => inv_round ks hks i).comp
    (((inv_xor _ (rk_ws ks hks 31)).comp (inv_box 7 (by decide))).comp (inv_xor _ (rk_ws ks hks 32)))

theorem encRounds_eq (ks : List State) (hks : WSL ks) (is : List Nat) (hi : ∀ i ∈ is, i < ks.length)
    (b : State) (hb : WS b) :
    Model.Serpent.encRounds ⟨ks.map B⟩ is (B b) = .ok (B (is.foldl (round ks) b)) := by
  induction is generalizing b with
  | nil => rfl
  | cons i is ih =>
    have hk := rk_ws ks hks i
    unfold Model.Serpent.encRounds
    rw [bind_eq_of_ok (key_eq ks i (hi i List.mem_cons_self)), xor_B b _ hb hk,
      bind_eq_of_ok ((S_eq _ (Nat.mod_lt _ (by decide))).of_ws _ (xor_ws _ _ hb hk)),
      bind_eq_of_ok (L_eq.of_ws _ (applyBox_ws _ _))]
    exact ih (fun j hj => hi j (List.mem_cons_of_mem _ hj)) _ ((inv_round ks hks i).st hb).1

theorem encBits_eq (ks : List State) (hks : WSL ks) (hlen : ks.length = 33) (p : State) (hp : WS p) :
    Model.Serpent.encBits ⟨ks.map B⟩ (B p) = .ok (B (encState ks p)) := by
  have hb := ((Pair.foldl (List.range 31) fun i _ => inv_round ks hks i).st hp).1
  unfold Model.Serpent.encBits
  rw [bind_eq_of_ok (chk_ok _ (B_size p)),
    bind_eq_of_ok (encRounds_eq ks hks _ (by intro i hi; rw [List.mem_range] at hi; omega) p hp),
    bind_eq_of_ok (key_eq ks 31 (by omega)), bind_eq_of_ok (key_eq ks 32 (by omega)), xor_B _ _ hb (rk_ws ks hks 31),
    bind_eq_of_ok ((S_eq _ (by decide)).of_ws _ (xor_ws _ _ hb (rk_ws ks hks 31))),
    xor_B _ _ (applyBox_ws _ _) (rk_ws ks hks 32)]
  rfl

theorem decRounds_eq (ks : List State) (hks : WSL ks) (is : List Nat) (hi : ∀ i ∈ is, i < ks.length)
    (b : State) (hb : WS b) :
    Model.Serpent.decRounds ⟨ks.map B⟩ is (B b) = .ok (B (is.foldl (roundInv ks) b)) := by
  induction is generalizing b with
  | nil => rfl
  | cons i is ih =>
    unfold Model.Serpent.decRounds
    rw [bind_eq_of_ok (key_eq ks i (hi i List.mem_cons_self)), bind_eq_of_ok (Linv_eq.of_ws _ hb),
      bind_eq_of_ok ((Sinv_eq _ (Nat.mod_lt _ (by decide))).of_ws _ (inv_lt.st hb).2),
      xor_B _ _ (applyBox_ws _ _) (rk_ws ks hks i)]
    exact ih (fun j hj => hi j (List.mem_cons_of_mem _ hj)) _ ((inv_round ks hks i).st hb).2

theorem decBits_eq (ks : List State) (hks : WSL ks) (hlen : ks.length = 33) (c : State) (hc : WS c) :
    Model.Serpent.decBits ⟨ks.map B⟩ (B c) = .ok (B (decState ks c)) := by
  unfold Model.Serpent.decBits
  rw [bind_eq_of_ok (chk_ok _ (B_size c)), bind_eq_of_ok (key_eq ks 31 (by omega)), bind_eq_of_ok (key_eq ks 32 (by omega)),
    xor_B _ _ hc (rk_ws ks hks 32), bind_eq_of_ok ((Sinv_eq _ (by decide)).of_ws _ (xor_ws _ _ hc (rk_ws ks hks 32))),
    xor_B _ _ (applyBox_ws _ _) (rk_ws ks hks 31)]
  exact decRounds_eq ks hks _ (by intro i hi; simp [Model.Serpent.decRoundList] at hi; omega) _
    (xor_ws _ _ (applyBox_ws _ _) (rk_ws ks hks 31))

theorem roundKeys_ws (klen K : Nat) : WSL (roundKeys klen K) := by
  intro k hk
  simp only [roundKeys, List.mem_map] at hk
  obtain ⟨i, _, rfl⟩ := hk
  exact applyBox_ws _ _

theorem roundKeys_length (klen K : Nat) : (roundKeys klen K).length = 33 := by
  simp [roundKeys]

theorem leBytes_eq (k n : Nat) : leBytes k n = Py.leBytes k n := by
  induction k generalizing n with
  | zero => rfl
  | succ k ih => rw [leBytes, Py.leBytes, ih]

theorem pack_eq (x : Nat) : Bits.pack ⟨x, 128⟩ = leBytes 16 x :=
  (Bits.pack_le_bytes _ 16 rfl).trans (leBytes_eq 16 x).symm

theorem enc_eq (K M : Bits) (hK : K.WF) (hKs : K.size ≤ 256) (hM : M.WF) (hMs : M.size = 128) :
    Model.Serpent.enc K M = .ok (leBytes 16 (encNat K.size K.ival M.ival)) := by
  have h := encBits_eq _ (roundKeys_ws K.size K.ival) (roundKeys_length _ _) _ (stateOfNat_ws M.ival)
  rw [B_stateOfNat M hMs hM] at h
  unfold Model.Serpent.enc
  rw [bind_eq_of_ok (init_eq K hKs hK), bind_eq_of_ok h]
  exact congrArg Except.ok (pack_eq _)

theorem dec_eq (K C : Bits) (hK : K.WF) (hKs : K.size ≤ 256) (hC : C.WF) (hCs : C.size = 128) :
    Model.Serpent.dec K C = .ok (leBytes 16 (decNat K.size K.ival C.ival)) := by
  have h := decBits_eq _ (roundKeys_ws K.size K.ival) (roundKeys_length _ _) _ (stateOfNat_ws C.ival)
  rw [B_stateOfNat C hCs hC] at h
  unfold Model.Serpent.dec
  rw [bind_eq_of_ok (init_eq K hKs hK), bind_eq_of_ok h]
  exact congrArg Except.ok (pack_eq _)

end Proofs.Lemmas.SerpentEnc
