/-
  Helper lemmas for C19: the TLSH object model (Model.Objects.TlshO) called on an object in any state computes the one-shot
  function Model.Tlsh.tlsh — the in-place code loop `tmp_code[i] += code<<(j*2)` on a zeroed `tmp_code` is `bodyCode`.
-/
import Model.Objects
import Proofs.Lemmas.Tlsh
namespace Proofs.Lemmas.TlshCall
open Model Model.Tlsh Model.Objects Proofs.Lemmas.Tlsh

/-- `tmp_code` after the buckets 0..n-1 have been scored is the code of the bucket array cut off at `n` (a bucket beyond
    the end reads 0 and scores 0): scoring bucket `n` adds its two bits to byte `n / 4` and leaves the other bytes alone -/
theorem codeByte_take_succ (q1 q2 q3 : Nat) (b : List Nat) (n i : Nat) :
    codeByte q1 q2 q3 (b.take (n + 1)) i
      = codeByte q1 q2 q3 (b.take n) i + if i = n / 4 then quart q1 q2 q3 (b.getD n 0) <<< (2 * (n % 4)) else 0 := by
  have z (k : Nat) (hk : n ≤ k) : quart q1 q2 q3 ((b.take n).getD k 0) = 0 := by
    rw [List.getD_eq_getElem?_getD, List.getElem?_take, if_neg (by omega)]; rfl
  unfold codeByte
  simp only [Fold.getD_take_succ]
  by_cases h : i = n / 4
  · have hn : n = 4 * i + n % 4 := by omega
    have hj : n % 4 = 0 ∨ n % 4 = 1 ∨ n % 4 = 2 ∨ n % 4 = 3 := by omega
    rw [if_pos h]
    generalize n % 4 = j at hn hj
    subst hn
    rcases hj with rfl | rfl | rfl | rfl
    all_goals
      simp (disch := omega) only [if_pos, if_neg, if_true, z, Nat.zero_shiftLeft, Nat.mul_zero, Nat.shiftLeft_zero]
      omega
  · simp (disch := omega) only [if_neg, Nat.add_zero]

theorem map_codeByte_succ (q1 q2 q3 : Nat) (b : List Nat) (L n : Nat) :
    (List.range L).map (codeByte q1 q2 q3 (b.take (n + 1)))
      = ((List.range L).map (codeByte q1 q2 q3 (b.take n))).set (n / 4)
          (codeByte q1 q2 q3 (b.take n) (n / 4) + (quart q1 q2 q3 (b.getD n 0) <<< (2 * (n % 4)))) := by
  apply List.ext_getElem
  · simp
  · intro i h1 h2
    simp only [List.getElem_map, List.getElem_range, List.getElem_set, codeByte_take_succ]
    by_cases h : n / 4 = i
    · subst h; simp
    · rw [if_neg h, if_neg (fun e => h e.symm), Nat.add_zero]

/-- the body of the loop of `TlshO.codeLoop`, word for word, under a name the invariant can be stated with -/
def stepF (q1 q2 q3 : Nat) (bucket : List Nat) (acc : List Nat × Option Err) (bi : Nat) : List Nat × Option Err :=
  match acc.2 with
  | some _ => acc
  | none =>
    if quart q1 q2 q3 (bucket.getD bi 0) = 0 then acc else
    match acc.1[bi / 4]? with
    | none => (acc.1, some "IndexError")
    | some x =>
      if x + (quart q1 q2 q3 (bucket.getD bi 0) <<< (2 * (bi % 4))) > 255 then (acc.1, some "ValueError")
      else (acc.1.set (bi / 4) (x + (quart q1 q2 q3 (bucket.getD bi 0) <<< (2 * (bi % 4)))), none)

theorem codeLoop_eq (c : Tlsh.Cfg) (q1 q2 q3 : Nat) (bucket tmp : List Nat) :
    TlshO.codeLoop c q1 q2 q3 bucket tmp = (List.range c.buckets).foldl (stepF q1 q2 q3 bucket) (tmp, none) := rfl

theorem stepF_take (q1 q2 q3 : Nat) (b : List Nat) (L n : Nat) (hn : n < 4 * L) :
    stepF q1 q2 q3 b ((List.range L).map (codeByte q1 q2 q3 (b.take n)), none) n
      = ((List.range L).map (codeByte q1 q2 q3 (b.take (n + 1))), none) := by
  have hi : n / 4 < L := by omega
  have hget : ((List.range L).map (codeByte q1 q2 q3 (b.take n)))[n / 4]? = some (codeByte q1 q2 q3 (b.take n) (n / 4)) := by
    simp [hi]
  have hle := codeByte_lt q1 q2 q3 (b.take (n + 1)) (n / 4)
  rw [codeByte_take_succ, if_pos rfl] at hle
  rw [map_codeByte_succ]
  unfold stepF
  simp only [hget]
  by_cases hq : quart q1 q2 q3 (b.getD n 0) = 0
  · simp only [hq, if_true, Nat.zero_shiftLeft, Nat.add_zero]
    have hself := List.set_getElem_self (as := (List.range L).map (codeByte q1 q2 q3 (b.take n))) (i := n / 4) (by simpa using hi)
    rw [List.getElem_map, List.getElem_range] at hself
    rw [hself]
  · simp only [hq, if_false, if_neg (Nat.not_lt.2 (Nat.le_of_lt_succ hle))]

theorem codeLoop_zero (c : Tlsh.Cfg) (hc : c.buckets = 4 * c.codesize) (q1 q2 q3 : Nat) (bucket : List Nat) :
    TlshO.codeLoop c q1 q2 q3 bucket (List.replicate c.codesize 0) = (bodyCode c q1 q2 q3 bucket, none) := by
  have h0 : List.replicate c.codesize 0 = (List.range c.codesize).map (codeByte q1 q2 q3 (bucket.take 0)) := by
    rw [show codeByte q1 q2 q3 (bucket.take 0) = fun _ => 0 from funext fun i => by simp [codeByte, quart_zero],
      List.map_const', List.length_range]
  rw [codeLoop_eq, hc, h0]
  refine (Fold.foldl_index (stepF q1 q2 q3 bucket)
    (fun n => ((List.range c.codesize).map (codeByte q1 q2 q3 (bucket.take n)), none)) (List.range _) fun n hn => ?_).trans ?_
  · rw [List.getElem_range]
    exact stepF_take q1 q2 q3 bucket _ n (by simpa using hn)
  · rw [List.length_range]
    refine congrArg (·, none) (List.map_congr_left fun i hi => codeByte_take q1 q2 q3 bucket _ i ?_)
    have := List.mem_range.1 hi
    omega

/-- what `obj(data,force)` hands to the caller for a result of the one-shot function -/
def resOf : Except Err (Option (List Nat)) → Res
  | .ok (some d) => .ok (.bytes d)
  | .ok none => .ok .none
  | .error e => .error e

theorem valid_buckets (c : Tlsh.Cfg) (hc : c.valid = true) : c.buckets = 4 * c.codesize := by
  have := (valid_cases hc).1
  unfold Cfg.codesize
  omega

/-- object and one-shot function pass the same gates and share the branch of the division by `q3 = 0`: they agree
    branch by branch, whether or not that branch can be reached -/
theorem call_eq_tlsh (lcap : Nat → Nat) (s : TlshO.State) (hc : s.cfg.valid = true) (data : List Nat) (force : Bool) :
    (TlshO.step lcap s (.call data force)).2 = resOf (Tlsh.tlsh lcap s.cfg data force) := by
  have hb := valid_buckets s.cfg hc
  unfold Tlsh.tlsh Tlsh.final
  rw [if_neg (by simp [hc])]
  by_cases hd : data = []
  · subst hd
    simp [TlshO.step, TlshO.final, TlshO.reset, TlshO.finish, resOf, Gen.Lsh.minLen, Except.map]
  · have hne : data.isEmpty = false := by cases data <;> simp_all
    have hu : TlshO.update (TlshO.reset s) data =
        { TlshO.reset s with a_bucket := some (Tlsh.update s.cfg data).bucket,
                             checksum := (Tlsh.update s.cfg data).checksum, data_len := 0 + data.length } := rfl
    have hf : TlshO.final lcap (TlshO.reset s) data force = TlshO.finish lcap (TlshO.update (TlshO.reset s) data) force := by
      unfold TlshO.final
      rw [if_neg (by simp [TlshO.reset]), hne]
      rfl
    unfold TlshO.step
    simp only [hf]
    unfold TlshO.finish
    simp only [hu]
    simp only [TlshO.reset, Nat.zero_add, codeLoop_zero s.cfg hb]
    by_cases h1 : data.length < Gen.Lsh.minLen ∨ force = false ∧ data.length < Gen.Lsh.minLenNoForce
    · simp only [if_pos h1]
      rfl
    · by_cases h2 : tooFew s.cfg.buckets (nonzero s.cfg (Tlsh.update s.cfg data).bucket) = true
      · simp only [if_neg h1, if_pos h2]
        rfl
      · by_cases h3 : (quartiles s.cfg (Tlsh.update s.cfg data).bucket).2.2 = 0
        · simp only [if_neg h1, if_neg h2, if_pos h3]
          rfl
        · simp only [if_neg h1, if_neg h2, if_neg h3]
          rfl

end Proofs.Lemmas.TlshCall
