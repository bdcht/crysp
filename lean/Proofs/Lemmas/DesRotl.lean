/-
  `Spec.Des` alone: selecting by a table and then by one that points back at it is the identity; rotations by `rotl`
  (the left rotation of the FIPS 46-3 key schedule) in a row add up.
-/
import Spec.Des
namespace Spec.Des

theorem length_permute (t : List Nat) (x : Bitstr) : (permute t x).length = t.length := by
  simp [permute]

theorem length_bitsToBytes (l : Bitstr) : (bitsToBytes l).length = l.length / 8 := by
  simp [bitsToBytes]

theorem permute_permute_of_inverse {n : Nat} {t1 t2 : List Nat} (x : Bitstr) (h1 : t1.length = n) (h2 : t2.length = n)
    (hr : ∀ k ∈ t2, 1 ≤ k ∧ k ≤ n) (hx : x.length = n) (hinv : ∀ i, i < n → t1.getD (t2.getD i 0 - 1) 0 = i + 1) :
    permute t2 (permute t1 x) = x := by
  apply List.ext_getElem?
  intro i
  by_cases hi : i < n
  · have hi2 : i < t2.length := by rw [h2]; exact hi
    have hri := hr t2[i] (List.getElem_mem hi2)
    have hinvi := hinv i hi
    have hix : i < x.length := by omega
    have hlt : t2[i] - 1 < t1.length := by rw [h1]; omega
    simp only [List.getD_eq_getElem?_getD, List.getElem?_eq_getElem hi2, List.getElem?_eq_getElem hlt, Option.getD_some]
      at hinvi
    simp [permute, List.getD_eq_getElem?_getD, hi2, hlt, hinvi, hix]
  · rw [List.getElem?_eq_none (by simp [permute, h2]; omega), List.getElem?_eq_none (by omega)]

theorem length_rotl (n : Nat) (x : Bitstr) : (rotl n x).length = x.length := by
  simp [rotl]
  omega

theorem rotl_rotl (a b : Nat) (y : Bitstr) (h : a + b ≤ y.length) : rotl a (rotl b y) = rotl (b + a) y := by
  simp only [rotl]
  have h1 : a ≤ (y.drop b).length := by
    simp
    omega
  rw [List.drop_append_of_le_length h1, List.take_append_of_le_length h1, List.drop_drop, List.take_add,
    List.append_assoc]

theorem foldl_rotl (ss : List Nat) (x : Bitstr) (h : ss.sum ≤ x.length) :
    ss.foldl (fun c s => rotl s c) x = rotl ss.sum x := by
  induction ss generalizing x with
  | nil => simp [rotl]
  | cons s ss ih =>
    have hs : s + ss.sum ≤ x.length := by simpa using h
    rw [List.foldl_cons, ih (rotl s x) (by rw [length_rotl]; omega), rotl_rotl _ _ x (by omega), List.sum_cons]

end Spec.Des
