/-
  `combink l p k` keeps `l[:k]` and yields it in front of each of `Spec.Perms.combs (p-k) l[k:]`
  (sub-lists of length p-k, lexicographic index order), by induction over the recursion levels with the index list r as
  explicit state.
-/
import Model.Perms
import Spec.Perms
import Proofs.Lemmas.PermsEqL
import Proofs.Lemmas.PySeq
namespace Proofs.Lemmas.CombinkL
open Model Model.Perms Spec.Perms Proofs.Lemmas Proofs.Lemmas.PermsEqL

variable {α : Type}

theorem pyGet_nat (l : List α) (i : Nat) (hi : i < l.length) : pyGet l (i : Int) = .ok l[i] := by
  rw [pyGet, PySeq.normIndex_eq_some.mpr ⟨by omega, by omega, by rw [if_neg (by omega)]⟩]
  simp only [List.getElem?_eq_getElem hi]

theorem pyGet_last (r : List Int) (v : Int) : pyGet (r ++ [v]) (-1) = .ok v := by
  rw [pyGet, PySeq.normIndex_eq_some (p := r.length) |>.mpr (by simp; omega)]
  simp

def sel (l : List α) (cs : List Nat) : List α := cs.filterMap (l[·]?)

theorem sel_snoc (l : List α) (cs : List Nat) (i : Nat) (hi : i < l.length) : sel l (cs ++ [i]) = sel l cs ++ [l[i]] := by
  unfold sel
  rw [List.filterMap_append]
  simp [List.getElem?_eq_getElem hi]

theorem mapM_pyGet (l : List α) : ∀ (cs : List Nat), (∀ c ∈ cs, c < l.length) →
    (cs.map Int.ofNat).mapM (pyGet l) = .ok (sel l cs) := by
  intro cs
  induction cs with
  | nil =>
    intro _
    rfl
  | cons c cs ih =>
    intro h
    have hc := h c (by simp)
    rw [List.map_cons, List.mapM_cons, show Int.ofNat c = (c : Int) from rfl, pyGet_nat l c hc,
      ih (fun x hx => h x (by simp [hx]))]
    simp [sel, List.getElem?_eq_getElem hc]
    rfl

theorem pyGet_chosen (cs : List Nat) (a : Nat) (rest : List Int) :
    pyGet ((cs ++ [a]).map Int.ofNat ++ rest) ((((cs ++ [a]).length : Nat) : Int) - 1) = .ok (((a + 1 : Nat) : Int) - 1) := by
  have e : (((cs ++ [a]).length : Nat) : Int) - 1 = ((cs.length : Nat) : Int) := by
    rw [List.length_append, List.length_singleton]
    omega
  rw [e, pyGet_nat _ cs.length (by simp)]
  simp

/-- what the generator does at depth |cs|, where the index list holds the chosen indices `cs` and then entries that
    this depth and the deeper ones overwrite: it yields the combinations of `l[m:]` behind the chosen elements, `m`
    being one more than the entry in front of position |cs| -/
def LevelSpec (l : List α) (p : Nat) (cs : List Nat) (gen : List Int → Except Err (List (List α) × List Int)) : Prop :=
  ∀ (rest : List Int) (m : Nat), cs.length + rest.length = l.length + 1 → m ≤ l.length →
    pyGet (cs.map Int.ofNat ++ rest) ((cs.length : Int) - 1) = .ok ((m : Int) - 1) →
    ∃ rest', rest'.length = rest.length ∧
      gen (cs.map Int.ofNat ++ rest) = .ok ((combs (p - cs.length) (l.drop m)).map (sel l cs ++ ·), cs.map Int.ofNat ++ rest')

/-- the `for` loop of one depth, the candidates `a, a+1, …` being taken one at a time: the step writes the candidate at
    position |cs| of the index list and calls the next depth (`hrec`), which leaves the chosen part `cs ++ [a]` as it was
    and may overwrite the rest, hence the `∃ rest'` carried through the induction -/
theorem loop_eq (l : List α) (p : Nat) (cs : List Nat) (rec : List Int → Except Err (List (List α) × List Int))
    (hrec : ∀ a, a < l.length → LevelSpec l p (cs ++ [a]) rec) :
    ∀ (c a : Nat), a + c ≤ l.length → ∀ (ys : List (List α)) (rest : List Int), cs.length + rest.length = l.length + 1 →
      rest ≠ [] →
      ∃ rest', rest'.length = rest.length ∧
        ((List.range' a c).map Int.ofNat).foldlM (combinkStep rec cs.length) (ys, cs.map Int.ofNat ++ rest)
          = .ok (ys ++ (List.range' a c).flatMap (fun i =>
              (combs (p - (cs.length + 1)) (l.drop (i + 1))).map (sel l (cs ++ [i]) ++ ·)), cs.map Int.ofNat ++ rest') := by
  intro c
  induction c with
  | zero =>
    intro a _ ys rest _ _
    exact ⟨rest, rfl, by simp [pure, Except.pure]⟩
  | succ c ih =>
    intro a ha ys rest hlen hne
    obtain ⟨x, rest, rfl⟩ := List.exists_cons_of_ne_nil hne
    rw [List.range'_succ, List.map_cons, List.foldlM_cons]
    have hset : (cs.map Int.ofNat ++ x :: rest).set cs.length (Int.ofNat a) = (cs ++ [a]).map Int.ofNat ++ rest := by
      simp
    obtain ⟨rest1, h1, h2⟩ := hrec a (by omega) rest (a + 1) (by simp at hlen ⊢; omega) (by omega) (pyGet_chosen cs a rest)
    have hstep : combinkStep rec cs.length (ys, cs.map Int.ofNat ++ x :: rest) (Int.ofNat a)
        = .ok (ys ++ (combs (p - (cs.length + 1)) (l.drop (a + 1))).map (sel l (cs ++ [a]) ++ ·),
            cs.map Int.ofNat ++ Int.ofNat a :: rest1) := by
      unfold combinkStep
      rw [if_neg (by simp)]
      simp only [hset, h2, List.length_append, List.length_singleton, bind, Except.bind, pure, Except.pure]
      simp
    rw [hstep]
    simp only [bind, Except.bind]
    obtain ⟨rest', h3, h4⟩ := ih (a + 1) (by omega) _ (Int.ofNat a :: rest1) (by simp at hlen ⊢; omega) (by simp)
    refine ⟨rest', by simp [h3, h1], ?_⟩
    rw [h4, List.flatMap_cons, List.append_assoc]

theorem combinkAux_eq (l : List α) (p : Nat) (hp : p ≤ l.length) : ∀ (fuel : Nat) (cs : List Nat), cs.length ≤ p →
    p - cs.length + 1 ≤ fuel → (∀ c ∈ cs, c < l.length) →
    LevelSpec l p cs (combinkAux fuel l p cs.length) := by
  intro fuel
  induction fuel with
  | zero =>
    intro cs _ h
    omega
  | succ fuel ih =>
    intro cs hk hf hcs rest m hlen hm hstart
    unfold combinkAux
    rw [if_neg (by omega)]
    by_cases hkp : cs.length < p
    · have hrec : ∀ a, a < l.length → LevelSpec l p (cs ++ [a]) (combinkAux fuel l p (cs.length + 1)) := by
        intro a ha
        have := ih (cs ++ [a]) (by simp; omega) (by simp; omega) (by
          intro c hc
          rcases List.mem_append.1 hc with h | h
          · exact hcs c h
          · rw [List.mem_singleton.1 h]
            exact ha)
        rwa [List.length_append, List.length_singleton] at this
      have hne : rest ≠ [] := by
        intro h
        rw [h] at hlen
        simp at hlen
        omega
      have e1 : (m : Int) - 1 + 1 = (m : Int) := by omega
      simp only [hkp, if_true, hstart, bind, Except.bind]
      rw [e1, PySeq.range_one']
      obtain ⟨rest', h1, h2⟩ := loop_eq l p cs _ hrec (l.length - p + cs.length + 1 - m) m (by omega) [] rest hlen hne
      refine ⟨rest', h1, ?_⟩
      rw [h2, List.nil_append]
      congr 2
      rw [show p - cs.length = (p - (cs.length + 1)) + 1 by omega, combs_unfold l (p - (cs.length + 1)) _ m rfl,
        List.map_flatMap, show l.length - (p - (cs.length + 1)) = l.length - p + cs.length + 1 by omega]
      apply Proofs.Lemmas.Fold.flatMap_congr_mem
      intro i hi
      rw [List.mem_range'_1] at hi
      have hil : i < l.length := by omega
      rw [List.getElem?_eq_getElem hil, List.map_map, sel_snoc l cs i hil]
      apply List.map_congr_left
      intro q _
      simp
    · obtain rfl : cs.length = p := by omega
      refine ⟨rest, rfl, ?_⟩
      simp only [hkp, if_false]
      rw [List.take_left' (by simp), mapM_pyGet l cs hcs]
      simp [bind, Except.bind, pure, Except.pure, combs]

theorem sel_range (l : List α) : ∀ k, k ≤ l.length → sel l (List.range k) = l.take k := by
  intro k
  induction k with
  | zero =>
    intro _
    rfl
  | succ k ih =>
    intro hk
    rw [List.range_succ, sel_snoc l _ k hk, ih (by omega), List.take_append_getElem]

/-- the default index list `list(range(n)) + [-1]` starts with 0..k-1, and its entry in front of position k is k - 1
    for every k ≤ n (for k = 0 that is the trailing -1, read through the negative index) -/
theorem default_r (k d : Nat) :
    ∃ rest : List Int, (List.range (k + d)).map (fun (i : Nat) => (i : Int)) ++ [-1] = (List.range k).map Int.ofNat ++ rest
      ∧ rest.length = d + 1
      ∧ pyGet ((List.range k).map Int.ofNat ++ rest) ((k : Int) - 1) = .ok ((k : Int) - 1) := by
  refine ⟨((List.range d).map (k + ·)).map Int.ofNat ++ [-1], ?_, by simp, ?_⟩
  · rw [List.range_add, List.map_append, List.append_assoc]
    rfl
  · cases k with
    | zero => exact pyGet_last _ _
    | succ k =>
      rw [show (((k + 1 : Nat) : Int) - 1) = ((k : Nat) : Int) by omega, pyGet_nat _ k (by simp; omega)]
      simp

theorem combink_deep (l : List α) (p k : Nat) (hk : k ≤ p) (hp : p ≤ l.length) :
    combink l p k = .ok ((combs (p - k) (l.drop k)).map (l.take k ++ ·)) := by
  unfold combink
  obtain ⟨d, hd⟩ : ∃ d, l.length = k + d := ⟨l.length - k, by omega⟩
  obtain ⟨rest, hr, hlen, hstart⟩ := default_r k d
  have h := combinkAux_eq l p hp (p - k + 1) (List.range k) (by simpa using hk) (by simp)
    (fun c hc => by rw [List.mem_range] at hc; omega) rest k (by simp; omega) (by omega) (by simpa using hstart)
  rw [List.length_range, sel_range l k (by omega)] at h
  obtain ⟨rest', _, h⟩ := h
  dsimp only
  rw [hd, hr, h]
  rfl

end Proofs.Lemmas.CombinkL
