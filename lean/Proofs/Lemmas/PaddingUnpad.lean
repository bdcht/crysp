/-
  `remove` inverts the pad: on message bits followed by the scheme's pad bits (`remove_tail`), hence on what a padded
  call emitted (`C09.remove_pad`).
-/
import Proofs.Lemmas.PaddingStrip
namespace Proofs.Lemmas.Padding
open Model Model.Py Model.Padder Spec.Padding

/-- `hpc`: zero padding needs the pad length the object recorded -/
theorem remove_tail (p : Padder) (hv : Valid p) (fin : PadState) (X : List Bool) (k r base : Nat)
    (hXlen : X.length = k * p.blocksize + r) (hr : r ≤ p.blocksize)
    (hbytes : ¬ BitGranular p.scheme → ∃ m, Bytes m ∧ X = bytesToBits m)
    (hpc : p.scheme = .null → fin.padcnt = p.blocksize - r) :
    p.remove fin (bitsToBytes (X ++ modelTail p base r)) = .ok (bitsToBytes X) := by
  have hB := hv.size_eq
  have hpos := hv.pos
  have hw := hv.scheme_ok
  have hmp := minPad_le p hv
  have hkB : k * p.blocksize = 8 * (k * p.blocklen) := by rw [hB, Nat.mul_left_comm]
  have hk1 : (k + 1) * p.blocksize = k * p.blocksize + p.blocksize := Nat.succ_mul _ _
  have hk2 : (k + 2) * p.blocksize = k * p.blocksize + 2 * p.blocksize := by rw [Nat.add_mul]
  cases hs : p.scheme with
  | no => simp [Padder.remove, hs, modelTail]
  | null =>
    rw [modelTail_null p hs base r hr]
    apply remove_null_W p hv hs fin X (p.blocksize - r) (k + 1) (by omega)
    · rw [hk1]
      simp only [List.length_append, hXlen, zeros, List.length_replicate]
      omega
    · omega
    · exact hpc hs
  | bit =>
    have ht := gap_total p.blocksize 1 r (by omega) hr
    simp only [modelTail, hs, preBits, sufBits, minPad, List.singleton_append, List.append_nil]
    apply remove_bit_W p hv hs fin X _ (k + if r + 1 ≤ p.blocksize then 1 else 2) (by split <;> omega)
    · simp only [List.length_append, List.length_cons, hXlen, zeros, List.length_replicate, Nat.add_mul]
      by_cases hfit : r + 1 ≤ p.blocksize <;> simp only [hfit, ↓reduceIte] at ht ⊢ <;> omega
    · split at ht <;> omega
  | pkcs7 | x923 =>
    obtain ⟨m, hm, rfl⟩ := hbytes (by simp [hs, BitGranular])
    rw [bitsToBytes_bytesToBits m hm]
    exact remove_bytes_W p hv (by simp [hs]) fin m hm _ r
  | md w | sha w =>
    rw [hs] at hw hmp
    have ht := gap_total p.blocksize (1 + 2 * w) r hmp hr
    simp only [modelTail, hs, preBits, sufBits, minPad, List.singleton_append]
    rw [← List.append_assoc]
    apply remove_md_W p w (by simp [hs]) hw.1 fin X _ _ _ (by simp)
    simp only [List.length_append, List.length_cons, hXlen, zeros, List.length_replicate]
    split at ht <;> omega
  | blake h =>
    rw [hs] at hw hmp
    have ht := gap_total p.blocksize (2 + 2 * Padder.blakeW h) r hmp hr
    have hW8 : 2 * Padder.blakeW h % 8 = 0 := by
      unfold Padder.blakeW
      split <;> rfl
    have := remove_blake_W p h hs fin X (lenBE (2 * Padder.blakeW h) (base + r))
      (gap p.blocksize (2 + 2 * Padder.blakeW h) r) (by
        simp only [List.length_append, List.length_cons, hXlen, zeros, List.length_replicate, List.length_nil]
        split at ht <;> omega) (by simp)
    simpa only [modelTail, hs, preBits, sufBits, minPad, List.append_assoc, List.cons_append, List.nil_append] using this

end Proofs.Lemmas.Padding
