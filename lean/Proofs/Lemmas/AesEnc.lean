/-
  Model.Aes.encW / decW and FIPS 197 Cipher / InvCipher as one `Pair` on 16-byte states, for any key schedule whose
  round keys are states (so for every key size at once): composed from the pairs of AesComp, layer by layer.
-/
import Proofs.Lemmas.AesKey
namespace Proofs.Aes
open Model Model.Aes Model.Gen.Aes
open Proofs.Lemmas (Pair)
open Proofs.Lemmas.Fold (foldl_shift)

def KeysOk (w : List (List Nat)) (n : Nat) : Prop := ∀ r ≤ n, St (roundKey w r)

theorem keysOk_of_key {K : List Nat} (h : KeyOk K) : KeysOk (keySchedule K) (K.length / 4 + 6) := by
  obtain ⟨_, hw, hl⟩ := keySchedule_spec_wf h
  exact fun _ hr => roundKey_st hw (by omega)

theorem rounds_eq_foldl (w : List (List Nat)) (s : List Nat) (n : Nat) :
    Spec.Aes.rounds w s n = (List.range' 1 n).foldl (Spec.Aes.round w) s := by
  induction n with
  | zero => rfl
  | succ n ih =>
    rw [List.range'_concat, List.foldl_append, ← ih, Nat.one_mul, Nat.add_comm 1 n]
    rfl

theorem invRounds_eq_foldl (w : List (List Nat)) (n : Nat) : ∀ s,
    Spec.Aes.invRounds w s n = (List.range' 1 n).reverse.foldl (Spec.Aes.invRound w) s := by
  induction n with
  | zero => exact fun _ => rfl
  | succ n ih =>
    intro s
    rw [List.range'_concat, List.reverse_append, Nat.one_mul, Nat.add_comm 1 n, Spec.Aes.invRounds, ih]
    rfl

theorem subShift_pair : Pair St (fun s => shiftRows (subBytes s)) (fun s => invSubBytes (invShiftRows s))
    (fun s => Spec.Aes.shiftRows (Spec.Aes.subBytes s)) (fun s => Spec.Aes.invSubBytes (Spec.Aes.invShiftRows s)) :=
  (subBytes_pair.restrict (·.2) subBytes_bytes).comp
    (shiftRows_pair.restrict (·.1) fun h => ⟨⟨shiftRows_length _, gather_isBytes h.2⟩, invShiftRows_length _, gather_isBytes h.2⟩)

/-- The layers of the cipher are AddRoundKey 0, SubBytes·ShiftRows, rounds "MixColumns, AddRoundKey r,
    SubBytes·ShiftRows" for r = 1 … Nr-1, AddRoundKey Nr: the code and FIPS 197 end round r with AddRoundKey r and
    begin round r + 1 with SubBytes·ShiftRows, which is the same by `foldl_shift`.  Undoing the layers in the opposite
    order is `decW`, and InvCipher, as they stand. -/
theorem cipher_pair {w : List (List Nat)} {Nr : Nat} (hk : KeysOk w Nr) :
    Pair St (encW w Nr) (decW w Nr) (Spec.Aes.cipherW w Nr) (Spec.Aes.invCipherW w Nr) := by
  have rnd : ∀ r ∈ List.range' 1 (Nr - 1), Pair St _ (decRound w · r) _ (Spec.Aes.invRound w · r) := fun r hr =>
    (mixColumns_pair.comp (addRoundKey_pair (hk r (by have := List.mem_range'_1.mp hr; omega)))).comp subShift_pair
  have p := (((addRoundKey_pair (hk 0 (Nat.zero_le _))).comp subShift_pair).comp (Pair.foldl _ rnd)).comp
    (addRoundKey_pair (hk Nr (Nat.le_refl _)))
  have e1 : encW w Nr = _ := funext fun M => congrArg (addRoundKey · (roundKey w Nr))
    (foldl_shift (fun s => shiftRows (subBytes s)) (fun s r => addRoundKey (mixColumns s) (roundKey w r)) _ _)
  have e2 : Spec.Aes.cipherW w Nr = _ := funext fun M => congrArg (Spec.Aes.addRoundKey · w Nr)
    ((congrArg (fun x => Spec.Aes.shiftRows (Spec.Aes.subBytes x)) (rounds_eq_foldl w _ _)).trans
      (foldl_shift (fun s => Spec.Aes.shiftRows (Spec.Aes.subBytes s))
        (fun s r => Spec.Aes.addRoundKey (Spec.Aes.mixColumns s) w r) _ _))
  have e3 : Spec.Aes.invCipherW w Nr = _ := funext fun C => congrArg (Spec.Aes.addRoundKey · w 0)
    (congrArg (fun x => Spec.Aes.invSubBytes (Spec.Aes.invShiftRows x)) (invRounds_eq_foldl w _ _))
  rw [e1, e2, e3]
  exact p

theorem cipher_pair_key {K : List Nat} (h : KeyOk K) :
    Pair St (encCore K) (decCore K) (Spec.Aes.cipher K) (Spec.Aes.invCipher K) := by
  have e1 : Spec.Aes.cipher K = Spec.Aes.cipherW (keySchedule K) (K.length / 4 + 6) := by
    rw [(keySchedule_spec_wf h).1]
    rfl
  have e2 : Spec.Aes.invCipher K = Spec.Aes.invCipherW (keySchedule K) (K.length / 4 + 6) := by
    rw [(keySchedule_spec_wf h).1]
    rfl
  rw [e1, e2]
  exact cipher_pair (keysOk_of_key h)

end Proofs.Aes
