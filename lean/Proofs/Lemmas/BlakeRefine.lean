/-
  Refinement lemmas: Model.Blake (BLAKE) against Spec.Blake — G, round, compression function.
-/
import Proofs.Lemmas.BlakeWords
import Spec.Blake
namespace Proofs.Lemmas.BlakeRefine
open Model Model.Gen Proofs.Lemmas.BlakeWords

/-- the regenerated data of a model configuration are those of a specification variant -/
structure Match (c : Blake.Cfg) (V : Spec.Blake.Variant) : Prop where
  w : c.wsize = V.w
  consts : c.consts = V.c.map BitVec.toNat
  iv : c.iv = V.iv.map BitVec.toNat
  rounds : c.rounds = V.rounds
  rot : c.rot = [V.r0, V.r1, V.r2, V.r3]
  clen : V.c.length = 16
  ivlen : V.iv.length = 8
  r0 : V.r0 < V.w
  r1 : V.r1 < V.w
  r2 : V.r2 < V.w
  r3 : V.r3 < V.w
  block : c.blocksize = V.block
  out : c.outlen = V.out

theorem gsched_eq_map : BlakeG.gsched = (List.range 8).map fun i =>
    [i, (Spec.Blake.positions i).1, (Spec.Blake.positions i).2.1, (Spec.Blake.positions i).2.2.1, (Spec.Blake.positions i).2.2.2] := by
  decide +kernel

theorem positions_lt : ∀ i < 8, (Spec.Blake.positions i).1 < 16 ∧ (Spec.Blake.positions i).2.1 < 16 ∧
    (Spec.Blake.positions i).2.2.1 < 16 ∧ (Spec.Blake.positions i).2.2.2 < 16 := by
  decide +kernel

theorem sigma_lt : ∀ r < 10, ∀ j < 16, (Spec.Blake.sigma.getD r []).getD j 0 < 16 := by
  decide +kernel

theorem sigma_eq : BlakeG.sigma = Spec.Blake.sigma := by decide +kernel
theorem sigmaMod_eq : BlakeG.sigmaMod = 10 := by decide +kernel

theorem gsched_getD (i : Nat) (hi : i < 8) : BlakeG.gsched.getD i [] =
    [i, (Spec.Blake.positions i).1, (Spec.Blake.positions i).2.1, (Spec.Blake.positions i).2.2.1, (Spec.Blake.positions i).2.2.2] := by
  rw [gsched_eq_map]
  simp [List.getD, hi]

/-- a round of BLAKE or BLAKE2: the model folds over the schedule `gsched`, the specifications over the indices 0..7 -/
theorem round_fold {w : Nat} (gm : List Bits → List Nat → List Bits) (gs : List (BitVec w) → Nat → List (BitVec w))
    (h : ∀ i < 8, ∀ v : List (BitVec w), v.length = 16 →
      gm (v.map ofBV) (BlakeG.gsched.getD i []) = (gs v i).map ofBV ∧ (gs v i).length = 16)
    (v : List (BitVec w)) (hv : v.length = 16) :
    BlakeG.gsched.foldl gm (v.map ofBV) = ((List.range 8).foldl gs v).map ofBV ∧
      ((List.range 8).foldl gs v).length = 16 := by
  rw [gsched_eq_map, List.foldl_map]
  refine foldl_ofBV 16 _ _ _ (fun i hi v hv => ?_) v hv
  have hi := List.mem_range.mp hi
  rw [← gsched_getD i hi]
  exact h i hi v hv

theorem gstep_refines {c : Blake.Cfg} {V : Spec.Blake.Variant} (hm : Match c V)
    (W v : List (BitVec V.w)) (hW : W.length = 16) (hv : v.length = 16) (r i : Nat) (hi : i < 8) :
    Blake.gstep c (W.map ofBV) r (v.map ofBV) (BlakeG.gsched.getD i []) = (Spec.Blake.Gi V W r v i).map ofBV := by
  have hr : r % 10 < 10 := Nat.mod_lt _ (by decide)
  have hp := sigma_lt (r % 10) hr (2 * i) (by omega)
  have hq := sigma_lt (r % 10) hr (2 * i + 1) (by omega)
  obtain ⟨pa, pb, pc, pd⟩ := positions_lt i hi
  rw [gsched_getD i hi]
  simp only [Blake.gstep, Blake.sigmaPQ, sigma_eq, sigmaMod_eq, List.getD_cons_zero, List.getD_cons_succ]
  rw [getW_map _ _ (by omega), getW_map _ _ (by omega), hm.consts, hm.w, hm.rot]
  have hc := hm.clen
  rw [Fold.getD_map_lt BitVec.toNat V.c _ 0 0 (by omega), Fold.getD_map_lt BitVec.toNat V.c _ 0 0 (by omega)]
  simp only [wd_eq, BitVec.ofNat_toNat, BitVec.setWidth_eq, ofBV_eq, BitsBitVec.xor_ofBV]
  simp only [← ofBV_eq]
  rw [gapply_ofBV _ _ _ _ hm.r0 hm.r1 hm.r2 hm.r3 _ _ _ _ _ _ _ (by omega) (by omega) (by omega) (by omega)]
  simp only [Spec.Blake.Gi, Spec.Blake.G, Spec.Blake.at']

theorem round_refines {c : Blake.Cfg} {V : Spec.Blake.Variant} (hm : Match c V)
    (W v : List (BitVec V.w)) (hW : W.length = 16) (hv : v.length = 16) (r : Nat) :
    Blake.round c (W.map ofBV) (v.map ofBV) r = (Spec.Blake.round V W v r).map ofBV ∧
      (Spec.Blake.round V W v r).length = 16 := by
  unfold Blake.round Spec.Blake.round
  exact round_fold _ _ (fun i hi v hv => ⟨gstep_refines hm W v hW hv r i hi, by simp [Spec.Blake.Gi, hv]⟩) v hv

theorem compress_refines {c : Blake.Cfg} {V : Spec.Blake.Variant} (hm : Match c V)
    (H salt W : List (BitVec V.w)) (hH : H.length = 8) (hs : salt.length = 4) (hW : W.length = 16) (cnt : Nat) :
    Blake.compress c (H.map ofBV) (salt.map ofBV) (W.map ofBV) cnt = (Spec.Blake.compress V H W salt cnt).map ofBV ∧
      (Spec.Blake.compress V H W salt cnt).length = 8 := by
  refine ⟨?_, by simp [Spec.Blake.compress]⟩
  obtain ⟨h0, h1, h2, h3, h4, h5, h6, h7, rfl⟩ := Fold.exists_of_length_8 hH
  obtain ⟨s0, s1, s2, s3, rfl⟩ := Fold.exists_of_length_4 hs
  obtain ⟨c0, c1, c2, c3, c4, c5, c6, c7, c8, c9, c10, c11, c12, c13, c14, c15, hc⟩ := Fold.exists_of_length_16 hm.clen
  unfold Blake.compress Spec.Blake.compress
  simp only [hm.rounds, hm.w, counter_lo, counter_hi, hm.consts, map_wd_toNat, hc]
  -- the initial state
  generalize hvs : (_ ++ List.map _ (List.range 4) ++ _ : List (BitVec V.w)) = vs
  generalize hvm : _ ++ Blake.xorL _ _ ++ Blake.xorL _ _ = vm
  have h0 : vm = vs.map ofBV := by
    rw [← hvs, ← hvm]
    simp [Blake.xorL, Spec.Blake.at', ofBV_eq, BitsBitVec.xor_ofBV, List.range_succ]
  obtain ⟨hr, hl⟩ := foldl_ofBV 16 _ _ (List.range V.rounds) (fun r _ v hv => round_refines hm W v hW hv r) vs
    (by rw [← hvs]; simp)
  rw [h0, hr]
  obtain ⟨v0, v1, v2, v3, v4, v5, v6, v7, v8, v9, v10, v11, v12, v13, v14, v15, hv⟩ := Fold.exists_of_length_16 hl
  rw [hv]
  simp [Blake.xorL, Spec.Blake.at', ofBV_eq, BitsBitVec.xor_ofBV, List.range_succ, BitVec.xor_assoc]

end Proofs.Lemmas.BlakeRefine
