/-
  Bridge between the model's words (`Model.Bits` of a fixed size) and the specification's `BitVec w`.
-/
import Model.Blake
import Proofs.Lemmas.BitsBitVec
import Proofs.Lemmas.Fold
namespace Proofs.Lemmas.BlakeWords
open Model

def ofBV {w : Nat} (x : BitVec w) : Bits := ⟨x.toNat, w⟩

@[simp] theorem ofBV_size {w} (x : BitVec w) : (ofBV x).size = w := rfl
@[simp] theorem ofBV_ival {w} (x : BitVec w) : (ofBV x).ival = x.toNat := rfl

/-- the same embedding as `BitsBitVec.ofBV`, whose operator lemmas apply through this equation -/
theorem ofBV_eq {w} (x : BitVec w) : ofBV x = BitsBitVec.ofBV x := rfl

theorem wd_eq {w : Nat} (v : Nat) : Blake.wd w v = ofBV (BitVec.ofNat w v) :=
  BitsBitVec.ofNatSz_eq v

def ofBV4 {w} (t : BitVec w × BitVec w × BitVec w × BitVec w) : Bits × Bits × Bits × Bits :=
  (ofBV t.1, ofBV t.2.1, ofBV t.2.2.1, ofBV t.2.2.2)

theorem gmix_ofBV {w} (r0 r1 r2 r3 : Nat) (h0 : r0 < w) (h1 : r1 < w) (h2 : r2 < w) (h3 : r3 < w)
    (x y a b c d : BitVec w) :
    Blake.gmix [r0, r1, r2, r3] (ofBV x) (ofBV y) (ofBV a) (ofBV b) (ofBV c) (ofBV d) =
      (let a1 := a + b + x
       let d1 := (d ^^^ a1).rotateRight r0
       let c1 := c + d1
       let b1 := (b ^^^ c1).rotateRight r1
       let a2 := a1 + b1 + y
       let d2 := (d1 ^^^ a2).rotateRight r2
       let c2 := c1 + d2
       let b2 := (b1 ^^^ c2).rotateRight r3
       (ofBV a2, ofBV b2, ofBV c2, ofBV d2)) := by
  simp [Blake.gmix, ofBV_eq, BitsBitVec.add_ofBV, BitsBitVec.xor_ofBV, BitsBitVec.ror!_ofBV,
    Nat.le_of_lt h0, Nat.le_of_lt h1, Nat.le_of_lt h2, Nat.le_of_lt h3]

theorem getW_map {w} (l : List (BitVec w)) (i : Nat) (hi : i < l.length) :
    Blake.getW (l.map ofBV) i = ofBV (l.getD i 0) :=
  Fold.getD_map_lt ofBV l i default 0 hi

/-- `G` applied to four positions of a state: the form both specifications give to their `Gi` -/
theorem gapply_ofBV {w} (r0 r1 r2 r3 : Nat) (h0 : r0 < w) (h1 : r1 < w) (h2 : r2 < w) (h3 : r3 < w)
    (x y : BitVec w) (v : List (BitVec w)) (ja jb jc jd : Nat)
    (ha : ja < v.length) (hb : jb < v.length) (hc : jc < v.length) (hd : jd < v.length) :
    Blake.gapply [r0, r1, r2, r3] (ofBV x) (ofBV y) (v.map ofBV) ja jb jc jd =
      (let a := v.getD ja 0; let b := v.getD jb 0; let c := v.getD jc 0; let d := v.getD jd 0
       let a1 := a + b + x
       let d1 := (d ^^^ a1).rotateRight r0
       let c1 := c + d1
       let b1 := (b ^^^ c1).rotateRight r1
       let a2 := a1 + b1 + y
       let d2 := (d1 ^^^ a2).rotateRight r2
       let c2 := c1 + d2
       let b2 := (b1 ^^^ c2).rotateRight r3
       (((v.set ja a2).set jb b2).set jc c2).set jd d2).map ofBV := by
  simp only [Blake.gapply, getW_map _ _ ha, getW_map _ _ hb, getW_map _ _ hc, getW_map _ _ hd,
    gmix_ofBV r0 r1 r2 r3 h0 h1 h2 h3, ← List.map_set]

theorem foldl_ofBV {w : Nat} {ι : Type} (n : Nat) (f : List Bits → ι → List Bits)
    (g : List (BitVec w) → ι → List (BitVec w)) (is : List ι)
    (h : ∀ i ∈ is, ∀ v : List (BitVec w), v.length = n → f (v.map ofBV) i = (g v i).map ofBV ∧ (g v i).length = n) :
    ∀ v : List (BitVec w), v.length = n →
      is.foldl f (v.map ofBV) = (is.foldl g v).map ofBV ∧ (is.foldl g v).length = n :=
  fun _ hv => Fold.foldl_sim_inv (·.length = n) (List.map ofBV) f g is h hv

theorem map_wd_toNat {w} (l : List (BitVec w)) : (l.map BitVec.toNat).map (Blake.wd w) = l.map ofBV := by
  rw [List.map_map]
  apply List.map_congr_left
  intro x _
  simp [wd_eq]

theorem exists2 {α} (l : List α) (h : l.length = 2) : ∃ a b, l = [a,b] :=
  Fold.exists_of_length_2 h

/-- the two counter words: `Bits(cnt,2w).split(w)` against `t mod 2^w`, `t / 2^w mod 2^w` -/
theorem counter_lo {w} (cnt : Nat) : Blake.wd w (cnt % 2 ^ (2 * w)) = ofBV (BitVec.ofNat w cnt) := by
  rw [wd_eq]; congr 1
  apply BitVec.eq_of_toNat_eq
  simp only [BitVec.toNat_ofNat]
  exact Nat.mod_mod_of_dvd _ (Nat.pow_dvd_pow 2 (by omega))

theorem counter_hi {w} (cnt : Nat) : Blake.wd w ((cnt % 2 ^ (2 * w)) >>> w) = ofBV (BitVec.ofNat w (cnt / 2 ^ w)) := by
  rw [wd_eq]; congr 1
  apply BitVec.eq_of_toNat_eq
  simp only [BitVec.toNat_ofNat, Nat.shiftRight_eq_div_pow]
  rw [show 2 * w = w + w by omega, Nat.pow_add, Nat.mod_mul_right_div_self, Nat.mod_mod]

theorem xorL_map {w} (a b : List (BitVec w)) :
    Blake.xorL (a.map ofBV) (b.map ofBV) = (List.zipWith (· ^^^ ·) a b).map ofBV := by
  simp [Blake.xorL, List.zipWith_map, List.map_zipWith, ofBV_eq, BitsBitVec.xor_ofBV]

end Proofs.Lemmas.BlakeWords
