/-
  BLAKE streaming, the empty final piece: `update(a); update(b'',padding=True)` = `update(a,padding=True)` for a
  non-empty block-aligned `a`.  From `Padding.pieces_run_empty`, which C09 publishes as `continuation_empty` (the blocks and the bit counters observed at the yields
  are those of the one-shot call; only the pad flag seen at the last data block differs, which BLAKE never reads).
-/
import Proofs.Lemmas.BlakeStream
namespace Proofs.Lemmas.BlakeStreamEmpty
open Model Model.Py Proofs.Lemmas.Padding Proofs.Lemmas.BlakeStream

theorem blake_update_append_nil (c : Blake.Cfg) (hc : blakeCfg c) (s : Blake.State) (hpf : s.pad.padflag = false)
    (a : List Nat) (ha : Bytes a) (hne : a ≠ []) (hal : a.length % (c.blocksize / 8) = 0) :
    Blake.update c s a none true = Blake.update c (Blake.update c s a none false).1 [] none true := by
  have hv := valid_blakeP c hc
  obtain ⟨e1, e2, e3, hy1, hy2, hfin⟩ := pieces_run_empty (Padder.blakeP c.size) hv trivial s.pad hpf a ha hne
    (aligned_bits _ hv a (by rw [blakeP_blocklen c hc]; exact hal))
  -- the fold over the yields reads the block and the counter only
  have hfold : ∀ (l : List (List Nat × PadState)) (H : List Bits),
      l.foldl (fun H (y : List Nat × PadState) => Blake.compress c H s.salt (Blake.wordsBE c.wsize y.1) y.2.bitcnt) H
      = ((l.map (·.1)).zip (l.map (·.2.bitcnt))).foldl
          (fun H (p : List Nat × Nat) => Blake.compress c H s.salt (Blake.wordsBE c.wsize p.1) p.2) H := by
    intro l H
    rw [List.zip_map', List.foldl_map]
  simp only [Blake.update, e1, e2, e3, hfin]
  rw [hfold, hy1, hy2, ← List.map_append, ← List.map_append, ← hfold, List.foldl_append]

theorem blake_feed_empties (c : Blake.Cfg) (pieces : List (List Nat)) (he : pieces.flatten = []) :
    ∀ (s : Blake.State), s.pad.padflag = false → Blake.feed c s pieces = s :=
  fun s hpf => Fold.foldl_inv (· = s) _ pieces
    (fun p hp a ha => by
      rw [ha, List.flatten_eq_nil_iff.mp he p hp]
      exact blake_update_nil c s hpf) rfl

theorem blake_feed_any (c : Blake.Cfg) (hc : blakeCfg c) (pieces : List (List Nat))
    (hal : ∀ p ∈ pieces, p.length % (c.blocksize / 8) = 0) (hby : ∀ p ∈ pieces, Bytes p) (final : List Nat) :
    ∀ (s : Blake.State), s.pad.padflag = false →
      Blake.update c (Blake.feed c s pieces) final none true = Blake.update c s (pieces.flatten ++ final) none true :=
  fun s hpf => (feed_fold (·.pad) (fun s p => (Blake.update c s p none false).1) (fun s m => Blake.update c s m none true)
    (fun a => a.length % (c.blocksize / 8) = 0 ∧ Bytes a) (fun _ => True) (fun _ _ _ => trivial) (blake_update_nil c)
    (fun s a hpf hne hP => ⟨(blake_update_nonfinal_pad c hc s hpf a hP.1).1, fun b _ => by
      by_cases hb : b = []
      · rw [hb, List.append_nil]
        exact blake_update_append_nil c hc s hpf a hP.2 hne hP.1
      · exact blake_update_append c hc s hpf a b hP.1 hb⟩)
    pieces (fun p hp => ⟨hal p hp, hby p hp⟩) final trivial s hpf).1

end Proofs.Lemmas.BlakeStreamEmpty
