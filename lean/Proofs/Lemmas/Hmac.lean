/-
  crysp/hmac.py against RFC 2104: `setkey` stores K0, `__call__` is the two nested hash calls, so `HMAC(h,key)(msg)` is
  RFC 2104 over `H` for every hash `h` that returns `H` on the strings HMAC hands it.
-/
import Model.Hmac
import Spec.Hmac
namespace Proofs.Lemmas.Hmac
open Model Model.Hmac

theorem xorBytes_replicate (a : List Nat) (n c : Nat) (h : a.length = n) :
    xorBytes a (List.replicate n c) = a.map (· ^^^ c) := by
  subst h
  induction a with
  | nil => rfl
  | cons x xs ih =>
    simp only [List.length_cons, List.replicate_succ, xorBytes, List.zip_cons_cons, List.map_cons] at ih ⊢
    rw [ih]

theorem setkey_eq (h : HashFn) (H : List Nat → List Nat) (B : Nat) (key : List Nat)
    (hk : B < key.length → h key = .ok (H key)) :
    Hmac.setkey { blocksize := 8 * B } h key = .ok { blocksize := 8 * B, K := some (Spec.hmacKey H B key) } := by
  have h8 : 8 * B / 8 = B := by omega
  have pad : ∀ k : List Nat, (if k.length < B then k ++ List.replicate (B - k.length) 0 else k)
      = k ++ List.replicate (B - k.length) 0 := by
    intro k
    split
    · rfl
    · rw [Nat.sub_eq_zero_of_le (by omega), List.replicate_zero, List.append_nil]
  by_cases hl : B < key.length
  · simp only [Hmac.setkey, Spec.hmacKey, h8, gt_iff_lt, hl, if_true, hk hl, bind, Except.bind, pure, Except.pure, pad]
  · simp only [Hmac.setkey, Spec.hmacKey, h8, gt_iff_lt, hl, if_false, bind, Except.bind, pure, Except.pure, pad]

theorem hmacKey_length (H : List Nat → List Nat) (B : Nat) (key : List Nat) (hL : B < key.length → (H key).length ≤ B) :
    (Spec.hmacKey H B key).length = B := by
  unfold Spec.hmacKey
  by_cases hl : B < key.length
  · have := hL hl
    simp only [gt_iff_lt, hl, if_true, List.length_append, List.length_replicate]
    omega
  · simp only [gt_iff_lt, hl, if_false, List.length_append, List.length_replicate]
    omega

theorem call_eq (h : HashFn) (B : Nat) (hB : 0 < B) (K msg : List Nat) (hK : K.length = B) :
    Hmac.call { blocksize := 8 * B, K := some K } h msg
      = (h (K.map (· ^^^ 0x36) ++ msg)).bind fun d => h (K.map (· ^^^ 0x5c) ++ d) := by
  have h8 : 8 * B / 8 = B := by omega
  have hne : K.isEmpty = false := by
    cases K with
    | nil => simp at hK; omega
    | cons _ _ => rfl
  simp only [Hmac.call, hne, h8, xorBytes_replicate K B _ hK]
  rfl

/-- `h` may raise; it has to return `H` only on the two or three strings `HMAC(h,key)(msg)` hands it -/
theorem hmac_eq_of_agree (h : HashFn) (H : List Nat → List Nat) (B : Nat) (hB : 0 < B) (key msg : List Nat)
    (hL : B < key.length → (H key).length ≤ B) (hk : B < key.length → h key = .ok (H key))
    (hi : h ((Spec.hmacKey H B key).map (· ^^^ 0x36) ++ msg) = .ok (H ((Spec.hmacKey H B key).map (· ^^^ 0x36) ++ msg)))
    (ho : h ((Spec.hmacKey H B key).map (· ^^^ 0x5c) ++ H ((Spec.hmacKey H B key).map (· ^^^ 0x36) ++ msg))
      = .ok (Spec.rfc2104 H B key msg)) :
    Hmac.hmac h (8 * B) key msg = .ok (Spec.rfc2104 H B key msg) := by
  rw [Hmac.hmac, setkey_eq h H B key hk]
  simp only [bind, Except.bind, call_eq h B hB _ msg (hmacKey_length H B key hL), hi, ho]

theorem setkey_blocksize (h : HashFn) (o o' : Hmac) (k : List Nat) (e : o.setkey h k = .ok o') :
    o'.blocksize = o.blocksize := by
  simp only [Hmac.setkey, bind, Except.bind, pure, Except.pure] at e
  by_cases hk : k.length > o.blocksize / 8
  · simp only [hk, if_true] at e
    cases hh : h k with
    | error _ => rw [hh] at e; cases e
    | ok v => rw [hh] at e; injection e with e; rw [← e]
  · simp only [hk, if_false] at e
    injection e with e; rw [← e]

theorem foldlM_blocksize (h : HashFn) (ks : List (List Nat)) (o o' : Hmac)
    (e : ks.foldlM (fun (o : Hmac) k => o.setkey h k) o = .ok o') : o'.blocksize = o.blocksize := by
  induction ks generalizing o with
  | nil => simp [pure, Except.pure] at e; rw [e]
  | cons k ks ih =>
    simp only [List.foldlM_cons, bind, Except.bind] at e
    split at e
    · cases e
    · rename_i o1 e1
      rw [ih o1 e, setkey_blocksize h o o1 k e1]

end Proofs.Lemmas.Hmac
