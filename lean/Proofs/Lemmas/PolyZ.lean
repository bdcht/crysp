/-
  Helper lemmas for C16, ring Z: the two's-complement window of Model.Poly.intBitOp computes the textbook
  bitwise operations on integers (Spec.Poly.land / lor / lxor).  Everything goes through `ibit`, the i-th bit of the
  infinite two's-complement expansion of an integer.
-/
import Model.Poly
import Spec.Poly
import Proofs.Lemmas.BitsBasic
namespace Proofs.PolyZ
open Model Model.Poly Model.Py

theorem two_pow_cast (k : Nat) : ((2:Int)^k) = ((2^k : Nat) : Int) := by simp

/-- bit i of the infinite two's-complement expansion -/
def ibit : Int → Nat → Bool
  | .ofNat m, i => m.testBit i
  | .negSucc m, i => !m.testBit i

theorem ibit_of_ge {a : Int} {n i : Nat} (h : a.natAbs < 2^n) (hi : n ≤ i) : ibit a i = decide (a < 0) := by
  have hp : 2^n ≤ 2^i := Nat.pow_le_pow_right (by decide) hi
  cases a with
  | ofNat m =>
    have : m < 2^i := Nat.lt_of_lt_of_le (by simpa using h) hp
    simp [ibit, Nat.testBit_lt_two_pow this]
  | negSucc m =>
    have : m < 2^i := Nat.lt_of_lt_of_le (by simp at h; omega) hp
    simp [ibit, Nat.testBit_lt_two_pow this, Int.negSucc_lt_zero]

theorem ibit_min {a : Int} {n : Nat} (h : a.natAbs < 2^n) (i : Nat) : ibit a (min i n) = ibit a i := by
  by_cases hi : i ≤ n
  · rw [Nat.min_eq_left hi]
  · rw [Nat.min_eq_right (by omega), ibit_of_ge h (Nat.le_refl n), ibit_of_ge h (by omega)]

theorem ibit_ext {x y : Int} (h : ∀ i, ibit x i = ibit y i) : x = y := by
  -- far enough up both expansions show the sign, so the signs agree
  have hs : decide (x < 0) = decide (y < 0) := by
    rw [← ibit_of_ge Nat.lt_two_pow_self (Nat.le_max_left x.natAbs y.natAbs),
      ← ibit_of_ge Nat.lt_two_pow_self (Nat.le_max_right x.natAbs y.natAbs), h]
  cases x <;> cases y
  · congr 1
    exact Nat.eq_of_testBit_eq h
  · simp [Int.negSucc_lt_zero] at hs
    omega
  · simp [Int.negSucc_lt_zero] at hs
    omega
  · congr 1
    apply Nat.eq_of_testBit_eq
    intro i
    simpa [ibit] using h i

theorem window_testBit (x : Int) (n i : Nat) :
    (x % (2:Int)^n).toNat.testBit i = (decide (i < n) && ibit x i) := by
  cases x with
  | ofNat m =>
    rw [two_pow_cast]
    show ((m : Int) % ((2^n : Nat) : Int)).toNat.testBit i = _
    rw [← Int.natCast_emod, Int.toNat_natCast, Nat.testBit_mod_two_pow]
    rfl
  | negSucc m =>
    -- −(m+1) mod 2^n = 2^n − (m mod 2^n + 1): below n its bits are the complements of m's, which is `ibit (negSucc m)`
    rw [two_pow_cast, Int.emod_negSucc, Int.natAbs_natCast]
    have hlt : m % 2^n < 2^n := Nat.mod_lt _ (Nat.two_pow_pos n)
    rw [Int.subNatNat_of_le (by omega), Int.toNat_natCast]
    rw [Nat.testBit_two_pow_sub_succ hlt, Nat.testBit_mod_two_pow]
    simp only [ibit]
    cases decide (i < n) <;> simp

/-- the signed reading of an (n+1)-bit window r: bit n is the sign, and it is copied to every higher position -/
theorem ibit_signed {r n : Nat} (hr : r < 2^(n+1)) (i : Nat) :
    ibit (if (r:Int) ≥ (2:Int)^n then (r:Int) - (2:Int)^(n+1) else (r:Int)) i = r.testBit (min i n) := by
  have h2 : 2^(n+1) = 2 * 2^n := Nat.pow_succ'
  by_cases hge : 2^n ≤ r
  · have hn : r.testBit n = true := by
      rw [show r = 2^n + (r - 2^n) by omega, Nat.testBit_two_pow_add_eq, Nat.testBit_lt_two_pow (by omega)]
      rfl
    have : (r:Int) - (2:Int)^(n+1) = Int.negSucc (2^(n+1) - (r+1)) := by
      rw [two_pow_cast, Int.negSucc_eq]
      omega
    rw [if_pos (by rw [two_pow_cast]; exact Int.ofNat_le.mpr hge), this]
    show (!(2^(n+1) - (r+1)).testBit i) = _
    rw [Nat.testBit_two_pow_sub_succ hr]
    by_cases hi : i ≤ n
    · simp [Nat.min_eq_left hi, Nat.lt_succ_of_le hi]
    · have hi' : ¬ i < n + 1 := by omega
      simp [Nat.min_eq_right (Nat.le_of_not_le hi), hn, hi']
  · have hlt : r < 2^n := Nat.lt_of_not_le hge
    rw [if_neg (by rw [two_pow_cast]; exact fun h => hge (Int.ofNat_le.mp h))]
    show r.testBit i = _
    by_cases hi : i ≤ n
    · rw [Nat.min_eq_left hi]
    · rw [Nat.min_eq_right (Nat.le_of_not_le hi), Nat.testBit_lt_two_pow hlt,
        Nat.testBit_lt_two_pow (Nat.lt_of_lt_of_le hlt (Nat.pow_le_pow_right (by decide) (Nat.le_of_not_le hi)))]

theorem pow_succ_div_two (N : Nat) : ((2:Int)^(N+1)) / 2 = (2:Int)^N := by
  rw [Int.pow_succ, Int.mul_ediv_cancel _ (by decide)]

/-- the window computation of `intBitOp` is the bitwise operation on the infinite two's-complement expansions:
    one bit more than either magnitude needs holds both signs, `f` acts on the windows bit by bit, and the
    signed reading of the result extends its top bit, as the operands extend theirs -/
theorem ibit_intBitOp {f : Nat → Nat → Nat} {g : Bool → Bool → Bool}
    (hf : ∀ x y i, (f x y).testBit i = g (x.testBit i) (y.testBit i)) (hg : g false false = false)
    (a b : Int) (i : Nat) : ibit (intBitOp f a b) i = g (ibit a i) (ibit b i) := by
  generalize hN : max (bitLength a.natAbs) (bitLength b.natAbs) = N
  have ha : a.natAbs < 2^N := Nat.lt_of_lt_of_le (Proofs.Lemmas.Bits.bitLength_lt a.natAbs)
    (Nat.pow_le_pow_right (by decide) (hN ▸ Nat.le_max_left _ _))
  have hb : b.natAbs < 2^N := Nat.lt_of_lt_of_le (Proofs.Lemmas.Bits.bitLength_lt b.natAbs)
    (Nat.pow_le_pow_right (by decide) (hN ▸ Nat.le_max_right _ _))
  simp only [intBitOp, hN, pow_succ_div_two]
  generalize hr0 : f (a % (2:Int)^(N+1)).toNat (b % (2:Int)^(N+1)).toNat = r
  have hr : ∀ j, r.testBit j = (decide (j < N+1) && g (ibit a j) (ibit b j)) := by
    intro j
    rw [← hr0, hf, window_testBit, window_testBit]
    cases decide (j < N+1) <;> simp [hg]
  have hlt : r < 2^(N+1) := by
    apply Nat.lt_pow_two_of_testBit
    intro j hj
    simp [hr j, Nat.not_lt.mpr hj]
  rw [ibit_signed hlt, hr, ibit_min ha, ibit_min hb]
  simp [Nat.lt_succ_of_le (Nat.min_le_right i N)]

theorem testBit_ldiff (m n i : Nat) : (Spec.Poly.ldiff m n).testBit i = (m.testBit i && !n.testBit i) := by
  unfold Spec.Poly.ldiff
  rw [Nat.testBit_bitwise (by rfl)]

theorem ibit_land (a b : Int) (i : Nat) : ibit (Spec.Poly.land a b) i = (ibit a i && ibit b i) := by
  cases a <;> cases b <;> simp [Spec.Poly.land, ibit, testBit_ldiff, Bool.and_comm]

theorem ibit_lor (a b : Int) (i : Nat) : ibit (Spec.Poly.lor a b) i = (ibit a i || ibit b i) := by
  cases a <;> cases b <;> simp [Spec.Poly.lor, ibit, testBit_ldiff, Bool.or_comm]

theorem ibit_lxor (a b : Int) (i : Nat) : ibit (Spec.Poly.lxor a b) i = (ibit a i ^^ ibit b i) := by
  cases a <;> cases b <;> simp [Spec.Poly.lxor, ibit]

theorem intBitOp_eq {f : Nat → Nat → Nat} {g : Bool → Bool → Bool} {F : Int → Int → Int}
    (hf : ∀ x y i, (f x y).testBit i = g (x.testBit i) (y.testBit i)) (hg : g false false = false)
    (hF : ∀ a b i, ibit (F a b) i = g (ibit a i) (ibit b i)) (a b : Int) : intBitOp f a b = F a b :=
  ibit_ext fun i => (ibit_intBitOp hf hg a b i).trans (hF a b i).symm

theorem intBitOp_and : ∀ a b, intBitOp (· &&& ·) a b = Spec.Poly.land a b :=
  intBitOp_eq (g := (· && ·)) Nat.testBit_and rfl ibit_land
theorem intBitOp_or : ∀ a b, intBitOp (· ||| ·) a b = Spec.Poly.lor a b :=
  intBitOp_eq (g := (· || ·)) Nat.testBit_or rfl ibit_lor
theorem intBitOp_xor : ∀ a b, intBitOp (· ^^^ ·) a b = Spec.Poly.lxor a b :=
  intBitOp_eq (g := (· ^^ ·)) Nat.testBit_xor rfl ibit_lxor

end Proofs.PolyZ
