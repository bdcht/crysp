/-
  Component lemmas for Model.Serpent: `_IP`/`_FP` are the appendix permutations, the S-box layer (IP, 32 table
  lookups on nibbles, FP) is the bitslice application of the box, `_L`/`_Linv` are the word-level transformations.
-/
import Proofs.Lemmas.SerpentStdSbox
import Proofs.Lemmas.SerpentLt
import Model.Serpent
namespace Proofs.Lemmas.SerpentComp
open Model Model.Bits Proofs.Lemmas.SerpentBits Proofs.Lemmas.SerpentSpec Spec.Serpent
open Proofs.Lemmas.SerpentStdPerm Proofs.Lemmas.SerpentStdSbox Proofs.Lemmas.SerpentStdLin
open Proofs.Lemmas.Fold (bind_eq_of_ok)

theorem chk_ok (X : Bits) (h : X.size = 128) : Model.Serpent.chkSize X = .ok () := by
  simp [Model.Serpent.chkSize, h, Model.Gen.Serpent.blocksize]

theorem chk_err (X : Bits) (h : X.size ≠ 128) : Model.Serpent.chkSize X = .error "AssertionError" := by
  simp [Model.Serpent.chkSize, h, Model.Gen.Serpent.blocksize]

theorem gen_ipTable : Model.Gen.Serpent.ipTable = Spec.SerpentStd.ipTable := by decide +kernel
theorem gen_fpTable : Model.Gen.Serpent.fpTable = Spec.SerpentStd.fpTable := by decide +kernel

theorem getList_permute (X : Bits) (tbl : List Nat) (h : tbl.length = 128) :
    X.getList (tbl.map Int.ofNat) = .ok ⟨Spec.SerpentStd.permute tbl X.ival, 128⟩ := by
  have hlt := Bits.listVal_lt (tbl.map fun x => (X.ival >>> x) &&& 1)
  rw [List.length_map, h] at hlt
  rw [Bits.getList_ok X _ (by simp), List.map_map, List.length_map, h]
  refine congrArg Except.ok (Bits.eq_of_size_ival rfl ((Nat.mod_eq_of_lt hlt).trans (Nat.eq_of_testBit_eq fun j => ?_)))
  rw [Bits.listVal_pick_testBit X.ival (fun x => x) tbl j, Spec.SerpentStd.permute, testBit_ofBitFn, ← h]
  by_cases hj : j < tbl.length <;> simp [hj]

theorem IP_eq (X : Bits) (h : X.size = 128) : Model.Serpent.IP X = .ok ⟨Spec.SerpentStd.IP X.ival, 128⟩ := by
  unfold Model.Serpent.IP
  rw [bind_eq_of_ok (chk_ok X h), gen_ipTable, getList_permute X _ ipTable_length]
  rfl

theorem FP_eq (X : Bits) (h : X.size = 128) : Model.Serpent.FP X = .ok ⟨Spec.SerpentStd.FP X.ival, 128⟩ := by
  unfold Model.Serpent.FP
  rw [bind_eq_of_ok (chk_ok X h), gen_fpTable, getList_permute X _ fpTable_length]
  rfl

def Ref (M : Bits → Except Err Bits) (f : State → State) : Prop :=
  ∀ X : Bits, X.size = 128 → M X = .ok (B (f (stateOfNat X.ival)))

theorem Ref.of_ws {M : Bits → Except Err Bits} {f : State → State} (h : Ref M f) (s : State) (hs : WS s) :
    M (B s) = .ok (B (f s)) := by
  have := h (B s) rfl
  rwa [show (B s).ival = natOfState s from rfl, stateOfNat_natOfState s hs] at this

theorem lookups_ok (row : List Nat) (l : List Bits) (h : ∀ x ∈ l, x.ival &&& x.mask < row.length) :
    Model.Serpent.lookups row l = .ok (l.map fun x => Bits.ofNatSz (row.getD (x.ival &&& x.mask) 0) 4) := by
  induction l with
  | nil => rfl
  | cons x xs ih =>
    have hx := h x List.mem_cons_self
    have ih' := ih (fun y hy => h y (List.mem_cons_of_mem _ hy))
    unfold Model.Serpent.lookups
    rw [List.getElem?_eq_getElem hx, ih']
    simp [List.getD_eq_getElem?_getD, List.getElem?_eq_getElem hx]

/-- The code's S-box layer is literally the standard formulation's: IP, 32 copies of the row on consecutive nibbles,
    FP; `sHat_T` turns that into the application of the row to the 32 columns of the four words. -/
theorem subst_eq (boxes : List (List Nat)) (i : Nat) (X : Bits) (hi : i < 8) (hX : X.size = 128)
    (hrow : (boxes.getD i []).length = 16) :
    Model.Serpent.subst boxes i X =
      .ok (B (applyBox (fun x => (boxes.getD i []).getD x 0) (stateOfNat X.ival))) := by
  let ns : List Bits := (List.range 32).map fun k => ⟨Spec.SerpentStd.nibble (Spec.SerpentStd.IP X.ival) k, 4⟩
  let sx : List Bits := ns.map fun x => Bits.ofNatSz ((boxes.getD i []).getD (x.ival &&& x.mask) 0) 4
  have hsplit : (⟨Spec.SerpentStd.IP X.ival, 128⟩ : Bits).split 4 = .ok ns := by
    rw [Bits.split_uniform _ 32 4 (by decide) rfl]
    simp only [← Nat.shiftRight_eq_div_pow]
    rfl
  have hmask : ∀ x ∈ ns, x.ival &&& x.mask = x.ival := by
    intro x hx
    rw [List.mem_map] at hx
    obtain ⟨k, _, rfl⟩ := hx
    show _ &&& (2 ^ 4 - 1) = _
    rw [Nat.and_two_pow_sub_one_eq_mod]
    exact Nat.mod_eq_of_lt (Nat.mod_lt _ (by decide))
  have hlook : Model.Serpent.lookups (boxes.getD i []) ns = .ok sx :=
    lookups_ok _ _ (fun x hx => by
      rw [hrow, hmask x hx]
      rw [List.mem_map] at hx
      obtain ⟨k, _, rfl⟩ := hx
      exact Nat.mod_lt _ (by decide))
  have hsz : ∀ y ∈ sx, y.size = 4 ∧ y.WF := by
    intro y hy
    rw [List.mem_map] at hy
    obtain ⟨_, _, rfl⟩ := hy
    exact ⟨rfl, Nat.mod_lt _ (Nat.two_pow_pos _)⟩
  have hval : Spec.Serpent.ofBitFn (4 * 32) (fun j => (sx.getD (j / 4) default).ival.testBit (j % 4)) =
      Spec.SerpentStd.sHat (fun x => (boxes.getD i []).getD x 0) (Spec.SerpentStd.IP X.ival) :=
    ofBitFn_congr _ _ _ fun j hj => by
      have hk : j / 4 < 32 := by omega
      simp only [sx, ns, List.getD_eq_getElem?_getD, List.getElem?_map, List.getElem?_range hk, Option.map_some,
        Option.getD_some, Bits.ofNatSz, Bits.mask, Nat.and_two_pow_sub_one_eq_mod, Nat.testBit_mod_two_pow]
      simp [show j % 4 < 4 by omega, Spec.SerpentStd.nibble]
  have hr := concatList_uniform sx 4 (by decide) (by simp [sx, ns]) (fun y hy => (hsz y hy).1) (fun y hy => (hsz y hy).2)
  rw [show sx.length = 32 by simp [sx, ns], hval] at hr
  unfold Model.Serpent.subst
  simp only [hi, not_true_eq_false, if_false]
  rw [bind_eq_of_ok (chk_ok X hX), bind_eq_of_ok (IP_eq X hX), bind_eq_of_ok hsplit, bind_eq_of_ok hlook,
    bind_eq_of_ok hr, FP_eq _ rfl, ← T_stateOfNat, sHat_T _ _ (stateOfNat_ws _), FP_T _ (applyBox_ws _ _)]
  rfl

theorem gen_sbox_eq : Model.Gen.Serpent.sbox = Spec.Serpent.sboxTable := by decide +kernel
theorem gen_sboxInv_eq : ∀ i < 8, ∀ y < 16, (Model.Gen.Serpent.sboxInv.getD i []).getD y 0 = Spec.Serpent.sboxInv i y := by
  decide +kernel
theorem gen_sbox_rows : ∀ i < 8, (Model.Gen.Serpent.sbox.getD i []).length = 16 := by decide +kernel
theorem gen_sboxInv_rows : ∀ i < 8, (Model.Gen.Serpent.sboxInv.getD i []).length = 16 := by decide +kernel

theorem S_eq (i : Nat) (hi : i < 8) : Ref (Model.Serpent.S i) (applyBox (sbox i)) := fun X hX => by
  unfold Model.Serpent.S
  rw [subst_eq _ i X hi hX (gen_sbox_rows i hi), gen_sbox_eq]
  rfl

theorem Sinv_eq (i : Nat) (hi : i < 8) : Ref (Model.Serpent.Sinv i) (applyBox (sboxInv i)) := fun X hX => by
  unfold Model.Serpent.Sinv
  rw [subst_eq _ i X hi hX (gen_sboxInv_rows i hi), applyBox_congr _ _ _ (gen_sboxInv_eq i hi)]

theorem split_words (X : Bits) (hX : X.size = 128) :
    X.split 32 = .ok [W (stateOfNat X.ival).x0, W (stateOfNat X.ival).x1, W (stateOfNat X.ival).x2, W (stateOfNat X.ival).x3] := by
  rw [Bits.split_uniform X 4 32 (by decide) hX]
  simp only [← Nat.shiftRight_eq_div_pow]
  rfl

theorem concat_words (s : State) (hs : WS s) : Bits.concatList [W s.x0, W s.x1, W s.x2, W s.x3] = .ok (B s) := by
  show Except.ok ((((W s.x0).concat (W s.x1)).concat (W s.x2)).concat (W s.x3)) = _
  rw [Bits.concat_eq_add _ (W s.x3) (Bits.concat_wf _ _) hs.2.2.2, Bits.concat_eq_add _ (W s.x2) (Bits.concat_wf _ _) hs.2.2.1,
    Bits.concat_eq_add (W s.x0) (W s.x1) hs.1 hs.2.1, B, natOfState_add s hs]
  rfl

theorem L_eq : Ref Model.Serpent.L lt := fun X hX => by
  unfold Model.Serpent.L
  rw [bind_eq_of_ok (chk_ok X hX), bind_eq_of_ok (split_words X hX)]
  simp (config := { decide := true }) only [rol_bind, W_xor, W_shl]
  exact concat_words (lt (stateOfNat X.ival)) (inv_lt.st (stateOfNat_ws _)).1

theorem Linv_eq : Ref Model.Serpent.Linv ltInv := fun X hX => by
  unfold Model.Serpent.Linv
  rw [bind_eq_of_ok (chk_ok X hX), bind_eq_of_ok (split_words X hX)]
  simp (config := { decide := true }) only [ror_bind, W_xor, W_shl]
  exact concat_words (ltInv (stateOfNat X.ival)) (inv_lt.st (stateOfNat_ws _)).2

theorem round_trip {M M' : Bits → Except Err Bits} {f g : State → State} (h : Inv f g)
    (hM : ∀ s, WS s → M (B s) = .ok (B (f s))) (hM' : ∀ s, WS s → M' (B s) = .ok (B (g s)))
    (X : Bits) (hs : X.size = 128) (hwf : X.WF) : ∃ C, M X = .ok C ∧ C.size = 128 ∧ C.WF ∧ M' C = .ok X := by
  have hX := B_stateOfNat X hs hwf
  have hws := stateOfNat_ws X.ival
  have h1 := hM _ hws
  rw [hX] at h1
  exact ⟨_, h1, rfl, B_wf _ (h.st hws).1, by rw [hM' _ (h.st hws).1, (h.undo hws).1, hX]⟩

theorem round_trip_bind {M M' : Bits → Except Err Bits} {f g : State → State} (h : Inv f g) (hM : Ref M f)
    (hM' : Ref M' g) (X : Bits) (hs : X.size = 128) (hwf : X.WF) : (M X >>= M') = .ok X := by
  obtain ⟨C, h1, _, _, h2⟩ := round_trip h hM.of_ws hM'.of_ws X hs hwf
  rw [bind_eq_of_ok h1, h2]

end Proofs.Lemmas.SerpentComp
