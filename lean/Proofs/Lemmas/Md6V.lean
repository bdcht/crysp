/-
  Lemmas for C17: the control word V and the node id U — the model's `Bits` concatenation / slice assignment
  against the specification's `BitVec` field layout.  Both sides are brought to the form Σ fieldᵢ·2^offsetᵢ;
  matching the sums is linear arithmetic.
-/
import Model.Md6
import Spec.Md6
import Proofs.Lemmas.BitsIndex
namespace Proofs.Lemmas.Md6V
open Model Model.Md6

theorem specV_toNat (r L z p keylen d : Nat) (hr : r < 2^12) (hL : L < 2^8) (hz : z < 2^4) (hp : p < 2^16)
    (hk : keylen < 2^8) (hd : d < 2^12) :
    (Spec.Md6.V r L z p keylen d).toNat = d + keylen * 2^12 + p * 2^20 + z * 2^36 + L * 2^40 + r * 2^48 := by
  simp only [Spec.Md6.V, BitVec.toNat_append, BitVec.toNat_ofNat, Nat.mod_eq_of_lt hr, Nat.mod_eq_of_lt hL,
    Nat.mod_eq_of_lt hz, Nat.mod_eq_of_lt hp, Nat.mod_eq_of_lt hk, Nat.mod_eq_of_lt hd]
  rw [← Nat.shiftLeft_add_eq_or_of_lt hd, ← Nat.shiftLeft_add_eq_or_of_lt hk, ← Nat.shiftLeft_add_eq_or_of_lt hp,
    ← Nat.shiftLeft_add_eq_or_of_lt hz, ← Nat.shiftLeft_add_eq_or_of_lt hL, ← Nat.shiftLeft_add_eq_or_of_lt hr]
  simp only [Nat.shiftLeft_eq]
  omega

/-- `a // Bits(y,sy)`: the new field goes above the `sx` bits already there -/
theorem concat_field {x sx y sy : Nat} (hx : x < 2 ^ sx) (hy : y < 2 ^ sy) :
    (⟨x, sx⟩ : Bits).concat (Bits.ofNatSz y sy) = ⟨x + y * 2 ^ sx, sx + sy⟩ := by
  rw [Bits.concat_eq_add ⟨x, sx⟩ _ hx (Bits.ofNatSz_wf y sy), Bits.ofNatSz_ival, Nat.mod_eq_of_lt hy]
  rfl

theorem V0_arith (d keylen z L r : Nat) (hr : r < 2^12) (hL : L < 2^8) (hz : z < 2^4)
    (hk : keylen < 2^8) (hd : d < 2^12) :
    V0 d keylen z L r = ⟨d + keylen * 2^12 + z * 2^36 + L * 2^40 + r * 2^48, 64⟩ := by
  unfold V0
  rw [Bits.ofNatSz, Nat.mod_eq_of_lt hd, concat_field hd hk, concat_field (by omega) (by omega : 0 < 2 ^ 16),
    concat_field (by omega) hz, concat_field (by omega) hL, concat_field (by omega) hr,
    concat_field (by omega) (by omega : 0 < 2 ^ 4)]
  exact congrArg (Bits.mk · 64) (by omega)

/-- `V[20:36] = p` on the freshly built control word -/
theorem setP_V0 (d keylen z L r p : Nat) (hr : r < 2^12) (hL : L < 2^8) (hz : z < 2^4) (hp : p < 2^16)
    (hk : keylen < 2^8) (hd : d < 2^12) :
    setP (V0 d keylen z L r) p = .ok ⟨(Spec.Md6.V r L z p keylen d).toNat, 64⟩ := by
  rw [V0_arith d keylen z L r hr hL hz hk hd, specV_toNat r L z p keylen d hr hL hz hp hk hd]
  exact Bits.setSlice_field (lo := d + keylen * 2^12) (mid := 0) (hi := z + L * 2^4 + r * 2^12) (s := 20) (w := 16)
    (by omega) (by omega) (by omega) (by omega) hp (by omega) (by omega) (by omega)

/-- `V[36:40] = Bits(1,4)` on a control word with z = 0 (SEQ, last block) -/
theorem setZ1_V (d keylen L r p : Nat) (hr : r < 2^12) (hL : L < 2^8) (hp : p < 2^16)
    (hk : keylen < 2^8) (hd : d < 2^12) :
    setZ1 ⟨(Spec.Md6.V r L 0 p keylen d).toNat, 64⟩ = .ok ⟨(Spec.Md6.V r L 1 p keylen d).toNat, 64⟩ := by
  rw [specV_toNat r L 0 p keylen d hr hL (by omega) hp hk hd, specV_toNat r L 1 p keylen d hr hL (by omega) hp hk hd]
  exact Bits.setSlice_field (lo := d + keylen * 2^12 + p * 2^20) (mid := 0) (hi := L + r * 2^8) (v := 1) (s := 36) (w := 4)
    (by omega) (by omega) (by omega) (by omega) (by omega) (by omega) (by omega) (by omega)

theorem V0_eq (d keylen z L r : Nat) (hr : r < 2^12) (hL : L < 2^8) (hz : z < 2^4)
    (hk : keylen < 2^8) (hd : d < 2^12) :
    V0 d keylen z L r = ⟨(Spec.Md6.V r L z 0 keylen d).toNat, 64⟩ := by
  rw [V0_arith d keylen z L r hr hL hz hk hd, specV_toNat r L z 0 keylen d hr hL hz (by omega) hk hd]
  exact congrArg (Bits.mk · 64) (by omega)

/-- the node id `(level<<56)+index`, as stored by `W[23] = U` -/
theorem U_eq (level index : Nat) (hl : level < 2^8) (hi : index < 2^56) :
    ((level <<< 56) + index) % 2 ^ 64 = (Spec.Md6.U level index).toNat := by
  simp only [Spec.Md6.U, BitVec.toNat_append, BitVec.toNat_ofNat, Nat.mod_eq_of_lt hl, Nat.mod_eq_of_lt hi]
  rw [← Nat.shiftLeft_add_eq_or_of_lt hi, Nat.shiftLeft_eq]
  apply Nat.mod_eq_of_lt
  omega

end Proofs.Lemmas.Md6V
