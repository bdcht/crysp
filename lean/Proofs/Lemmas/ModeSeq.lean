/-
  The padding state an ECB / CBC object keeps between calls: what `dec` reads of it (C05, C10), and one ECB / CBC / CTS
  object through a history of calls (Model.Mode.Seq.Obj, C05).
-/
import Model.ModeObj
namespace Proofs.Lemmas.ModeL
open Model Model.Mode

theorem remove_state_free (p : Padder) (hs : p.scheme ≠ .null) (st st' : PadState) (x : List Nat) :
    p.remove st x = p.remove st' x := by
  obtain ⟨s, bs⟩ := p
  cases s <;> first | rfl | exact absurd rfl hs

theorem mkPad_scheme {c : BlockCipher} {s : Scheme} {p : Padder} (h : mkPad c s = .ok p) : p.scheme = s := by
  unfold mkPad Padder.mk? at h
  split at h
  · cases h
  · split at h
    · cases h
    · cases h; rfl

theorem ecb_dec_state_free (c : BlockCipher) (s : Scheme) (hs : s ≠ .null) (C : List Nat) (st st' : PadState) :
    ECB.dec c s C st = ECB.dec c s C st' := by
  unfold ECB.dec
  cases hp : mkPad c s with
  | error e => rfl
  | ok p => simp only [remove_state_free p (mkPad_scheme hp ▸ hs) st st']

theorem cbc_dec_state_free (c : BlockCipher) (iv : List Nat) (s : Scheme) (hs : s ≠ .null) (C : List Nat) (st st' : PadState) :
    CBC.dec c iv s C st = CBC.dec c iv s C st' := by
  unfold CBC.dec
  cases hp : mkPad c s with
  | error e => rfl
  | ok p => simp only [remove_state_free p (mkPad_scheme hp ▸ hs) st st']

theorem seq_run_append (cfg : Cfg) (c : BlockCipher) : ∀ (h₁ h₂ : List Seq.Step) (o : Seq.Obj),
    Seq.Obj.run cfg c o (h₁ ++ h₂) =
      ((Seq.Obj.run cfg c o h₁).1 ++ (Seq.Obj.run cfg c (Seq.Obj.run cfg c o h₁).2 h₂).1,
       (Seq.Obj.run cfg c (Seq.Obj.run cfg c o h₁).2 h₂).2)
  | [], _, _ => rfl
  | s :: ss, h₂, o => by
    simp only [List.cons_append, Seq.Obj.run, seq_run_append cfg c ss h₂]

theorem seq_run_last (cfg : Cfg) (c : BlockCipher) (o : Seq.Obj) (hist : List Seq.Step) (s : Seq.Step) :
    (Seq.Obj.run cfg c o (hist ++ [s])).1.getLast? = some ((Seq.Obj.run cfg c o hist).2.step cfg c s).1 := by
  simp [seq_run_append, Seq.Obj.run]

end Proofs.Lemmas.ModeL
