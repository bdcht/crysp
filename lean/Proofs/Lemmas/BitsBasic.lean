/-
  `Model.Bits` at the level of `Nat.testBit`: facts about naturals (shifts, xor, bounds by powers of two; a xor-additive
  function is determined by its values on the powers of two, `xor_span_induction` / `xorAdd_ext`), `bitLength`, binary
  numerals (`Spec.bitsVal`), the invariant `WF` with the constructors `ofNatSz` / `setSize` / `ofNat` and the common width
  `wsize` of two operands, and `reverseByte`.
-/
import Model.Bits
import Spec.Bytes
namespace Proofs.Lemmas.Bits
open Model Model.Bits Model.Py

theorem testBit_of_lt {x n i : Nat} (h : x < 2 ^ n) (hi : n ≤ i) : x.testBit i = false :=
  Nat.testBit_lt_two_pow (Nat.lt_of_lt_of_le h (Nat.pow_le_pow_right (by omega) hi))

theorem shr_and_one (x i : Nat) : (x >>> i) &&& 1 = (x.testBit i).toNat := by
  rw [Nat.and_one_is_mod, Nat.shiftRight_eq_div_pow, Nat.toNat_testBit]

theorem toNat_testBit_zero (b : Bool) (i : Nat) : (b.toNat).testBit i = (decide (i = 0) && b) := by
  cases b <;> cases i <;> simp [Nat.testBit_succ]

/-- the code's test `x & 1 != 0` -/
theorem and_one_ne_zero (x : Nat) : (x &&& 1 ≠ 0) ↔ x.testBit 0 = true := by
  rw [Nat.and_one_is_mod, Nat.testBit_zero]
  simp only [decide_eq_true_eq]
  omega

theorem xor_cancel_right (a b : Nat) : (a ^^^ b) ^^^ b = a := by
  rw [Nat.xor_assoc, Nat.xor_self, Nat.xor_zero]

theorem xor_cancel_left (a b : Nat) : a ^^^ (a ^^^ b) = b := by
  rw [← Nat.xor_assoc, Nat.xor_self, Nat.zero_xor]

theorem xor_pair_cancel (a b c : Nat) : a ^^^ b ^^^ c ^^^ b ^^^ c = a := by
  rw [Nat.xor_assoc a b c, Nat.xor_assoc _ b c, xor_cancel_right]

theorem xor_eq_zero_iff (x y : Nat) : x ^^^ y = 0 ↔ x = y :=
  ⟨fun h => by rw [← xor_cancel_right x y, h, Nat.zero_xor], fun h => h ▸ Nat.xor_self x⟩

theorem split_low (x k : Nat) : x = (x % 2 ^ k) ^^^ ((x >>> k) <<< k) := by
  apply Nat.eq_of_testBit_eq
  intro i
  rw [Nat.testBit_xor, Nat.testBit_mod_two_pow, Nat.testBit_shiftLeft, Nat.testBit_shiftRight]
  by_cases h : i < k
  · simp [h, show ¬ i ≥ k by omega]
  · simp [h, show i ≥ k by omega, show k + (i - k) = i by omega]

theorem nibble_eq : ∀ v < 16, v = (v.testBit 0).toNat + 2 * (v.testBit 1).toNat + 4 * (v.testBit 2).toNat + 8 * (v.testBit 3).toNat := by
  decide

theorem shl_lt (x n m : Nat) (h : x < 2 ^ n) : x <<< m < 2 ^ (n + m) := by
  rw [Nat.shiftLeft_eq, Nat.pow_add]
  exact Nat.mul_lt_mul_of_lt_of_le h (Nat.le_refl _) (Nat.two_pow_pos _)

theorem shl_mod (x k w : Nat) (hk : k ≤ w) : (x <<< k) % 2 ^ w = (x % 2 ^ (w - k)) <<< k := by
  rw [Nat.shiftLeft_eq, Nat.shiftLeft_eq, ← Nat.mul_mod_mul_right, ← Nat.pow_add, Nat.sub_add_cancel hk]

theorem shl1_mod (x w : Nat) (hw : 1 ≤ w) (hx : x < 2 ^ w) (ht : x.testBit (w - 1) = false) :
    (x <<< 1) % 2 ^ w = x <<< 1 := by
  have hlt : x < 2 ^ (w - 1) := by
    apply Nat.lt_pow_two_of_testBit
    intro i hi
    by_cases hiw : i = w - 1
    · rw [hiw, ht]
    · exact testBit_of_lt hx (by omega)
  rw [shl_mod x 1 w hw, Nat.mod_eq_of_lt hlt]

theorem shr_lt (x n m : Nat) (h : x < 2 ^ (n + m)) : x >>> m < 2 ^ n := by
  rw [Nat.shiftRight_eq_div_pow]
  apply Nat.div_lt_of_lt_mul
  rwa [← Nat.pow_add, Nat.add_comm]

/-- a field `v` of `b - a` bits set above `a` low bits stays below `2 ^ b` (`concat_wf`, the slice assignment of BitsIndex) -/
theorem field_lt {a b v lo : Nat} (hab : a ≤ b) (hv : v < 2 ^ (b - a)) (hlo : lo < 2 ^ a) : 2 ^ a * v + lo < 2 ^ b := by
  have : 2 ^ b = 2 ^ a * 2 ^ (b - a) := by rw [← Nat.pow_add]; congr 1; omega
  rw [this]
  calc 2 ^ a * v + lo < 2 ^ a * v + 2 ^ a := by omega
    _ = 2 ^ a * (v + 1) := by rw [Nat.mul_add, Nat.mul_one]
    _ ≤ 2 ^ a * 2 ^ (b - a) := Nat.mul_le_mul_left _ hv

/-- a position in a list whose length `k` divides lies in a whole group of `k` (the byte groups of `load`) -/
theorem dvd_bound {k n g u : Nat} (hd : k ∣ n) (h : k * g + u < n) : k * (g + 1) ≤ n := by
  obtain ⟨c, rfl⟩ := hd
  have h1 : k * g < k * c := by omega
  have h2 : g < c := Nat.lt_of_mul_lt_mul_left h1
  exact Nat.mul_le_mul_left k h2

theorem xor_two_pow_pred {x n : Nat} (h : x < 2 ^ n) : x ^^^ (2 ^ n - 1) = 2 ^ n - 1 - x := by
  apply Nat.eq_of_testBit_eq
  intro i
  have e : 2 ^ n - 1 - x = 2 ^ n - (x + 1) := by omega
  rw [Nat.testBit_xor, Nat.testBit_two_pow_sub_one, e, Nat.testBit_two_pow_sub_succ h]
  by_cases hi : i < n
  · simp [hi]
  · simp [hi, testBit_of_lt h (Nat.le_of_not_lt hi)]

theorem ite_bxor (p q : Bool) (c : Nat) :
    (if (p ^^ q) = true then c else 0) = (if p = true then c else 0) ^^^ (if q = true then c else 0) := by
  cases p <;> cases q <;> simp

theorem ite_xor_right (p : Bool) (u v : Nat) :
    (if p = true then u ^^^ v else 0) = (if p = true then u else 0) ^^^ (if p = true then v else 0) := by
  cases p <;> simp

theorem xor_two_pow_lt {x n : Nat} (h1 : 2 ^ n ≤ x) (h2 : x < 2 ^ (n + 1)) : x ^^^ 2 ^ n < 2 ^ n := by
  apply Nat.lt_pow_two_of_testBit
  intro i hi
  rw [Nat.testBit_xor, Nat.testBit_two_pow]
  rcases Nat.eq_or_lt_of_le hi with rfl | hlt
  · have e : x = 2 ^ n + (x - 2 ^ n) := by omega
    rw [e, Nat.testBit_two_pow_add_eq, Nat.testBit_lt_two_pow (by omega)]
    simp
  · rw [testBit_of_lt h2 hlt]
    simp
    omega

/-- induction on n, splitting off the top bit: x = (x ^^^ 2^n) ^^^ 2^n -/
theorem xor_span_induction {P : Nat → Prop} (h0 : P 0) (hxor : ∀ x y, P x → P y → P (x ^^^ y)) :
    ∀ n, (∀ k < n, P (2 ^ k)) → ∀ x < 2 ^ n, P x := by
  intro n
  induction n with
  | zero =>
    intro _ x hx
    have e : x = 0 := by simpa using hx
    rw [e]
    exact h0
  | succ n ih =>
    intro hb x hlt
    have ih' := ih fun k hk => hb k (by omega)
    by_cases hx : x < 2 ^ n
    · exact ih' x hx
    · rw [← xor_cancel_right x (2 ^ n)]
      exact hxor _ _ (ih' _ (xor_two_pow_lt (by omega) hlt)) (hb n (by omega))

theorem xorAdd_zero {f : Nat → Nat} (hf : ∀ x y, f (x ^^^ y) = f x ^^^ f y) : f 0 = 0 :=
  (hf 0 0).trans (Nat.xor_self _)

theorem xorAdd_ext {f g : Nat → Nat} (hf : ∀ x y, f (x ^^^ y) = f x ^^^ f y)
    (hg : ∀ x y, g (x ^^^ y) = g x ^^^ g y) (n : Nat) (hb : ∀ k < n, f (2 ^ k) = g (2 ^ k)) :
    ∀ x < 2 ^ n, f x = g x := by
  refine xor_span_induction (P := fun x => f x = g x) ?_ ?_ n hb
  · rw [xorAdd_zero hf, xorAdd_zero hg]
  · intro x y h1 h2
    rw [hf, hg, h1, h2]

theorem bitLength_lt (v : Nat) : v < 2 ^ bitLength v := by
  unfold bitLength
  split
  · subst_vars; simp
  · exact Nat.lt_log2_self

theorem bitLength_le (v : Nat) (h : v ≠ 0) : 2 ^ (bitLength v - 1) ≤ v := by
  unfold bitLength
  simp only [h, ↓reduceIte, Nat.add_sub_cancel]
  exact Nat.log2_self_le h

theorem bitLength_zero : bitLength 0 = 0 := by simp [bitLength]

theorem bitLength_le_of_lt {v n : Nat} (h : v < 2 ^ n) : bitLength v ≤ n := by
  unfold bitLength
  split
  · omega
  · rename_i hv
    have := (Nat.log2_lt hv).2 h
    omega

/-! ### binary numerals, most significant digit first -/

theorem bitsVal_foldl (l : List Bool) (a : Nat) :
    l.foldl (fun acc b => 2 * acc + b.toNat) a = 2 ^ l.length * a + Spec.bitsVal l := by
  induction l generalizing a with
  | nil => simp [Spec.bitsVal]
  | cons b l ih =>
    rw [Spec.bitsVal, List.foldl_cons, List.foldl_cons, ih, ih (2 * 0 + b.toNat), List.length_cons, Nat.pow_succ]
    simp only [Nat.mul_add, Nat.mul_zero, Nat.zero_add, Nat.add_assoc, Nat.mul_assoc]

theorem bitsVal_cons (b : Bool) (l : List Bool) : Spec.bitsVal (b :: l) = 2 ^ l.length * b.toNat + Spec.bitsVal l := by
  rw [Spec.bitsVal, List.foldl_cons, bitsVal_foldl]
  simp

theorem bitsVal_lt (l : List Bool) : Spec.bitsVal l < 2 ^ l.length := by
  induction l with
  | nil => simp [Spec.bitsVal]
  | cons b l ih =>
    rw [bitsVal_cons, List.length_cons, Nat.pow_succ]
    have : 2 ^ l.length * b.toNat ≤ 2 ^ l.length * 1 := Nat.mul_le_mul_left _ (Bool.toNat_le b)
    omega

theorem bitsVal_testBit (l : List Bool) (i : Nat) (h : i < l.length) :
    (Spec.bitsVal l).testBit (l.length - 1 - i) = l[i] := by
  induction l generalizing i with
  | nil => simp at h
  | cons b l ih =>
    rw [bitsVal_cons, Nat.testBit_two_pow_mul_add _ (bitsVal_lt l)]
    cases i with
    | zero => cases b <;> simp
    | succ i =>
      have hi : i < l.length := by simpa using h
      have : (b :: l).length - 1 - (i + 1) = l.length - 1 - i := by simp; omega
      rw [this, if_pos (by omega), ih i hi]
      simp

theorem bitsVal_map_range_testBit (w : Nat) (g : Nat → Bool) (j : Nat) :
    (Spec.bitsVal ((List.range w).map g)).testBit j = (decide (j < w) && g (w - 1 - j)) := by
  by_cases hj : j < w
  · have := bitsVal_testBit ((List.range w).map g) (w - 1 - j) (by simp; omega)
    simp only [List.length_map, List.length_range, List.getElem_map, List.getElem_range] at this
    rw [show w - 1 - (w - 1 - j) = j by omega] at this
    simp [this, hj]
  · have := bitsVal_lt ((List.range w).map g)
    simp only [List.length_map, List.length_range] at this
    simp [hj, testBit_of_lt this (Nat.le_of_not_lt hj)]

theorem wf_iff (b : Bits) : b.WF ↔ b.ival < 2 ^ b.size := Iff.rfl

theorem wf_testBit {b : Bits} (h : b.WF) {i : Nat} (hi : b.size ≤ i) : b.ival.testBit i = false :=
  testBit_of_lt h hi

theorem mod_of_wf {b : Bits} (h : b.WF) : b.ival % 2 ^ b.size = b.ival := Nat.mod_eq_of_lt h

theorem and_mask (x : Nat) (b : Bits) : x &&& b.mask = x % 2 ^ b.size := by
  unfold mask
  exact Nat.and_two_pow_sub_one_eq_mod x b.size

theorem and_mask_lt (x : Nat) (b : Bits) : x &&& b.mask < 2 ^ b.size := by
  rw [and_mask]
  exact Nat.mod_lt _ (Nat.two_pow_pos _)

theorem ofNatSz_wf (v n : Nat) : (ofNatSz v n).WF := Nat.mod_lt _ (Nat.two_pow_pos n)
theorem ofNat_wf (v : Nat) : (ofNat v).WF := bitLength_lt v
theorem setSize_wf (b : Bits) (n : Nat) : (b.setSize n).WF := ofNatSz_wf b.ival n

theorem ofInt_wf (v : Int) (sz : Option Nat) : (ofInt v sz).WF := by
  cases sz <;> simp only [ofInt]
  · exact ofNat_wf _
  · exact ofNatSz_wf _ _

-- `scoped`: modules of other primitives import these files and keep their own simp set.  Global `@[simp]` in the `Bits*`
-- and codec files is given only to the length of a list a conversion returns (`…_length`, `length_bools`), to the two
-- projections of `BitsBitVec.ofBV`, and to the `Model.Bits.size_…` names of Lemmas/BitsBools.
@[scoped simp] theorem ofNatSz_size (v n : Nat) : (ofNatSz v n).size = n := rfl
@[scoped simp] theorem ofNatSz_ival (v n : Nat) : (ofNatSz v n).ival = v % 2 ^ n := rfl
@[scoped simp] theorem setSize_size (b : Bits) (n : Nat) : (b.setSize n).size = n := rfl
@[scoped simp] theorem setSize_ival (b : Bits) (n : Nat) : (b.setSize n).ival = b.ival % 2 ^ n := rfl

theorem ofNatSz_testBit (v n i : Nat) : (ofNatSz v n).ival.testBit i = (decide (i < n) && v.testBit i) := by
  simp only [ofNatSz, Nat.testBit_mod_two_pow]

theorem wsize_eq_max (a o : Bits) : wsize a o = max a.size o.size := by
  unfold wsize; split <;> omega

theorem wsize_of_le {a o : Bits} (h : o.size ≤ a.size) : wsize a o = a.size :=
  (wsize_eq_max a o).trans (Nat.max_eq_left h)

/-- an int operand that fits the width leaves it: `Bits(k)` has `bit_length(k)` bits -/
theorem wsize_ofNat (a : Bits) {k : Nat} (h : k < 2 ^ a.size) : wsize a (Bits.ofNat k) = a.size :=
  wsize_of_le (bitLength_le_of_lt h)

theorem lt_wsize_left {a : Bits} (h : a.WF) (o : Bits) : a.ival < 2 ^ wsize a o :=
  Nat.lt_of_lt_of_le h (Nat.pow_le_pow_right (by omega) (by rw [wsize_eq_max]; exact Nat.le_max_left _ _))
theorem lt_wsize_right (a : Bits) {o : Bits} (h : o.WF) : o.ival < 2 ^ wsize a o :=
  Nat.lt_of_lt_of_le h (Nat.pow_le_pow_right (by omega) (by rw [wsize_eq_max]; exact Nat.le_max_right _ _))

theorem eq_of_size_ival {a b : Bits} (hs : a.size = b.size) (hv : a.ival = b.ival) : a = b := by
  cases a; cases b; simp_all

theorem ext_of_wf {a b : Bits} (ha : a.WF) (hb : b.WF) (hs : a.size = b.size)
    (h : ∀ i, i < a.size → a.ival.testBit i = b.ival.testBit i) : a = b := by
  apply eq_of_size_ival hs
  apply Nat.eq_of_testBit_eq
  intro i
  by_cases hi : i < a.size
  · exact h i hi
  · rw [wf_testBit ha (by omega), wf_testBit hb (by omega)]

theorem reverseByte_byte : ∀ b < 256, reverseByte b < 256 ∧ ∀ j < 8, (reverseByte b).testBit j = b.testBit (7 - j) := by
  decide +kernel

theorem reverseByte_lt (b : Nat) (hb : b < 256) : reverseByte b < 256 := (reverseByte_byte b hb).1

theorem reverseByte_testBit (b : Nat) (hb : b < 256) (j : Nat) (hj : j < 8) :
    (reverseByte b).testBit j = b.testBit (7 - j) := (reverseByte_byte b hb).2 j hj

theorem reverseByte_reverseByte (b : Nat) (hb : b < 256) : reverseByte (reverseByte b) = b := by
  have h1 := reverseByte_lt b hb
  apply Nat.eq_of_testBit_eq
  intro j
  by_cases hj : j < 8
  · rw [reverseByte_testBit _ h1 j hj, reverseByte_testBit b hb (7 - j) (by omega)]
    congr 1
    omega
  · rw [testBit_of_lt (n := 8) (reverseByte_lt _ h1) (by omega), testBit_of_lt (n := 8) hb (by omega)]

theorem reverseByte_xor (x y : Nat) (hx : x < 256) (hy : y < 256) :
    reverseByte x ^^^ reverseByte y = reverseByte (x ^^^ y) := by
  have hxy : x ^^^ y < 256 := Nat.xor_lt_two_pow (n := 8) hx hy
  apply Nat.eq_of_testBit_eq
  intro i
  by_cases hi : i < 8
  · rw [Nat.testBit_xor, reverseByte_testBit x hx i hi, reverseByte_testBit y hy i hi,
      reverseByte_testBit _ hxy i hi, Nat.testBit_xor]
  · have h8 : 8 ≤ i := by omega
    rw [Nat.testBit_xor, testBit_of_lt (n := 8) (reverseByte_lt x hx) h8,
      testBit_of_lt (n := 8) (reverseByte_lt y hy) h8,
      testBit_of_lt (n := 8) (reverseByte_lt _ hxy) h8]
    rfl

end Proofs.Lemmas.Bits
