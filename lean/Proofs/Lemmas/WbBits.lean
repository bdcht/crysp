/-
  For C18: `pyIdx` at a position inside the list, and the sizes of `concat` and `putSlice` as simp lemmas.
-/
import Model.Wb
import Proofs.Lemmas.BitsBasic
import Proofs.Lemmas.BitsBools
namespace Proofs.Lemmas.Wb
open Model Model.Wb Model.Bits

theorem pyIdx_ok {α} (l : List α) (i : Nat) (h : i < l.length) : pyIdx l i = .ok l[i] := by
  simp [pyIdx, List.getElem?_eq_getElem h]

@[simp] theorem size_concat (a o : Bits) : (a.concat o).size = a.size + o.size := rfl

@[simp] theorem size_putSlice (b : Bits) (s e : Nat) (v : Bits) : (putSlice b s e v).size = b.size := rfl

end Proofs.Lemmas.Wb
