/-
  Lemmas for Spec.SerpentStd: the S-box layer of the standard formulation (32 copies on consecutive nibbles) is the
  IP-conjugate of the bitslice S-box layer (columns of the four words).
-/
import Proofs.Lemmas.SerpentStdPerm
namespace Proofs.Lemmas.SerpentStdSbox
open Spec.Serpent Proofs.Lemmas.SerpentBits Proofs.Lemmas.SerpentSpec Proofs.Lemmas.SerpentStdPerm

theorem nibble_T (s : State) (hs : WS s) (k : Nat) (hk : k < 32) :
    Spec.SerpentStd.nibble (T s) k = column s k := by
  have hlt : Spec.SerpentStd.nibble (T s) k < 16 := Nat.mod_lt _ (by decide)
  have hb : ∀ t < 4, (Spec.SerpentStd.nibble (T s) k).testBit t = (word s t).testBit k := by
    intro t ht
    show ((T s >>> (4 * k)) % 2 ^ 4).testBit t = _
    rw [Nat.testBit_mod_two_pow, Nat.testBit_shiftRight, testBit_T s hs]
    have h1 : 4 * k + t < 128 := by omega
    have h2 : (4 * k + t) % 4 = t := by omega
    have h3 : (4 * k + t) / 4 = k := by omega
    rw [h2, h3]
    simp [ht, h1]
  rw [Bits.nibble_eq _ hlt, hb 0 (by decide), hb 1 (by decide), hb 2 (by decide), hb 3 (by decide)]
  rfl

theorem sHat_T (f : Nat → Nat) (s : State) (hs : WS s) :
    Spec.SerpentStd.sHat f (T s) = T (applyBox f s) := by
  apply Nat.eq_of_testBit_eq; intro j
  unfold Spec.SerpentStd.sHat
  rw [testBit_ofBitFn, testBit_T _ (applyBox_ws f s)]
  by_cases hj : j < 128
  · have hk : j / 4 < 32 := by omega
    rw [nibble_T s hs _ hk, testBit_word_applyBox f s _ _ (Nat.mod_lt _ (by decide))]
    simp [hk]
  · simp [hj]

end Proofs.Lemmas.SerpentStdSbox
