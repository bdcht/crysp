/-
  Helper lemmas for C05: SP 800-38A CTR at the level of the specification.  CTR over the blocks of M is M xor the key
  stream O_0 ‖ O_1 ‖ …; from this: the output is as long as M, and applying CTR twice gives M back.
-/
import Proofs.Lemmas.ModeEcbCbc
namespace Proofs.Lemmas.ModeL
open Model Model.Mode Proofs.Lemmas.Bytes

/-- O_j ‖ O_{j+1} ‖ … (n blocks) -/
def keystream (k : Spec.Mode.Cipher) (T : Nat → List Nat) : Nat → Nat → List Nat
  | _, 0 => []
  | j, n+1 => k.E (T j) ++ keystream k T (j + 1) n

theorem keystream_length (k : Spec.Mode.Cipher) (T : Nat → List Nat) (l : Nat) (hE : ∀ i, (k.E (T i)).length = l) :
    ∀ (n j : Nat), (keystream k T j n).length = n * l
  | 0, _ => by simp [keystream]
  | n+1, j => by
    simp [keystream, hE, keystream_length k T l hE n, Nat.succ_mul]
    omega

theorem ctr_keystream (k : Spec.Mode.Cipher) (T : Nat → List Nat) (l : Nat) (hl : 0 < l) (hE : ∀ i, (k.E (T i)).length = l)
    (M : List Nat) : ∀ j, join (Spec.Mode.ctrFrom k T j (Spec.Mode.blocks l M))
      = xorstr M (keystream k T j (Spec.Mode.blocks l M).length) := by
  rw [blocks_eq_chunks l hl]
  induction M using Fold.drop_induction l hl with
  | nil =>
    intro j
    simp [chunks_nil, Spec.Mode.ctrFrom, xorstr]
  | step M hM ih =>
    intro j
    have := ih (j + 1)
    simp only [join] at this
    rw [chunks_cons l hl M hM]
    simp only [Spec.Mode.ctrFrom, join, List.flatten_cons, List.length_cons, keystream, this]
    unfold xorstr Spec.Mode.xor
    rw [Fold.zipWith_append_right, hE j]

theorem ctrSpec_length_invol (k : Spec.Mode.Cipher) (T : Nat → List Nat) (hpos : 0 < k.len) (hE : ∀ i, (k.E (T i)).length = k.len)
    (M : List Nat) :
    (Spec.Mode.concat (Spec.Mode.ctrEncrypt k T (Spec.Mode.blocks k.len M))).length = M.length ∧
    Spec.Mode.concat (Spec.Mode.ctrEncrypt k T (Spec.Mode.blocks k.len
      (Spec.Mode.concat (Spec.Mode.ctrEncrypt k T (Spec.Mode.blocks k.len M))))) = M := by
  have hks : ∀ X : List Nat, Spec.Mode.concat (Spec.Mode.ctrEncrypt k T (Spec.Mode.blocks k.len X))
      = xorstr X (keystream k T 0 ((X.length + k.len - 1) / k.len)) := fun X =>
    (ctr_keystream k T k.len hpos hE X 0).trans (by rw [blocks_eq_chunks k.len hpos, chunks_length k.len hpos])
  have hle : M.length ≤ (keystream k T 0 ((M.length + k.len - 1) / k.len)).length := by
    rw [keystream_length k T k.len hE]
    exact Fold.le_blocks M.length k.len hpos
  have hlen : (xorstr M (keystream k T 0 ((M.length + k.len - 1) / k.len))).length = M.length := by
    rw [xor_length]
    exact Nat.min_eq_left hle
  rw [hks M]
  refine ⟨hlen, ?_⟩
  rw [hks, hlen, xor_cancel_right _ _ hle]

end Proofs.Lemmas.ModeL
