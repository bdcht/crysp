/-
  For C18: the key-dependent tables.  The nested "fill a table of tables" loops of `table_rKS` /
  `table_rKT` never fail and return, for EVERY key and round index, the tables written out below (`rksTab`, `rktTab`),
  which depend on the key only through the round key.
-/
import Model.Wb
import Proofs.Lemmas.DesLemmas
import Proofs.Lemmas.WbBits
namespace Proofs.Lemmas.Wb
open Model Model.Wb Model.Bits

def table (N M : Nat) (g : Nat → Nat → Nat) : List (List Nat) := (List.range N).map fun n => (List.range M).map (g n)

theorem getD_table {N M n : Nat} (g : Nat → Nat → Nat) (hn : n < N) : (table N M g).getD n [] = (List.range M).map (g n) :=
  Fold.getD_map_range _ N n [] hn

theorem getD_getD_table {N M n v : Nat} (g : Nat → Nat → Nat) (hn : n < N) (hv : v < M) :
    ((table N M g).getD n []).getD v 0 = g n v := by
  rw [getD_table g hn]
  exact Fold.getD_map_range (g n) M v 0 hv

theorem pyIdx_map_range {β} {M v : Nat} (f : Nat → β) (hv : v < M) : pyIdx ((List.range M).map f) v = .ok (f v) := by
  rw [pyIdx_ok _ _ (by simpa using hv)]
  simp

theorem pyIdx_table {N M n : Nat} (g : Nat → Nat → Nat) (hn : n < N) :
    pyIdx (table N M g) n = .ok ((List.range M).map (g n)) :=
  pyIdx_map_range _ hn

theorem table_shape {N M B : Nat} {g : Nat → Nat → Nat} (hg : ∀ n < N, ∀ v < M, g n v < B) :
    (table N M g).length = N ∧ ∀ t ∈ table N M g, t.length = M ∧ ∀ e ∈ t, e < B := by
  refine ⟨by simp [table], fun t ht => ?_⟩
  obtain ⟨n, hn, rfl⟩ := List.mem_map.mp ht
  refine ⟨by simp, fun e he => ?_⟩
  obtain ⟨v, hv, rfl⟩ := List.mem_map.mp he
  exact hg n (List.mem_range.mp hn) v (List.mem_range.mp hv)

theorem table_congr {N M : Nat} {g g' : Nat → Nat → Nat} (h : ∀ n < N, ∀ v < M, g n v = g' n v) :
    table N M g = table N M g' :=
  List.map_congr_left fun n hn => List.map_congr_left fun v hv => h n (List.mem_range.mp hn) v (List.mem_range.mp hv)

theorem replicate_eq_table (N M : Nat) {row : List Nat} {h : Nat → Nat} (hrow : row = (List.range M).map h) :
    List.replicate N row = table N M fun _ => h := by
  rw [hrow, table, List.map_const', List.length_range]

theorem set2_table {N M n : Nat} (g : Nat → Nat → Nat) (v w : Nat) (hn : n < N) :
    set2 (table N M g) n v w = table N M fun n' v' => if n' = n ∧ v' = v then w else g n' v' := by
  rw [set2, getD_table g hn]
  apply List.ext_getElem (by simp [table])
  intro n' h1 _
  apply List.ext_getElem (by simp [table, List.getElem_set]; split <;> simp)
  intro v' h2 _
  by_cases a : n = n'
  · by_cases b : v = v'
    · simp [table, a, b]
    · simp [table, a, b, Ne.symm b]
  · simp [table, a, Ne.symm a]

theorem tabInner_ok {entry : Nat → Except Err Nat} {f : Nat → Nat} {N M : Nat} (idx : Nat) :
    ∀ (ns : List Nat) (g : Nat → Nat → Nat), (∀ n ∈ ns, n < N ∧ entry n = .ok (f n)) →
      tabInner entry idx ns (table N M g) =
        .ok (table N M fun n' v' => if n' ∈ ns ∧ v' = idx then f n' else g n' v')
  | [], g, _ => by simp [tabInner]
  | n :: ns, g, h => by
    have hn := h n List.mem_cons_self
    -- `Fold.ok_bind` takes one step of the `do` block and leaves the later loops folded (unfolding `bind` with `simp`
    -- makes the kernel run them)
    rw [tabInner, hn.2, Fold.ok_bind, set2_table g idx (f n) hn.1,
      tabInner_ok idx ns _ fun m hm => h m (List.mem_cons_of_mem _ hm)]
    apply congrArg fun g => Except.ok (table N M g)
    funext n' v'
    by_cases b : v' = idx
    · by_cases c : n' = n
      · simp [b, c]
      · simp [b, c]
    · simp [b]

/-- the first eight rows are written, one per S-box, hence `8 ≤ N`; `idx v = v` says that `Bits(v,w).__index__()` is
    `v` again, i.e. `v` fits the width -/
theorem tabOuter_ok {entry : Nat → Nat → Except Err Nat} {idx : Nat → Nat} {f : Nat → Nat → Nat} {N M : Nat} (hN : 8 ≤ N) :
    ∀ (vs : List Nat) (g : Nat → Nat → Nat), (∀ v ∈ vs, idx v = v ∧ ∀ n < 8, entry v n = .ok (f v n)) →
      tabOuter entry idx vs (table N M g) =
        .ok (table N M fun n' v' => if n' < 8 ∧ v' ∈ vs then f v' n' else g n' v')
  | [], g, _ => by simp [tabOuter]
  | v :: vs, g, h => by
    obtain ⟨hid, hent⟩ := h v List.mem_cons_self
    rw [tabOuter, tabInner_ok (f := f v) (idx v) (List.range 8) g
        fun n hn => ⟨Nat.lt_of_lt_of_le (List.mem_range.mp hn) hN, hent n (List.mem_range.mp hn)⟩,
      Fold.ok_bind, tabOuter_ok hN vs _ fun m hm => h m (List.mem_cons_of_mem _ hm)]
    apply congrArg fun g => Except.ok (table N M g)
    funext n' v'
    rw [hid]
    by_cases a : n' < 8
    · by_cases c : v' = v
      · simp [a, c, List.mem_range]
      · simp [a, c, List.mem_range]
    · simp [a, List.mem_range]

abbrev rk (K : Bits) (r : Nat) : Bits := Des.subkeyP (Des.PC1 K) r

theorem subkey_rk (K : Bits) (r : Nat) : Des.subkey (Des.PC1 K) r = .ok (rk K r) :=
  Des.subkey_eq _ (by rw [Des.size_PC1]; decide) r

def kchunk (fk : Bits) (n : Nat) : Bits := fk.sliceFast (6 * n) (6 * n + 6)

/-- the byte a T-box holds: 4 S-box output bits, then bits 0,5,6,7 of the input byte -/
def tboxVal (s v : Nat) : Nat := ((ofNatSz s 4).concat ((ofNatSz v 8).pick [0, 5, 6, 7])).ival

def rksTab (fk : Bits) : List (List Nat) :=
  table 8 64 fun n v => Des.sOut n ((ofNatSz v 6).xor (kchunk fk n)).ival

def rktVal (fk : Bits) (n v : Nat) : Nat :=
  if n < 8 then tboxVal (Des.sOut n ((ofNatSz (v % 64) 6).xor (kchunk fk n)).ival) v else v

def rktTab (fk : Bits) : List (List Nat) := table 12 256 (rktVal fk)

theorem sboxOut_ok (n : Nat) (hn : n < 8) (x : Bits) : sboxOut n x = .ok (Des.sOut n x.ival) := by
  simp only [sboxOut, Des.S_chunk n hn]
  rfl

theorem tboxVal_lt (s v : Nat) : tboxVal s v < 256 := by
  simp only [tboxVal, concat, ofNatSz, pick, List.length_cons, List.length_nil]
  exact Nat.mod_lt _ (by decide)

theorem rktVal_lt (fk : Bits) (n v : Nat) (hv : v < 256) : rktVal fk n v < 256 := by
  unfold rktVal
  split
  · exact tboxVal_lt _ _
  · exact hv

theorem tableRKS_eq (K : Bits) (r : Nat) : tableRKS r K = .ok (rksTab (rk K r)) := by
  have hsplit : (rk K r).split 6 = .ok ((List.range 8).map fun j => (rk K r).sliceFast (j * 6) (min (j * 6 + 6) 48)) := by
    simp [Bits.split]
  have hent : ∀ v ∈ List.range 64, (ofNatSz v 6).ival = v ∧ ∀ n < 8,
      rksEntry ((List.range 8).map fun j => (rk K r).sliceFast (j * 6) (min (j * 6 + 6) 48)) v n =
        .ok (Des.sOut n ((ofNatSz v 6).xor (kchunk (rk K r) n)).ival) := by
    intro v hv
    refine ⟨Nat.mod_eq_of_lt (List.mem_range.mp hv), fun n hn => ?_⟩
    rw [rksEntry, pyIdx_map_range _ hn, Fold.ok_bind, sboxOut_ok n hn, kchunk, Nat.mul_comm n 6, Nat.min_eq_left (by omega)]
  have hzero : List.replicate 64 0 = (List.range 64).map fun _ => 0 := by
    rw [List.map_const', List.length_range]
  rw [tableRKS, subkey_rk, Fold.ok_bind, hsplit, Fold.ok_bind, replicate_eq_table 8 64 hzero, tabOuter_ok (Nat.le_refl 8) _ _ hent]
  exact congrArg Except.ok (table_congr fun n hn v hv => if_pos ⟨hn, List.mem_range.mpr hv⟩)

theorem low6_eq (v : Nat) : ((ofNatSz v 8).sliceFast 0 6).ival = v % 64 := by
  simp only [sliceFast, ofNatSz, Nat.shiftRight_zero, Nat.sub_zero]
  rw [Nat.and_two_pow_sub_one_eq_mod, Nat.mod_mod]
  exact Nat.mod_mod_of_dvd v (by decide : 64 ∣ 256)

theorem rktEntry_ok (fk : Bits) (v n : Nat) (hn : n < 8) : rktEntry (rksTab fk) v n = .ok (rktVal fk n v) := by
  simp only [rktEntry, rksTab, pyIdx_table _ hn, bind, Except.bind, low6_eq,
    pyIdx_map_range _ (Nat.mod_lt v (by decide : 0 < 64)), rktVal, if_pos hn]
  rfl

theorem tableRKT_eq (K : Bits) (r : Nat) : tableRKT r K = .ok (rksTab (rk K r), rktTab (rk K r)) := by
  have h := tabOuter_ok (entry := rktEntry (rksTab (rk K r))) (idx := fun v => (ofNatSz v 8).ival)
    (f := fun v n => rktVal (rk K r) n v) (N := 12) (M := 256) (by decide) (List.range 256) (fun _ v => v)
    fun v hv => ⟨Nat.mod_eq_of_lt (List.mem_range.mp hv), fun n hn => rktEntry_ok _ v n hn⟩
  rw [tableRKT, tableRKS_eq, Fold.ok_bind, replicate_eq_table 12 256 (List.map_id' _).symm, h, Fold.ok_bind]
  apply congrArg fun t => Except.ok (rksTab (rk K r), t)
  apply table_congr
  intro n _ v hv
  by_cases c : n < 8
  · rw [if_pos ⟨c, List.mem_range.mpr hv⟩]
  · rw [if_neg (fun x => c x.1), rktVal, if_neg c]

theorem rktTab_shape (fk : Bits) :
    (rktTab fk).length = 12 ∧ ∀ t ∈ rktTab fk, t.length = 256 ∧ ∀ e ∈ t, e < 256 :=
  table_shape fun n _ v hv => rktVal_lt fk n v hv

def ktTab (K : Bits) : List (List (List Nat)) := (List.range 16).map fun r => rktTab (rk K r)

theorem KT_eq (K : Bits) : KT K = .ok (ktTab K) :=
  Fold.mapM_ok _ _ _ fun r _ => by simp [tableRKT_eq, bind, Except.bind, pure, Except.pure]

theorem ktTab_shape (K : Bits) :
    (ktTab K).length = 16 ∧ ∀ round ∈ ktTab K, round.length = 12 ∧ ∀ t ∈ round, t.length = 256 ∧ ∀ e ∈ t, e < 256 := by
  refine ⟨by simp [ktTab], fun round hround => ?_⟩
  obtain ⟨r, _, rfl⟩ := List.mem_map.mp hround
  exact rktTab_shape _

end Proofs.Lemmas.Wb
