/-
  The padding obligation of the composition lemma: for the MD / SHA length-strengthening schemes the blocks
  `Model.Padder.iterblocks` yields in a final call are the blocks of the standard's padded tail
  (message bits ‖ 1 ‖ fewest zeros ‖ length field), for every message, bit length and (block-aligned) counter.
-/
import Proofs.Lemmas.SpecList
import Proofs.Lemmas.Compose
import Proofs.Lemmas.Pack
import Proofs.Lemmas.PaddingRun
namespace Proofs.Lemmas.PadOk
open Model Model.Py Proofs.Lemmas.Parse Proofs.Lemmas.BitsList Proofs.Lemmas.SpecList Proofs.Lemmas.Compose
  Proofs.Lemmas.Fold Proofs.Lemmas.Padding

section core
variable {σ : Type}

/-- Of `p` only `hlb` is used: its `lastblock` is `mdLike` with word size `w` (`rfl` for `⟨.md w, B⟩`, `bigend = false`, and
    `⟨.sha w, B⟩`, `true`).  The call equals the one on the `.md w` / `.sha w` padder `q` of the same block size (`hq`), whose
    blocks are the blocks of `emitted q …` (`iterblocks_closed`); that string is `padFrom` (`hX`): same zero run (`hz`), same
    length field (`h3` with `pack_le` / `pack_be`). -/
theorem padOk_core (p : Padder) (w : Nat) (bigend : Bool)
    (hlb : ∀ st m kw, p.lastblock st m kw = p.mdLike st m kw w 1 none bigend)
    (bl ll : Nat) (hB : p.blocksize = 8 * bl) (hbl : 0 < bl) (hw : w * 2 = 8 * ll) (hfit : w * 2 + 1 ≤ p.blocksize)
    (h : Spec.MDHash σ) (h1 : h.blockLen = bl) (h2 : h.lenLen = ll)
    (h3 : ∀ l, toNatBytes (h.encLen l) = (Bits.ofNatSz l (w * 2)).pack bigend)
    (h4 : ∀ l, (h.encLen l).length = ll)
    (st : PadState) (hpf : st.padflag = false) (hdone : st.bitcnt % p.blocksize = 0)
    (M : List Spec.Byte) (kw : Option Nat) (hkw : ∀ l, kw = some l → l ≤ 8 * M.length) :
    (p.iterblocks st (toNatBytes M) kw true).err = none ∧
    (p.iterblocks st (toNatBytes M) kw true).yields.map (·.1) =
      (Spec.groups bl (h.padFrom st.bitcnt ((Spec.bytesToBits M).take (kw.getD (8 * M.length))))).map toNatBytes := by
  obtain ⟨s, hs, hql⟩ : ∃ s : Model.Scheme, (s = .md w ∧ bigend = false ∨ s = .sha w ∧ bigend = true) ∧
      ∀ st m kw, (⟨s, p.blocksize⟩ : Padder).lastblock st m kw = p.mdLike st m kw w 1 none bigend := by
    cases bigend
    · exact ⟨.md w, Or.inl ⟨rfl, rfl⟩, fun _ _ _ => rfl⟩
    · exact ⟨.sha w, Or.inr ⟨rfl, rfl⟩, fun _ _ _ => rfl⟩
  have hv : Valid ⟨s, p.blocksize⟩ := by
    refine ⟨?_, ?_, ?_⟩
    · show p.blocksize % 8 = 0
      omega
    · show 0 < p.blocksize
      omega
    · rcases hs with ⟨rfl, _⟩ | ⟨rfl, _⟩ <;> exact (⟨by omega, by omega⟩ : w % 4 = 0 ∧ 2 * w + 1 ≤ p.blocksize)
  have hm : Bytes (toNatBytes M) := toNatBytes_lt M
  have hL : effLen (toNatBytes M) kw ≤ 8 * (toNatBytes M).length := by
    cases kw with
    | none => exact Nat.le_refl _
    | some l => simpa [effLen] using hkw l rfl
  have hbg : kw ≠ none → BitGranular s := fun _ => by rcases hs with ⟨rfl, _⟩ | ⟨rfl, _⟩ <;> trivial
  have hq : p.iterblocks st (toNatBytes M) kw true = (⟨s, p.blocksize⟩ : Padder).iterblocks st (toNatBytes M) kw true := by
    have := lastblock_piece ⟨s, p.blocksize⟩ hv st _ (fun _ => hm) kw hL hbg
    rw [iterblocks_padded p _ _ _ hpf hL, iterblocks_padded ⟨s, p.blocksize⟩ _ _ _ hpf hL, hlb, ← hql]
    exact (congrArg (p.finishTail _ _ _) this).trans (congrArg (Padder.finishTail ⟨s, p.blocksize⟩ _ _ _) this).symm
  generalize hqdef : (⟨s, p.blocksize⟩ : Padder) = q at hv hq
  have hqs : q.scheme = s := by rw [← hqdef]
  have hbg : kw ≠ none → BitGranular q.scheme := fun _ => by
    rw [hqs]
    rcases hs with ⟨rfl, _⟩ | ⟨rfl, _⟩ <;> trivial
  rw [← show q.blocksize = p.blocksize by rw [← hqdef]] at hB hfit hdone
  rw [hq]
  have hblk : q.blocklen = bl := by
    rw [Padder.blocklen, hB]
    omega
  obtain ⟨e, f1, f2, _⟩ := call_facts q hv (toNatBytes M) kw hL
  have hLe : effLen (toNatBytes M) kw = kw.getD (8 * M.length) := by rw [effLen, toNatBytes_length]
  have hsplit : kw.getD (8 * M.length) = kOf q (toNatBytes M) kw * q.blocksize + rOf q (toNatBytes M) kw := by
    rw [← hLe, rOf]
    omega
  have hcl := iterblocks_closed q hv st hpf _ (fun _ => hm) kw hL hbg
  have hEl := (emitted_length q hv st _ kw hL hbg).1 (by rw [hqs]; rcases hs with ⟨rfl, _⟩ | ⟨rfl, _⟩ <;> simp)
  have hcat := concat_bits q hv st _ hm kw hL
  have hmt : modelTail q (st.bitcnt + kOf q (toNatBytes M) kw * q.blocksize) (rOf q (toNatBytes M) kw)
      = true :: Spec.Padding.zeros (gap q.blocksize (1 + 2 * w) (rOf q (toNatBytes M) kw))
        ++ (if bigend then Spec.Padding.lenBE (2 * w) (st.bitcnt + kw.getD (8 * M.length))
            else Spec.Padding.lenLE (2 * w) (st.bitcnt + kw.getD (8 * M.length))) := by
    rw [hsplit, ← Nat.add_assoc]
    rcases hs with ⟨rfl, rfl⟩ | ⟨rfl, rfl⟩ <;> simp [modelTail, hqs, preBits, sufBits, minPad]
  generalize kOf q (toNatBytes M) kw = k at *
  generalize rOf q (toNatBytes M) kw = r at *
  generalize hbits : (Spec.bytesToBits M).take (kw.getD (8 * M.length)) = bits
  have hbl' : bits.length = k * q.blocksize + r := by
    rw [← hbits, List.length_take, SpecList.bytesToBits_length, ← hsplit]
    exact Nat.min_eq_left (by rw [← hLe]; simpa using hL)
  obtain ⟨q0, hq0⟩ : ∃ q0, st.bitcnt = q0 * q.blocksize :=
    ⟨st.bitcnt / q.blocksize, by rw [Nat.div_mul_cancel (Nat.dvd_of_mod_eq_zero hdone)]⟩
  have hz : h.zeros (st.bitcnt + bits.length) = gap q.blocksize (1 + 2 * w) r := by
    rw [← fill_gap q.blocksize (q0 + k) r (1 + 2 * w) (by omega) f2 (by omega) (by omega),
      Spec.MDHash.zeros, h1, h2, ← hB, hbl', hq0, Spec.Padding.fill, Nat.add_mul]
    congr 3
    all_goals omega
  have hal : (bits ++ true :: Spec.Padding.zeros (gap q.blocksize (1 + 2 * w) r)).length % 8 = 0 := by
    have ht := gap_total q.blocksize (1 + 2 * w) r (by omega) f2
    have : k * q.blocksize = 8 * (k * bl) := by rw [hB, Nat.mul_left_comm]
    simp only [List.length_append, List.length_cons, Spec.Padding.zeros, List.length_replicate, hbl']
    split at ht <;> omega
  have hX : toNatBytes (h.padFrom st.bitcnt bits) = emitted q st (toNatBytes M) kw := by
    have hbits' : Spec.Padding.takeBits (effLen (toNatBytes M) kw) (toNatBytes M) = bits := by
      rw [← hbits, hLe]
      exact congrArg (List.take _) (natBits_toNatBytes M)
    rw [hcat, hmt, hbits', ← List.append_assoc, Padding.bitsToBytes_append _ _ hal, Spec.MDHash.padFrom, hz]
    simp only [Spec.Padding.zeros] at hal ⊢
    rw [show ∀ a b : List Spec.Byte, toNatBytes (a ++ b) = toNatBytes a ++ toNatBytes b from fun _ _ => List.map_append,
      List.append_assoc bits, List.singleton_append, toNatBytes_bitsToBytes _ hal, h3, hbl', ← hsplit, hw,
      show 2 * w = 8 * ll by omega]
    cases bigend
    · rw [Padding.pack_le]
      rfl
    · rw [Padding.pack_be]
      rfl
  have hXl : (h.padFrom st.bitcnt bits).length / bl = k + tailBlocks q r := by
    rw [← toNatBytes_length, hX, hEl, hblk, Nat.mul_div_cancel _ hbl]
  rw [hcl, ← hblk, ← Compose.blocks_groups q, hblk, hXl, ← hX, List.map_map]
  exact ⟨rfl, rfl⟩

end core

end Proofs.Lemmas.PadOk
