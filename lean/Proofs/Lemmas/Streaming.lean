/-
  Framing and streaming (C14), generic in the hash: for every hash object whose IV/compression/serialisation refine an
  `Spec.MDHash` (arbitrary chaining type and compression function) and whose padder is the MD or SHA scheme (`Framing`), a
  final `update` yields the standard's padded blocks, hence continues the standard's hash from the chaining value it finds,
  and block-aligned pieces fed with `update(piece)` then `update(last,padding=True)` give the one-shot result.
-/
import Proofs.Lemmas.PadOk
namespace Proofs.Lemmas.Streaming
open Model Model.Py Proofs.Lemmas.Parse Proofs.Lemmas.BitsBitVec Proofs.Lemmas.Compose Proofs.Lemmas.PadOk
  Proofs.Lemmas.Pack Proofs.Lemmas.SpecList Proofs.Lemmas.Fold

/-- `pack(Bits(bitlen,2w),'>L')` is the big-endian length field, `pack(Bits(bitlen,2w))` the little-endian one -/
theorem lengthField_eq_pack (w ll : Nat) (hw : w * 2 = 8 * ll) (bigend : Bool) (l : Nat) :
    toNatBytes ((if bigend then Spec.beBytes ll else Spec.leBytes ll) l) = (Bits.ofNatSz l (w * 2)).pack bigend := by
  cases bigend
  · rw [Bits.pack_le_bytes _ ll hw, Bits.ofNatSz_ival, hw, ← Bytes.pow256, Bytes.leBytes_mod]
    exact toNatBytes_leBytes ll l
  · rw [Bits.pack_be_bytes _ ll hw, Bits.ofNatSz_ival, hw, ← Bytes.pow256, beBytes, Bytes.leBytes_mod]
    exact toNatBytes_beBytes ll l

variable {σ : Type}

/-- the padder of `c` is the MD (`bigend = false`) or SHA (`true`) scheme with the block and length-field sizes of `h`.
    `w` is the word size the padder is built with: the length field has 2w bits = `ll` bytes (`hw`); `B` = 8·`bl` is
    the block size in bits; `hfit`: the 1 bit and the length field fit one block. -/
structure Framing (c : HashCore) (h : Spec.MDHash σ) (w B bl ll : Nat) (bigend : Bool) : Prop where
  hp : c.padder = ⟨if bigend then .sha w else .md w, B⟩
  hB : B = 8 * bl
  hbl : 0 < bl
  hw : w * 2 = 8 * ll
  hfit : w * 2 + 1 ≤ B
  h1 : h.blockLen = bl
  h2 : h.lenLen = ll
  h3 : h.encLen = if bigend then Spec.beBytes ll else Spec.leBytes ll

theorem padOk_of_framing {c : HashCore} {h : Spec.MDHash σ} {w B bl ll : Nat} {bigend : Bool}
    (F : Framing c h w B bl ll bigend) (st : PadState) (hpf : st.padflag = false) (hdone : st.bitcnt % B = 0)
    (M : List Spec.Byte) (kw : Option Nat) (hkw : ∀ l, kw = some l → l ≤ 8 * M.length) :
    PadOk c h st st.bitcnt M kw ((Spec.bytesToBits M).take (kw.getD (8 * M.length))) := by
  obtain ⟨hp, hB, hbl, hw, hfit, h1, h2, h3⟩ := F
  unfold PadOk
  rw [hp, h1]
  refine padOk_core _ w bigend ?_ bl ll hB hbl hw hfit h h1 h2 ?_ ?_ st hpf hdone M kw hkw
  · cases bigend <;> exact fun _ _ _ => rfl
  · rw [h3]
    exact lengthField_eq_pack w ll hw bigend
  · rw [h3]
    cases bigend <;> simp [Spec.beBytes, Spec.leBytes]

theorem update_final_of_framing {c : HashCore} {h : Spec.MDHash σ} {emb : σ → List Bits} (R : Refines c h emb)
    {w B bl ll : Nat} {bigend : Bool} (F : Framing c h w B bl ll bigend)
    (s : σ) (st : PadState) (hpf : st.padflag = false) (hdone : st.bitcnt % B = 0)
    (M : List Spec.Byte) (kw : Option Nat) (hkw : ∀ l, kw = some l → l ≤ 8 * M.length) :
    (c.update ⟨emb s, st⟩ (toNatBytes M) kw true).2
      = .ok (toNatBytes (h.hashFrom s st.bitcnt ((Spec.bytesToBits M).take (kw.getD (8 * M.length))))) :=
  update_final R s st st.bitcnt M kw _ (padOk_of_framing F st hpf hdone M kw hkw)

theorem hash_of_framing {c : HashCore} {h : Spec.MDHash σ} {emb : σ → List Bits} (R : Refines c h emb)
    {w B bl ll : Nat} {bigend : Bool} (F : Framing c h w B bl ll bigend)
    (M : List Spec.Byte) (kw : Option Nat) (hkw : ∀ l, kw = some l → l ≤ 8 * M.length) :
    c.hash (toNatBytes M) kw = .ok (toNatBytes (h.hash ((Spec.bytesToBits M).take (kw.getD (8 * M.length))))) :=
  hash_of_refines R M kw _ (padOk_of_framing F {} rfl (Nat.zero_mod B) M kw hkw)

theorem update_nonfinal {c : HashCore} {h : Spec.MDHash σ} {emb : σ → List Bits} (R : Refines c h emb)
    {w B bl ll : Nat} {bigend : Bool} (F : Framing c h w B bl ll bigend)
    (s : σ) (st : PadState) (hpf : st.padflag = false) (P : List Spec.Byte) (hP : P.length % bl = 0) :
    c.update ⟨emb s, st⟩ (toNatBytes P) none false =
      (⟨emb (h.absorb s (Spec.groups bl P)), { st with bitcnt := st.bitcnt + 8 * P.length }⟩,
       .ok (toNatBytes (h.out (h.absorb s (Spec.groups bl P))))) := by
  have hbl := F.hbl
  have hpB : c.padder.blocksize = 8 * bl := by rw [F.hp]; exact F.hB
  have hpbl : c.padder.blocklen = bl := by rw [R.blockLen, F.h1]
  -- the call is an unpadded run: it yields the |P|/bl whole blocks of P, which are the standard's groups
  have hrun := Padding.unpadded_run c.padder (by omega) st hpf (toNatBytes P) none (Nat.le_refl _)
    (by rw [Padding.effLen, Option.getD_none, toNatBytes_length, hpB, Nat.mul_mod_mul_left, hP])
  rw [Padding.effLen, Option.getD_none, toNatBytes_length, hpB, Nat.mul_div_mul_left _ _ (by decide : 0 < 8)] at hrun
  have hab := absorb_ok R (c.padder.loopYields st (toNatBytes P) (P.length / bl)) (Spec.groups bl P) s
    (by rw [Padding.loopYields_blocks, ← hpbl, blocks_groups]) (by rw [← F.h1]; exact groups_length _ _)
  simp only [HashCore.update, hrun, hab, R.digest]

theorem absorb_append (h : Spec.MDHash σ) (hbl : 0 < h.blockLen) (s : σ) (P X : List Spec.Byte)
    (hP : P.length % h.blockLen = 0) :
    h.absorb s (Spec.groups h.blockLen (P ++ X))
      = h.absorb (h.absorb s (Spec.groups h.blockLen P)) (Spec.groups h.blockLen X) := by
  obtain ⟨j, hj⟩ := Nat.dvd_of_mod_eq_zero hP
  simp only [Spec.MDHash.absorb, groups_append _ hbl j P X (by rw [hj, Nat.mul_comm]), List.foldl_append]

theorem spec_continue (h : Spec.MDHash σ) (hbl : 0 < h.blockLen) (s : σ) (done : Nat) (P : List Spec.Byte)
    (hP : P.length % h.blockLen = 0) (bits : List Bool) :
    h.hashFrom (h.absorb s (Spec.groups h.blockLen P)) (done + 8 * P.length) bits
      = h.hashFrom s done (Spec.bytesToBits P ++ bits) := by
  have hpad : h.padFrom done (Spec.bytesToBits P ++ bits) = P ++ h.padFrom (done + 8 * P.length) bits := by
    simp only [Spec.MDHash.padFrom, List.length_append, bytesToBits_length, List.append_assoc]
    rw [bitsToBytes_bytes, ← Nat.add_assoc, List.append_assoc]
  rw [Spec.MDHash.hashFrom, Spec.MDHash.hashFrom, hpad, absorb_append h hbl s P _ hP]

theorem run_pieces {c : HashCore} {h : Spec.MDHash σ} {emb : σ → List Bits} (R : Refines c h emb)
    {w B bl ll : Nat} {bigend : Bool} (F : Framing c h w B bl ll bigend)
    (pieces : List (List Spec.Byte)) (hal : ∀ P ∈ pieces, P.length % bl = 0) (s : σ) (st : PadState)
    (hpf : st.padflag = false) :
    pieces.foldl (fun o P => (c.update o (toNatBytes P) none false).1) ⟨emb s, st⟩
      = ⟨emb (h.absorb s (Spec.groups bl pieces.flatten)), { st with bitcnt := st.bitcnt + 8 * pieces.flatten.length }⟩ := by
  induction pieces generalizing s st with
  | nil => simp [Spec.groups, Spec.MDHash.absorb]
  | cons P ps ih =>
    have hP := hal P (by simp)
    simp only [List.foldl_cons, update_nonfinal R F s st hpf P hP]
    rw [ih (fun Q hQ => hal Q (by simp [hQ])) (h.absorb s (Spec.groups bl P))
      { st with bitcnt := st.bitcnt + 8 * P.length } hpf]
    have hbl := F.hbl
    have h1 := F.h1
    subst h1
    rw [List.flatten_cons, absorb_append h hbl s P _ hP, List.length_append, Nat.mul_add, Nat.add_assoc]

theorem pieces_final {c : HashCore} {h : Spec.MDHash σ} {emb : σ → List Bits} (R : Refines c h emb)
    {w B bl ll : Nat} {bigend : Bool} (F : Framing c h w B bl ll bigend)
    (pieces : List (List Spec.Byte)) (hal : ∀ P ∈ pieces, P.length % bl = 0) (q : List Spec.Byte) (kw : Option Nat)
    (hkw : ∀ l, kw = some l → l ≤ 8 * q.length) :
    (c.update (pieces.foldl (fun o P => (c.update o (toNatBytes P) none false).1) c.initstate) (toNatBytes q) kw true).2
      = .ok (toNatBytes (h.hash (Spec.bytesToBits pieces.flatten ++ (Spec.bytesToBits q).take (kw.getD (8 * q.length))))) := by
  have hflat := flatten_length_mod bl pieces hal
  have hdone : (0 + 8 * pieces.flatten.length) % B = 0 := by
    obtain ⟨j, hj⟩ := Nat.dvd_of_mod_eq_zero hflat
    rw [hj, F.hB, Nat.zero_add, ← Nat.mul_assoc]
    exact Nat.mul_mod_right _ _
  rw [HashCore.initstate, R.iv, run_pieces R F pieces hal h.init {} rfl,
    update_final_of_framing R F _ _ rfl hdone q kw hkw]
  have hsc := spec_continue h (by rw [F.h1]; exact F.hbl) h.init 0 pieces.flatten (by rw [F.h1]; exact hflat)
  rw [F.h1] at hsc
  rw [hsc]
  rfl

/-- the bit length of the final piece, if given, counts from the start of that piece -/
theorem update_pieces {c : HashCore} {h : Spec.MDHash σ} {emb : σ → List Bits} (R : Refines c h emb)
    {w B bl ll : Nat} {bigend : Bool} (F : Framing c h w B bl ll bigend)
    (pieces : List (List Spec.Byte)) (hal : ∀ P ∈ pieces, P.length % bl = 0) (q : List Spec.Byte) (kw : Option Nat)
    (hkw : ∀ l, kw = some l → l ≤ 8 * q.length) :
    (c.update (pieces.foldl (fun o P => (c.update o (toNatBytes P) none false).1) c.initstate) (toNatBytes q) kw true).2
      = c.hash (toNatBytes (pieces.flatten ++ q)) (kw.map (8 * pieces.flatten.length + ·)) := by
  have hkw' : ∀ l, kw.map (8 * pieces.flatten.length + ·) = some l → l ≤ 8 * (pieces.flatten ++ q).length := by
    intro l hl
    cases kw with
    | none => cases hl
    | some l0 =>
      simp only [Option.map_some, Option.some.injEq] at hl
      have := hkw l0 rfl
      rw [List.length_append]
      omega
  have hbits : (Spec.bytesToBits (pieces.flatten ++ q)).take
        ((kw.map (8 * pieces.flatten.length + ·)).getD (8 * (pieces.flatten ++ q).length))
      = Spec.bytesToBits pieces.flatten ++ (Spec.bytesToBits q).take (kw.getD (8 * q.length)) := by
    have he : (kw.map (8 * pieces.flatten.length + ·)).getD (8 * (pieces.flatten ++ q).length)
        = 8 * pieces.flatten.length + kw.getD (8 * q.length) := by
      cases kw <;> simp [Nat.mul_add]
    rw [he, bytesToBits_append, List.take_append, bytesToBits_length, Nat.add_sub_cancel_left,
      List.take_of_length_le (by rw [bytesToBits_length]; omega)]
  rw [pieces_final R F pieces hal q kw hkw, hash_of_framing R F _ _ hkw', hbits]

end Proofs.Lemmas.Streaming
