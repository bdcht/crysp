/-
  Refinement lemmas: Model.Des (Bits plumbing of crysp/des.py) computes what Spec.Des (FIPS 46-3 on bit strings) says.
-/
import Proofs.Lemmas.DesLemmas
import Proofs.Lemmas.DesTables
import Proofs.Lemmas.DesRotl
namespace Spec.Des

theorem ksFrom_eq (ss : List Nat) (C D : Bitstr) (hCD : C.length = D.length) (hsum : ss.sum ≤ C.length) :
    ksFrom ss C D = (List.range ss.length).map fun r =>
      permute PC2 (rotl ((ss.take (r + 1)).sum) C ++ rotl ((ss.take (r + 1)).sum) D) := by
  induction ss generalizing C D with
  | nil => rfl
  | cons s ss ih =>
    have hs : s + ss.sum ≤ C.length := by simpa using hsum
    rw [ksFrom, ih (rotl s C) (rotl s D) (by simp [length_rotl, hCD]) (by rw [length_rotl]; omega), List.length_cons,
      List.range_succ_eq_map, List.map_cons, List.map_map]
    simp only [List.take_succ_cons, List.take_zero, List.sum_cons, List.sum_nil, Nat.add_zero, List.cons.injEq, true_and]
    apply List.map_congr_left
    intro r _
    have hle := Proofs.Lemmas.Fold.sum_take_le ss (r + 1)
    rw [rotl_rotl _ _ C (by omega), rotl_rotl _ _ D (by omega)]
    rfl

end Spec.Des

namespace Model.Des
open Model.Bits Proofs Proofs.DesTables

theorem bools_pick_spec (b : Bits) (hb : b.WF) (gen spec : List Nat) (h : gen = spec.map (· - 1)) :
    bools (b.pick gen) = Spec.Des.permute spec (bools b) := by
  rw [bools_pick' b hb, h, List.map_map]
  rfl

/-- the index `F` forms from a chunk is row `x₀x₅`, column `x₁x₂x₃x₄` of the standard, whose first bit is bit 0 of
    the chunk -/
theorem sIndex_eq (x : Bits) :
    ((x.pick [5, 0]).ival <<< 4) + (x.pick [4, 3, 2, 1]).ival =
      16 * Spec.Des.natOfBits [x.ival.testBit 0, x.ival.testBit 5] +
        Spec.Des.natOfBits [x.ival.testBit 1, x.ival.testBit 2, x.ival.testBit 3, x.ival.testBit 4] := by
  rw [pick_ival_natOfBits, pick_ival_natOfBits, Nat.shiftLeft_eq, Nat.mul_comm]
  rfl

theorem sOut_spec (n : Nat) (hn : n < 8) (c : Nat) :
    ((List.range 4).map fun i => (sOut n c).testBit i) = Spec.Des.sbox n ((List.range 6).map fun i => c.testBit i) := by
  have hcol : Spec.Des.natOfBits [c.testBit 1, c.testBit 2, c.testBit 3, c.testBit 4] < 16 :=
    Proofs.Lemmas.Bits.bitsVal_lt [_, _, _, _]
  have hrow : Spec.Des.natOfBits [c.testBit 0, c.testBit 5] < 4 := Proofs.Lemmas.Bits.bitsVal_lt [_, _]
  have hb : ∀ k < 6, ((List.range 6).map fun i => c.testBit i).getD k false = c.testBit k := fun k hk =>
    Proofs.Lemmas.Fold.getD_map_range _ 6 k false hk
  simp only [sOut, sIndex_eq, Spec.Des.sbox, Spec.Des.bitsOfNat, hb 0 (by decide), hb 1 (by decide), hb 2 (by decide),
    hb 3 (by decide), hb 4 (by decide), hb 5 (by decide)]
  rw [sbox_eq n hn _ (by omega), Nat.mul_add_div (by decide), Nat.div_eq_of_lt hcol, Nat.mul_add_mod, Nat.mod_eq_of_lt hcol]
  -- `[::-1]` of the 4-bit entry: bit i of the value written is bit 3 - i of the entry, the standard's i-th output bit
  apply List.map_congr_left
  intro i hi
  have hi : i < 4 := List.mem_range.mp hi
  have e : ∀ i (h : i < 4), ([3, 2, 1, 0] : List Nat)[i] = 3 - i := by decide
  simp only [testBit_pick, List.length_cons, List.length_nil, hi, dite_true, ofNatSz, e i hi, Nat.mod_mod]
  rw [Nat.testBit_mod_two_pow, decide_eq_true (show 3 - i < 4 by omega), Bool.true_and, Nat.add_zero]

theorem bools_sboxLoopP (s : Bits) (hs : s.size = 48) :
    bools (sboxLoopP s (List.range 8) (ofNatSz 0 32)) =
      (List.range 8).flatMap fun n => Spec.Des.sbox n (((bools s).drop (6 * n)).take 6) := by
  obtain ⟨⟨z1, _⟩, z3⟩ := sboxLoopP_bits s
  rw [bools, z1, Proofs.Lemmas.Fold.map_range_mul 8 4]
  apply Proofs.Lemmas.Fold.flatMap_congr_mem
  intro n hn
  have e6 : 6 * n + 6 - 6 * n = 6 := by omega
  have hb := bools_sliceFast s (6 * n) (6 * n + 6) (by have := List.mem_range.mp hn; omega)
  rw [e6, bools, size_sliceFast, e6] at hb
  rw [← hb, ← sOut_spec n (List.mem_range.mp hn)]
  apply List.map_congr_left
  intro j hj
  have hj4 : j < 4 := List.mem_range.mp hj
  have hn8 : n < 8 := List.mem_range.mp hn
  rw [z3 _ (by omega), show (4 * n + j) / 4 = n by omega, show (4 * n + j) % 4 = j by omega]

theorem bools_FP (R k : Bits) (r : Nat) (hR : R.WF) :
    bools (FP R k r) = Spec.Des.f (bools R) (bools (subkeyP k r)) := by
  have hs : ((R.pick Gen.Des.e).xor (subkeyP k r)).size = 48 := by simp [Bits.xor, wsize, len_e]
  rw [FP, bools_pick_spec _ (half_sboxLoopP _).2 _ _ p_eq, bools_sboxLoopP _ hs,
    bools_xor _ _ (by simp [len_e]), bools_pick_spec R hR _ _ e_eq]
  simp only [Spec.Des.f, Spec.Des.xor]
  rw [List.zipWith_comm_of_comm Bool.xor_comm]

theorem bools_subkeyP (k : Bits) (hk : k.size = 56) (r : Nat) :
    bools (subkeyP k r) =
      Spec.Des.permute Spec.Des.PC2 (Spec.Des.rotl (cumShift r) ((bools k).take 28) ++ Spec.Des.rotl (cumShift r) ((bools k).drop 28)) := by
  have hc := cumShift_le r
  have hW1 : (rotIdiom (k.sliceFast 0 28) (cumShift r)).WF := Lemmas.Bits.ror!_wf _ _
  rw [subkeyP, bools_pick_spec _ (Lemmas.Bits.concat_wf _ _) _ _ pc2_eq,
    bools_concat _ _ hW1,
    bools_rotIdiom _ (WF_sliceFast _ _ _) _ (by simpa using hc), bools_rotIdiom _ (WF_sliceFast _ _ _) _ (by simpa using hc),
    bools_sliceFast _ _ _ (by omega), bools_sliceFast _ _ _ (by omega)]
  have hl : (bools k).length = 56 := by simp [hk]
  simp only [List.drop_zero, Nat.sub_zero, Spec.Des.rotl]
  have : List.take (56 - 28) (List.drop 28 (bools k)) = List.drop 28 (bools k) :=
    List.take_of_length_le (by simp [hl])
  rw [this]

theorem bools_roundsP (k : Bits) (order : List Nat) (L R : Bits) (hL : Half L) (hR : Half R) :
    (bools (roundsP k order (L, R)).1, bools (roundsP k order (L, R)).2) =
      (order.map fun r => bools (subkeyP k r)).foldl Spec.Des.round (bools L, bools R) := by
  rw [List.foldl_map]
  refine (Lemmas.Fold.foldl_sim_inv (fun p : Bits × Bits => Half p.1 ∧ Half p.2) (fun p => (bools p.1, bools p.2)) _ _ order
    (fun r _ p hp => ⟨?_, hp.2, half_xor _ _ hp.1 (half_FP p.2 k r)⟩) ⟨hL, hR⟩).1.symm
  rw [Spec.Des.round, Spec.Des.xor, bools_xor _ _ (by rw [hp.1.1, size_FP]), bools_FP p.2 k r hp.2.2]

theorem subkeys_eq (k : Bits) (hk : k.size = 56) :
    (List.range 16).map (fun r => bools (subkeyP k r)) =
      Spec.Des.ksFrom Spec.Des.shifts ((bools k).take 28) ((bools k).drop 28) := by
  have hl : (bools k).length = 56 := by simp [hk]
  rw [Spec.Des.ksFrom_eq _ _ _ (by simp [hl]) (by simp [hl]; decide)]
  exact List.map_congr_left fun r _ => by rw [bools_subkeyP k hk r, cumShift, shifts_eq]

theorem bools_cryptP (k : Bits) (order : List Nat) (Mb : Bits) (hM : Mb.WF) :
    bools (cryptP k order Mb) = Spec.Des.cryptBits (order.map fun r => bools (subkeyP k r)) (bools Mb) := by
  obtain ⟨hL0, hR0⟩ := half_slices (Mb.pick Gen.Des.ip)
  obtain ⟨hL', hR'⟩ := half_roundsP k order _ _ hL0 hR0
  have hb := bools_roundsP k order _ _ hL0 hR0
  rw [bools_sliceFast _ _ _ (by simp [len_ip]), bools_sliceFast _ _ _ (by simp [len_ip]),
    bools_pick_spec _ hM _ _ ip_eq, List.drop_zero, Nat.sub_zero,
    List.take_of_length_le (l := List.drop 32 _) (by simp [Spec.Des.length_permute, Spec.Des.IP])] at hb
  rw [cryptP, bools_pick_spec _ (Lemmas.Bits.concat_wf _ _) _ _ ipinv_eq, bools_concat _ _ hR'.2, Spec.Des.cryptBits, ← hb]

/-- the model's result as an Option (every exception = "not defined") -/
def res {α} (x : Except Err α) : Option α := x.toOption

theorem keySchedule_eq (K : List Nat) (hKb : IsBytes K) :
    (List.range 16).map (fun r => bools (subkeyP (PC1 (ofByteStr K)) r)) = Spec.Des.keySchedule (Spec.Des.bytesToBits K) := by
  rw [subkeys_eq _ (size_PC1 _), PC1, bools_pick_spec _ (WF_ofByteStr K hKb) _ _ pc1_eq, bools_ofByteStr K hKb]
  rfl

theorem crypt_res (K M : List Nat) (hKb : IsBytes K) (hMb : IsBytes M) (order : List Nat) (ks : List Spec.Des.Bitstr)
    (hks : (order.map fun r => bools (subkeyP (PC1 (ofByteStr K)) r)) = ks) :
    res (DES.new K >>= fun d => d.crypt order M) =
      if K.length = 8 ∧ M.length = 8 then
        some (Spec.Des.bitsToBytes (Spec.Des.cryptBits ks (Spec.Des.bytesToBits M)))
      else none := by
  rw [new_crypt_eq]
  split
  · next h =>
    rw [setSize_ofByteStr K hKb 64 (by omega), res, Except.toOption, toBytes_eq _ 8 (size_cryptP _ _ _),
      bools_cryptP _ order _ (WF_ofByteStr M hMb), bools_ofByteStr M hMb, hks]
  · rfl

theorem enc_refines (K M : List Nat) (hKb : IsBytes K) (hMb : IsBytes M) : res (enc K M) = Spec.Des.enc K M :=
  crypt_res K M hKb hMb encOrder _ (keySchedule_eq K hKb)

theorem dec_refines (K M : List Nat) (hKb : IsBytes K) (hMb : IsBytes M) : res (dec K M) = Spec.Des.dec K M :=
  crypt_res K M hKb hMb decOrder _ (by rw [decOrder, List.map_reverse, keySchedule_eq K hKb])

end Model.Des
