/-
  Key schedule of Model.Serpent refines Spec.Serpent: padding, prekey recurrence, round keys.
-/
import Proofs.Lemmas.SerpentComp
namespace Proofs.Lemmas.SerpentKS
open Model Model.Bits Proofs.Lemmas.SerpentBits Proofs.Lemmas.SerpentComp Proofs.Lemmas.SerpentSpec Spec.Serpent
open Proofs.Lemmas.Fold (bind_eq_of_ok)

theorem keyWords_eq (v sz : Nat) :
    Model.Serpent.keyWords ⟨v, sz⟩ = ((List.range 8).map fun j => (v >>> (32 * j)) % 2 ^ 32).map W := by
  show [Bits.sliceFast _ 0 (0 + 32), Bits.sliceFast _ 32 (32 + 32), Bits.sliceFast _ 64 (64 + 32),
    Bits.sliceFast _ 96 (96 + 32), Bits.sliceFast _ 128 (128 + 32), Bits.sliceFast _ 160 (160 + 32),
    Bits.sliceFast _ 192 (192 + 32), Bits.sliceFast _ 224 (224 + 32)] = _
  simp only [Bits.sliceFast_eq]
  rfl

theorem phi_eq : Model.Serpent.phi = W Spec.Serpent.phi := by decide

theorem back_map (l : List Nat) (k : Nat) (hk : 0 < k) (hl : k ≤ l.length) :
    Model.Serpent.back (l.map W) k = .ok (W (l.getD (l.length - k) 0)) := by
  unfold Model.Serpent.back
  have h1 : ¬ (k = 0 ∨ k > (l.map W).length) := by simp; omega
  simp only [h1, if_false]
  have h2 : l.length - k < l.length := by omega
  simp [List.getElem?_map, List.getElem?_eq_getElem h2, List.getD_eq_getElem?_getD]

theorem W_xor_int (a i : Nat) (hi : i < 2 ^ 32) : (W a).xor (Bits.ofNat i) = W (a ^^^ i) :=
  congrArg (Bits.mk _) (Bits.wsize_ofNat (W a) hi)

theorem prekeyStep_eq (l : List Nat) (i : Nat) (hl : 8 ≤ l.length) (hi : i < 2 ^ 32) :
    Model.Serpent.prekeyStep (l.map W) i = .ok ((l ++ [prekeyNext l i]).map W) := by
  unfold Model.Serpent.prekeyStep
  have o0 : Model.Serpent.off 0 = 8 := by decide
  have o1 : Model.Serpent.off 1 = 5 := by decide
  have o2 : Model.Serpent.off 2 = 3 := by decide
  have o3 : Model.Serpent.off 3 = 1 := by decide
  have hr : Model.Gen.Serpent.prekeyRot = 11 := by decide
  rw [o0, o1, o2, o3, hr, bind_eq_of_ok (back_map l 8 (by decide) hl), bind_eq_of_ok (back_map l 5 (by decide) (by omega)),
    bind_eq_of_ok (back_map l 3 (by decide) (by omega)), bind_eq_of_ok (back_map l 1 (by decide) (by omega)), phi_eq]
  simp only [W_xor, W_xor_int _ _ hi]
  rw [rol_bind _ 11 (by decide)]
  simp [prekeyNext]
  rfl

theorem prekeyLoop_eq (is : List Nat) (l : List Nat) (hl : 8 ≤ l.length) (hi : ∀ i ∈ is, i < 2 ^ 32) :
    Model.Serpent.prekeyLoop is (l.map W) = .ok ((is.foldl (fun w i => w ++ [prekeyNext w i]) l).map W) := by
  induction is generalizing l with
  | nil => rfl
  | cons i is ih =>
    unfold Model.Serpent.prekeyLoop
    rw [prekeyStep_eq l i hl (hi i List.mem_cons_self)]
    exact ih (l ++ [prekeyNext l i]) (by simp; omega) (fun j hj => hi j (List.mem_cons_of_mem _ hj))

theorem prekeys_words (K256 : Nat) : (prekeys K256).length = 140 ∧ ∀ x ∈ prekeys K256, x < 2 ^ 32 :=
  Fold.foldl_range_rel (fun n (w : List Nat) (_ : Unit) => w.length = 8 + n ∧ ∀ x ∈ w, x < 2 ^ 32)
    (fun w i => w ++ [prekeyNext w i]) (fun u _ => u) 132 _ ()
    ⟨by simp, fun x hx => by
      obtain ⟨j, _, rfl⟩ := List.mem_map.1 hx
      exact Nat.mod_lt _ (Nat.two_pow_pos _)⟩
    fun i _ w _ h => ⟨by rw [List.length_append, h.1, List.length_singleton, Nat.add_assoc], fun x hx => by
      rcases List.mem_append.1 hx with hx | hx
      · exact h.2 x hx
      · rw [List.mem_singleton.1 hx]
        exact rotl_lt _ _⟩

/-- the prekey recurrence on the reversed list (newest first): its four taps are at fixed positions -/
def prekeyNextR (r : List Nat) (i : Nat) : Nat :=
  rotl (r.getD 7 0 ^^^ r.getD 4 0 ^^^ r.getD 2 0 ^^^ r.getD 0 0 ^^^ phi ^^^ i) 11

theorem prekeyNext_reverse (w : List Nat) (i : Nat) (hw : 8 ≤ w.length) : prekeyNext w i = prekeyNextR w.reverse i := by
  have h : ∀ j < 8, w.reverse.getD j 0 = w.getD (w.length - (j + 1)) 0 := fun j hj => by
    rw [List.getD_eq_getElem?_getD, List.getD_eq_getElem?_getD, List.getElem?_reverse (by omega), Nat.sub_sub, Nat.add_comm]
  simp only [prekeyNext, prekeyNextR, h 7 (by decide), h 4 (by decide), h 2 (by decide), h 0 (by decide)]

/-- The same list built newest-first and reversed at the end.  Appending at the end and indexing from the end, as
    `prekeys` is written, makes kernel evaluation re-walk the nested appends for every tap. -/
theorem prekeys_eq (K256 : Nat) : prekeys K256 =
    ((List.range 132).foldl (fun r i => prekeyNextR r i :: r)
      ((List.range 8).map fun j => (K256 >>> (32 * j)) % 2 ^ 32).reverse).reverse := by
  rw [(Fold.foldl_sim_inv (fun w : List Nat => 8 ≤ w.length) List.reverse (fun r i => prekeyNextR r i :: r)
    (fun w i => w ++ [prekeyNext w i]) (List.range 132)
    (fun i _ w hw => ⟨by rw [List.reverse_append, ← prekeyNext_reverse w i hw]; rfl, by rw [List.length_append]; omega⟩)
    (b := (List.range 8).map fun j => (K256 >>> (32 * j)) % 2 ^ 32) (by simp)).1, List.reverse_reverse]
  rfl

def ksStates (w : List Nat) : List Int → Nat → List State
  | [], _ => []
  | r :: rs, k =>
    applyBox (sbox (Py.floorMod r 8).toNat) ⟨w.getD k 0, w.getD (k + 1) 0, w.getD (k + 2) 0, w.getD (k + 3) 0⟩
      :: ksStates w rs (k + 4)

theorem take4 (w : List Nat) (k : Nat) (hk : k + 4 ≤ w.length) :
    ((w.map W).drop k).take 4 = [W (w.getD k 0), W (w.getD (k + 1) 0), W (w.getD (k + 2) 0), W (w.getD (k + 3) 0)] := by
  rw [Fold.drop_take_map, ← Fold.map_getD_range _ 0 4 (by rw [List.length_drop]; omega)]
  simp only [Fold.getD_drop]
  rfl

theorem keyschedGo_eq (w : List Nat) (hw : ∀ x ∈ w, x < 2 ^ 32) (rs : List Int) (k : Nat)
    (hr : ∀ r ∈ rs, 0 ≤ r) (hk : k + 4 * rs.length ≤ w.length) :
    Model.Serpent.keyschedGo (w.map W) rs k = .ok ((ksStates w rs k).map B) := by
  induction rs generalizing k with
  | nil => rfl
  | cons r rs ih =>
    have hlen : k + 4 ≤ w.length := by simp at hk; omega
    have hr0 : 0 ≤ r := hr r List.mem_cons_self
    have hidx : (Py.floorMod r 8).toNat < 8 := by
      unfold Py.floorMod
      have h1 : Int.fmod r 8 < 8 := Int.fmod_lt_of_pos _ (by decide)
      have h2 : 0 ≤ Int.fmod r 8 := Int.fmod_nonneg hr0 (by decide)
      omega
    unfold Model.Serpent.keyschedGo
    have hg : ∀ j, w.getD j 0 < 2 ^ 32 := Fold.getD_of_forall (P := (· < 2 ^ 32)) (Nat.two_pow_pos _) hw
    have hs : WS ⟨w.getD k 0, w.getD (k + 1) 0, w.getD (k + 2) 0, w.getD (k + 3) 0⟩ := ⟨hg _, hg _, hg _, hg _⟩
    rw [take4 w k hlen, bind_eq_of_ok (concat_words _ hs), bind_eq_of_ok ((S_eq _ hidx).of_ws _ hs),
      bind_eq_of_ok (ih (k + 4) (fun r' h => hr r' (List.mem_cons_of_mem _ h)) (by simp at hk; omega))]
    rfl

/-- `w` is the prekey list with the 8 key words in front (`w[i + 8]` = w_i, i = -8..131, so 140 entries); `_keysched`
    starts at index 8 and takes four words for each `r` of `range(35,2,-1)`: 33 round keys out of 8 + 4·33 = 140 -/
theorem keysched_eq (w : List Nat) (hw : ∀ x ∈ w, x < 2 ^ 32) (hl : 140 ≤ w.length) :
    Model.Serpent.keysched (w.map W) = .ok (((List.range 33).map (roundKey w)).map B) := by
  have hk : ksStates w Model.Serpent.keyschedRs 8 = (List.range 33).map (roundKey w) := rfl
  have hn : Model.Serpent.keyschedRs.length = 33 := rfl
  unfold Model.Serpent.keysched
  rw [bind_eq_of_ok (keyschedGo_eq w hw _ 8 (by decide) (by omega)), hk]
  simp
  rfl

theorem padKey_eq (K : Bits) (hs : K.size ≤ 256) (hwf : K.WF) :
    Model.Serpent.padKey K = .ok ⟨Spec.Serpent.padKey K.size K.ival, 256⟩ := by
  unfold Model.Serpent.padKey Spec.Serpent.padKey
  have h1 : ¬ K.size > 256 := by omega
  simp only [h1, if_false]
  congr 1
  unfold WF at hwf
  by_cases h : K.size < 256
  · simp only [h, if_true, Bits.concat, ofNatSz, setSize]
    congr 1
    have e1 : (1 % 2 ^ 1) <<< K.size = 2 ^ K.size * 1 := by
      rw [Nat.shiftLeft_eq]; simp
    rw [e1, Nat.or_comm, ← Nat.two_pow_add_eq_or_of_lt hwf 1, Nat.mul_one, Nat.mod_eq_of_lt hwf]
    have e2 : 2 ^ K.size + K.ival < 2 ^ (K.size + 1) := by rw [Nat.pow_succ]; omega
    have e3 : 2 ^ (K.size + 1) ≤ 2 ^ 256 := Nat.pow_le_pow_right (by decide) (by omega)
    rw [Nat.mod_eq_of_lt e2, Nat.mod_eq_of_lt (Nat.lt_of_lt_of_le e2 e3)]
    omega
  · simp only [h, if_false, setSize]

theorem prekeyLoop_prekeys (K256 : Nat) :
    Model.Serpent.prekeyLoop (List.range Model.Serpent.prekeyCount) (Model.Serpent.keyWords ⟨K256, 256⟩) =
      .ok ((prekeys K256).map W) := by
  have hn : Model.Serpent.prekeyCount = 132 := by decide
  rw [hn, keyWords_eq, prekeyLoop_eq _ _ (by simp) (by intro i hi; rw [List.mem_range] at hi; omega)]
  rfl

theorem init_eq (K : Bits) (hs : K.size ≤ 256) (hwf : K.WF) :
    Model.Serpent.init K = .ok ⟨(roundKeys K.size K.ival).map B⟩ := by
  unfold Model.Serpent.init
  rw [bind_eq_of_ok (padKey_eq K hs hwf), bind_eq_of_ok (prekeyLoop_prekeys _),
    bind_eq_of_ok (keysched_eq _ (prekeys_words _).2 (Nat.le_of_eq (prekeys_words _).1.symm))]
  rfl

end Proofs.Lemmas.SerpentKS
