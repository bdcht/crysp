/- general facts about lists and loops: folds whose states stay related (simulation, invariant, congruence), loops of
   fallible steps, lists made of equal pieces and the arithmetic of their indices, lists of known length written out,
   `getD`, numbers spelt by lists of bits.  The file imports nothing. -/
namespace Proofs.Lemmas.Fold

/-! ### two folds over one list
  One induction, `foldl_index_rel` (a relation between the two states that may mention the position); the rest are its
  instances.  Two folds in step: `foldl_rel`.  One fold and an invariant: `foldl_inv`.  One fold is the image of the other
  under a map `φ`: `foldl_sim`; the same where the steps commute only on a domain `P` that the second fold keeps:
  `foldl_sim_inv`.  A loop over `range n` whose invariant mentions the counter: `foldl_range_rel`, `foldl_range_inv`; the
  state after k steps in closed form: `foldl_index`.  Each step writes its own cell: `loop_writes`, `getD_foldl_set` below.
  A statement about ONE fold is the two-fold statement with `Unit` as the second state, stepped by `fun u _ => u`: hence
  `(_ : Unit)` and `(b := ())` in the proofs of the `_inv` forms and of `foldl_index`. -/

theorem foldl_index_rel {α β ι : Type _} (R : Nat → α → β → Prop) (f : α → ι → α) (g : β → ι → β) (l : List ι)
    (h : ∀ k (hk : k < l.length) a b, R k a b → R (k + 1) (f a l[k]) (g b l[k])) {a : α} {b : β} (h0 : R 0 a b) :
    R l.length (l.foldl f a) (l.foldl g b) := by
  induction l generalizing R a b with
  | nil => exact h0
  | cons x xs ih =>
    exact ih (fun k => R (k + 1)) (fun k hk => h (k + 1) (Nat.succ_lt_succ hk)) (h 0 (Nat.zero_lt_succ _) a b h0)

theorem foldl_rel {α β ι : Type _} (R : α → β → Prop) (f : α → ι → α) (g : β → ι → β) (l : List ι)
    (h : ∀ i ∈ l, ∀ a b, R a b → R (f a i) (g b i)) {a : α} {b : β} (h0 : R a b) : R (l.foldl f a) (l.foldl g b) :=
  foldl_index_rel (fun _ => R) f g l (fun k hk => h l[k] (List.getElem_mem hk)) h0

theorem foldl_inv {α ι : Type _} (P : α → Prop) (f : α → ι → α) (l : List ι) (h : ∀ i ∈ l, ∀ a, P a → P (f a i)) {a : α}
    (h0 : P a) : P (l.foldl f a) :=
  foldl_rel (fun a (_ : Unit) => P a) f (fun u _ => u) l (fun i hi a _ => h i hi a) (b := ()) h0

theorem foldl_sim {α β ι : Type} (φ : β → α) (f : α → ι → α) (g : β → ι → β) (l : List ι)
    (h : ∀ i ∈ l, ∀ b, f (φ b) i = φ (g b i)) (b : β) : l.foldl f (φ b) = φ (l.foldl g b) :=
  foldl_rel (fun a b => a = φ b) f g l (fun i hi _ b hab => by rw [hab, h i hi]) rfl

theorem foldl_sim_inv {α β ι : Type _} (P : β → Prop) (φ : β → α) (f : α → ι → α) (g : β → ι → β) (l : List ι)
    (h : ∀ i ∈ l, ∀ b, P b → f (φ b) i = φ (g b i) ∧ P (g b i)) {b : β} (h0 : P b) :
    l.foldl f (φ b) = φ (l.foldl g b) ∧ P (l.foldl g b) :=
  foldl_rel (fun a b => a = φ b ∧ P b) f g l (fun i hi _ b hab => by
    rw [hab.1]
    exact h i hi b hab.2) ⟨rfl, h0⟩

theorem foldl_range_rel {α β : Type _} (R : Nat → α → β → Prop) (f : α → Nat → α) (g : β → Nat → β) (n : Nat)
    (a : α) (b : β) (h0 : R 0 a b)
    (hs : ∀ i, i < n → ∀ a b, R i a b → R (i + 1) (f a i) (g b i)) :
    R n ((List.range n).foldl f a) ((List.range n).foldl g b) := by
  have h := foldl_index_rel R f g (List.range n) (fun k hk a b => by
    rw [List.getElem_range]
    exact hs k (by simpa using hk) a b) h0
  rwa [List.length_range] at h

theorem foldl_range_inv {α : Type _} (P : Nat → α → Prop) (f : α → Nat → α) (n : Nat) (a : α)
    (h0 : P 0 a) (hs : ∀ i, i < n → ∀ a, P i a → P (i + 1) (f a i)) : P n ((List.range n).foldl f a) :=
  foldl_range_rel (fun i a (_ : Unit) => P i a) f (fun u _ => u) n a () h0 fun i hi a _ => hs i hi a

theorem foldl_index {α σ : Type _} (f : σ → α → σ) (S : Nat → σ) (l : List α)
    (h : ∀ k (hk : k < l.length), f (S k) l[k] = S (k + 1)) : l.foldl f (S 0) = S l.length :=
  foldl_index_rel (fun k s (_ : Unit) => s = S k) f (fun u _ => u) l (fun k hk _ _ e => e ▸ h k hk) (b := ()) rfl

theorem foldl_shift {α ι : Type} (g : α → α) (h : α → ι → α) (rs : List ι) (x : α) :
    g (rs.foldl (fun s r => h (g s) r) x) = rs.foldl (fun s r => g (h s r)) (g x) :=
  (foldl_sim g _ _ rs (fun _ _ _ => rfl) x).symm

theorem foldl_congr_mem {α β} {f g : β → α → β} {l : List α} (h : ∀ a ∈ l, ∀ b, f b a = g b a) (b : β) :
    l.foldl f b = l.foldl g b :=
  foldl_rel (fun x y => x = y) f g l (fun a ha x y hab => by rw [hab, h a ha y]) rfl

/-- a running best (`best = better(best, i)`) is at least as good as every item scanned: the least successor of
    Lemmas/NextpermOrderL, the best table entry of Lemmas/DynprogL -/
theorem foldl_dominates {α ι : Type _} (D : α → ι → Prop) (f : α → ι → α) (hest : ∀ a i, D (f a i) i)
    (hpres : ∀ a i j, D a j → D (f a i) j) (l : List ι) (a : α) : ∀ j ∈ l, D (l.foldl f a) j := by
  induction l generalizing a with
  | nil => exact fun _ h => nomatch h
  | cons x xs ih =>
    intro j hj
    rcases List.mem_cons.1 hj with rfl | hj
    · exact foldl_inv (D · j) f xs (fun i _ s hs => hpres s i j hs) (hest a j)
    · exact ih (f a x) j hj

/-! ### loops of fallible steps -/

theorem ok_bind {ε α β} (a : α) (f : α → Except ε β) : (Except.ok a >>= f) = f a := rfl

theorem bind_eq_of_ok {ε α β} {x : Except ε α} {a : α} (h : x = .ok a) (f : α → Except ε β) : (x >>= f) = f a :=
  h ▸ rfl

theorem bind_eq_ok {ε α β} {x : Except ε α} {f : α → Except ε β} {r : β} (h : (x >>= f) = .ok r) :
    ∃ y, x = .ok y ∧ f y = .ok r := by
  cases x with
  | error m => cases h
  | ok y => exact ⟨y, rfl, h⟩

theorem toOption_eq_some {ε α} {x : Except ε α} {a : α} : x.toOption = some a ↔ x = .ok a := by
  cases x with
  | error e => exact ⟨nofun, nofun⟩
  | ok b => exact ⟨fun h => congrArg Except.ok (Option.some.inj h), fun h => congrArg Except.toOption h⟩

theorem toOption_bind {ε α β} (x : Except ε α) (f : α → Except ε β) :
    (x >>= f).toOption = x.toOption.bind fun a => (f a).toOption := by
  cases x <;> rfl

theorem mapM_ok {ε α β} (f : α → Except ε β) (g : α → β) (l : List α) (h : ∀ x ∈ l, f x = .ok (g x)) :
    l.mapM f = .ok (l.map g) := by
  induction l with
  | nil => rfl
  | cons x xs ih =>
    rw [List.mapM_cons, h x List.mem_cons_self, ih fun y hy => h y (List.mem_cons_of_mem _ hy)]
    rfl

theorem mapM_err {ε α β} (f : α → Except ε β) :
    ∀ (l : List α), (∃ x ∈ l, ∃ m, f x = .error m) → ∃ m, l.mapM f = .error m
  | [], h => by obtain ⟨x, hx, _⟩ := h; cases hx
  | x :: xs, h => by
    rw [List.mapM_cons]
    cases hfx : f x with
    | error m => exact ⟨m, rfl⟩
    | ok v =>
      obtain ⟨y, hy, m, hm⟩ := h
      rcases List.mem_cons.mp hy with rfl | hy
      · rw [hfx] at hm
        cases hm
      · obtain ⟨m', hm'⟩ := mapM_err f xs ⟨y, hy, m, hm⟩
        exact ⟨m', by simp [hm', bind, Except.bind]⟩

theorem mapM_flatMap_ok {ε α β γ} {f : α → Except ε β} {g : β → List γ} {d : α → List γ} :
    ∀ (l : List α), (∀ x ∈ l, ∃ y, f x = .ok y ∧ g y = d x) → ∃ ys, l.mapM f = .ok ys ∧ ys.flatMap g = l.flatMap d
  | [], _ => ⟨[], rfl, rfl⟩
  | x :: xs, h => by
    obtain ⟨y, hy, hg⟩ := h x List.mem_cons_self
    obtain ⟨ys, hys, hfl⟩ := mapM_flatMap_ok xs (fun z hz => h z (List.mem_cons_of_mem _ hz))
    refine ⟨y :: ys, ?_, ?_⟩
    · rw [List.mapM_cons, hy, hys]
      rfl
    · rw [List.flatMap_cons, List.flatMap_cons, hg, hfl]

/-! ### loops in which each step writes its own cell -/

/-- `for n in ns: s = step(s, n)` where step `n` stores `val n i` at the positions `i` of its field (`fld i = n`) and
    leaves the others.  `loop` is the model's recursion; the hypothesis about a step also unfolds it once.  No field is
    written twice, so a step may rely on finding its own field as it was in `s0` (a T-box reads the byte it overwrites). -/
theorem loop_writes {σ ε ι κ β : Type} [DecidableEq ι] (loop : List ι → σ → Except ε σ) (hnil : ∀ s, loop [] s = .ok s)
    (P : σ → Prop) (rd : σ → κ → β) (fld : κ → ι) (val : ι → κ → β) (s0 : σ) :
    ∀ ns : List ι, ns.Nodup →
      (∀ n ∈ ns, ∀ s, P s → (∀ i, fld i = n → rd s i = rd s0 i) →
        ∃ s', (∀ rest, loop (n :: rest) s = loop rest s') ∧ P s' ∧
          ∀ i, rd s' i = if fld i = n then val n i else rd s i) →
      ∀ s, P s → (∀ i, fld i ∈ ns → rd s i = rd s0 i) →
        ∃ s', loop ns s = .ok s' ∧ P s' ∧ ∀ i, rd s' i = if fld i ∈ ns then val (fld i) i else rd s i
  | [], _, _, s, hs, _ => ⟨s, hnil s, hs, fun i => by simp⟩
  | n :: ns, hnd, hstep, s, hs, h0 => by
    have hnd' := List.nodup_cons.mp hnd
    obtain ⟨s1, e1, p1, b1⟩ := hstep n List.mem_cons_self s hs fun i hi => h0 i (hi ▸ List.mem_cons_self)
    obtain ⟨s', e2, p2, b2⟩ := loop_writes loop hnil P rd fld val s0 ns hnd'.2
      (fun m hm => hstep m (List.mem_cons_of_mem _ hm)) s1 p1
      (fun i hi => by rw [b1, if_neg (fun c => hnd'.1 (by rw [← c]; exact hi))]; exact h0 i (List.mem_cons_of_mem _ hi))
    refine ⟨s', (e1 ns).trans e2, p2, fun i => ?_⟩
    rw [b2, b1]
    by_cases c : fld i = n
    · rw [c, if_neg hnd'.1, if_pos rfl, if_pos List.mem_cons_self]
    · simp [c]

/-- the pure form, on a list of cells: `for p in ps: A[dst p] = g(A[dst p], p)` with distinct destinations (Keccak's
    loops over the 25 lanes, Lemmas/KeccakLane); cell `i` is rewritten by the one `p` with `dst p = i`, if there is one -/
theorem getD_foldl_set {α β} (dst : α → Nat) (g : β → α → β) (d : β) : ∀ (ps : List α) (A : List β) (i : Nat),
    (ps.map dst).Nodup → i < A.length →
    (ps.foldl (fun A p => A.set (dst p) (g (A.getD (dst p) d) p)) A).getD i d
      = ((ps.find? fun p => dst p == i).map (g (A.getD i d))).getD (A.getD i d) := by
  intro ps
  induction ps with
  | nil => intro A i _ _; rfl
  | cons p ps ih =>
    intro A i hnd hi
    rw [List.map_cons, List.nodup_cons] at hnd
    rw [List.foldl_cons, ih _ i hnd.2 (by rw [List.length_set]; exact hi), List.find?_cons]
    by_cases hp : dst p = i
    · have hnone : (ps.find? fun q => dst q == i) = none := by
        rw [List.find?_eq_none]
        intro q hq hqi
        exact hnd.1 (List.mem_map.mpr ⟨q, hq, by rw [hp]; simpa using hqi⟩)
      subst hp
      simp [hnone, List.getD_eq_getElem?_getD, hi]
    · have hne : (dst p == i) = false := by simpa using hp
      simp [hne, List.getD_eq_getElem?_getD, List.getElem?_set_ne hp]

/-! ### lists made of pieces, lists over a range -/

theorem flatMap_congr_mem {α β} {l : List α} {f g : α → List β} (h : ∀ x ∈ l, f x = g x) : l.flatMap f = l.flatMap g := by
  rw [List.flatMap_def, List.flatMap_def, List.map_congr_left h]

theorem length_flatMap_const {α β} (f : α → List β) (n : Nat) (l : List α) (h : ∀ x ∈ l, (f x).length = n) :
    (l.flatMap f).length = l.length * n := by
  induction l with
  | nil => simp
  | cons x xs ih =>
    rw [List.flatMap_cons, List.length_append, h x List.mem_cons_self, ih fun y hy => h y (List.mem_cons_of_mem _ hy),
      List.length_cons, Nat.succ_mul, Nat.add_comm]

theorem getElem?_flatMap_uniform {α β} (f : α → List β) (w : Nat) (hw : 0 < w) (l : List α)
    (h : ∀ x ∈ l, (f x).length = w) (j : Nat) :
    (l.flatMap f)[j]? = (l[j / w]?).bind fun x => (f x)[j % w]? := by
  induction l generalizing j with
  | nil => simp
  | cons x xs ih =>
    have hx := h x List.mem_cons_self
    rw [List.flatMap_cons, List.getElem?_append]
    by_cases hj : j < w
    · simp [hx, hj, Nat.div_eq_of_lt hj, Nat.mod_eq_of_lt hj]
    · have e : j = (j - w) + w := by omega
      rw [hx, if_neg hj, ih (fun y hy => h y (List.mem_cons_of_mem _ hy)), e, Nat.add_div_right _ hw, Nat.add_mod_right]
      simp

theorem pairs_length {α} (a b : Nat → α) (n : Nat) : ((List.range n).flatMap fun j => [a j, b j]).length = 2 * n := by
  rw [length_flatMap_const _ 2 _ (fun _ _ => rfl), List.length_range, Nat.mul_comm]

theorem pairs_getD {α} (a b : Nat → α) (d : α) (n j : Nat) (hj : j < n) :
    ((List.range n).flatMap fun j => [a j, b j]).getD (2 * j) d = a j ∧
    ((List.range n).flatMap fun j => [a j, b j]).getD (2 * j + 1) d = b j := by
  have e := getElem?_flatMap_uniform (fun j => [a j, b j]) 2 (by decide) (List.range n) (fun _ _ => rfl)
  rw [List.getD_eq_getElem?_getD, List.getD_eq_getElem?_getD, e, e, show 2 * j / 2 = j by omega,
    show (2 * j + 1) / 2 = j by omega, Nat.mul_mod_right, Nat.mul_add_mod, List.getElem?_range hj]
  exact ⟨rfl, rfl⟩

theorem unpairs {α} (d : α) (n : Nat) (e : List α) (h : e.length = 2 * n) :
    ((List.range n).flatMap fun j => [e.getD (2 * j) d, e.getD (2 * j + 1) d]) = e := by
  induction n generalizing e with
  | zero => simp at h; simp [h]
  | succ n ih =>
    match e, h with
    | x :: y :: rest, h =>
      rw [List.range_succ_eq_map, List.flatMap_cons, List.flatMap_map]
      simp only [Nat.mul_zero, List.getD_cons_zero, Nat.zero_add, List.getD_cons_succ, Nat.succ_eq_add_one,
        Nat.mul_add, Nat.mul_one, List.cons_append, List.nil_append]
      have : rest.length = 2 * n := by simp at h; omega
      rw [ih rest this]

theorem flatten_length_mod {α} (bl : Nat) (pieces : List (List α)) (hal : ∀ P ∈ pieces, P.length % bl = 0) :
    pieces.flatten.length % bl = 0 := by
  induction pieces with
  | nil => rfl
  | cons P ps ih =>
    rw [List.flatten_cons, List.length_append, Nat.add_mod, hal P (by simp), ih fun Q hQ => hal Q (by simp [hQ])]
    rfl

theorem pieces_succ {α} (k N : Nat) (l : List α) :
    (List.range (N + 1)).map (fun j => (l.drop (j * k)).take k)
      = l.take k :: (List.range N).map fun j => ((l.drop k).drop (j * k)).take k := by
  rw [List.range_succ_eq_map, List.map_cons, List.map_map, Nat.zero_mul, List.drop_zero]
  refine congrArg _ (List.map_congr_left fun j _ => ?_)
  rw [Function.comp, List.drop_drop, Nat.succ_mul, Nat.add_comm]

theorem pieces_flatten {α} (k : Nat) (bs : List (List α)) (h : ∀ b ∈ bs, b.length = k) :
    (List.range bs.length).map (fun j => (bs.flatten.drop (j * k)).take k) = bs := by
  induction bs with
  | nil => rfl
  | cons b bs ih =>
    have hb := h b List.mem_cons_self
    rw [List.length_cons, pieces_succ, List.flatten_cons, List.take_left' hb, List.drop_left' hb,
      ih fun x hx => h x (List.mem_cons_of_mem _ hx)]

theorem drop_induction {α} (k : Nat) (hk : 0 < k) {P : List α → Prop} (nil : P [])
    (step : ∀ l, l ≠ [] → P (l.drop k) → P l) (l : List α) : P l := by
  induction hn : l.length using Nat.strongRecOn generalizing l with
  | _ n ih =>
    by_cases hl : l = []
    · exact hl ▸ nil
    · have : l.length ≠ 0 := fun h => hl (List.eq_nil_of_length_eq_zero h)
      exact step l hl (ih (l.drop k).length (by simp only [List.length_drop]; omega) _ rfl)

theorem map_range_congr {α} {f g : Nat → α} {n : Nat} (h : ∀ i, i < n → f i = g i) :
    (List.range n).map f = (List.range n).map g :=
  List.map_congr_left fun i hi => h i (List.mem_range.1 hi)

theorem map_range_mul {α} (m k : Nat) (f : Nat → α) :
    (List.range (m * k)).map f = (List.range m).flatMap fun n => (List.range k).map fun j => f (k * n + j) := by
  induction m with
  | zero => simp
  | succ m ih =>
    rw [Nat.succ_mul, List.range_add, List.map_append, ih, List.range_succ, List.flatMap_append, List.map_map]
    simp [Function.comp_def, Nat.mul_comm]

theorem reverse_map_range {α} (n : Nat) (f : Nat → α) :
    ((List.range n).map f).reverse = (List.range n).map fun i => f (n - 1 - i) := by
  rw [← List.map_reverse, List.range_eq_range', List.reverse_range', List.map_map, ← List.range_eq_range']
  simp only [Nat.zero_add]
  rfl

theorem filter_le_range (k n : Nat) : (List.range n).filter (fun e => decide (k ≤ e)) = (List.range (n - k)).map (· + k) := by
  induction n with
  | zero => simp
  | succ n ih =>
    rw [List.range_succ, List.filter_append, ih]
    by_cases h : k ≤ n
    · rw [show n + 1 - k = (n - k) + 1 by omega, List.range_succ, List.map_append]
      simp [h]
    · simp [h, show n + 1 - k = n - k by omega]

/-! ### append, `zipWith`, sums, sorted lists -/

theorem mem_ite_reverse {α} {be : Bool} {l : List α} {p : α} : p ∈ (if be then l.reverse else l) ↔ p ∈ l := by
  cases be <;> simp

theorem drop_take_map {α β} (f : α → β) (l : List α) (i n : Nat) :
    ((l.map f).drop i).take n = ((l.drop i).take n).map f := by
  rw [← List.map_drop, ← List.map_take]

theorem drop_len_sub {α} (A t : List α) (p : Nat) (h : t.length = p) : (A ++ t).drop ((A ++ t).length - p) = t := by
  rw [List.length_append, h, Nat.add_sub_cancel, List.drop_left' rfl]

theorem take_len_sub {α} (A t : List α) (p : Nat) (h : t.length = p) : (A ++ t).take ((A ++ t).length - p) = A := by
  rw [List.length_append, h, Nat.add_sub_cancel, List.take_left' rfl]

theorem zipWith_append_right {α β γ} (f : α → β → γ) (B R : List β) (l : List α) :
    List.zipWith f l (B ++ R) = List.zipWith f (l.take B.length) B ++ List.zipWith f (l.drop B.length) R := by
  induction B generalizing l with
  | nil => simp
  | cons x B ih =>
    cases l with
    | nil => simp
    | cons a l => simp [ih]

theorem zipWith_cancel {α β} {f : α → β → α} (hf : ∀ a b, f (f a b) b = a) :
    ∀ (s : List α) (k : List β), s.length ≤ k.length → List.zipWith f (List.zipWith f s k) k = s
  | [], _, _ => by rw [List.zipWith_nil_left, List.zipWith_nil_left]
  | _ :: _, [], h => nomatch h
  | a :: s, b :: k, h => by
    rw [List.zipWith_cons_cons, List.zipWith_cons_cons, hf, zipWith_cancel hf s k (Nat.le_of_succ_le_succ h)]

theorem sum_take_le (l : List Nat) (n : Nat) : (l.take n).sum ≤ l.sum := by
  have h := congrArg List.sum (List.take_append_drop n l)
  rw [List.sum_append] at h
  omega

theorem sum_map_le {α} {f g : α → Nat} {l : List α} (h : ∀ x ∈ l, f x ≤ g x) :
    (l.map f).sum ≤ (l.map g).sum := by
  induction l with
  | nil => exact Nat.le_refl _
  | cons x xs ih =>
    rw [List.map_cons, List.map_cons, List.sum_cons, List.sum_cons]
    exact Nat.add_le_add (h x List.mem_cons_self) (ih fun y hy => h y (List.mem_cons_of_mem _ hy))

/-- the k-th smallest is `≤ x` iff more than k items are: how Lemmas/Tlsh reads a quartile off counts -/
theorem sorted_count_iff (s : List Nat) (hs : s.Pairwise (· ≤ ·)) (k : Nat) (hk : k < s.length) (x : Nat) :
    k < (s.filter (· ≤ x)).length ↔ s[k] ≤ x := by
  induction s generalizing k with
  | nil => simp at hk
  | cons a t ih =>
    have ha : ∀ y ∈ t, a ≤ y := fun y => List.rel_of_pairwise_cons hs
    by_cases hax : a ≤ x
    · rw [List.filter_cons_of_pos (by simpa using hax)]
      cases k with
      | zero => simpa using hax
      | succ k => simpa using ih (List.Pairwise.of_cons hs) k (by simpa using hk)
    · have hnil : t.filter (· ≤ x) = [] := by
        rw [List.filter_eq_nil_iff]
        intro y hy
        have := ha y hy
        simp
        omega
      rw [List.filter_cons_of_neg (by simpa using hax), hnil]
      cases k with
      | zero => simpa using hax
      | succ k =>
        have := ha _ (List.getElem_mem (by simpa using hk : k < t.length))
        simp
        omega

/-! ### Nat arithmetic: ⌈m/k⌉ (the number of pieces of k that cover m items), `w * i + z` with `z < w`, subtraction mod `M` -/

theorem ceilDiv_zero (k : Nat) (hk : 0 < k) : (0 + k - 1) / k = 0 := by
  rw [Nat.zero_add]; exact Nat.div_eq_of_lt (by omega)

theorem ceilDiv_step (k m : Nat) (hk : 0 < k) (hm : 0 < m) : (m + k - 1) / k = (m - k + k - 1) / k + 1 := by
  by_cases h : k ≤ m
  · rw [show m + k - 1 = (m - k + k - 1) + k by omega, Nat.add_div_right _ hk]
  · rw [show m - k = 0 by omega, ceilDiv_zero k hk]
    exact Nat.div_eq_of_lt_le (by omega) (by omega)

theorem ceilDiv_mul (k n : Nat) (hk : 0 < k) : (k * n + k - 1) / k = n := by
  rw [Nat.add_sub_assoc hk, Nat.mul_add_div hk, Nat.div_eq_of_lt (by omega), Nat.add_zero]

theorem le_blocks (m l : Nat) (hl : 0 < l) : m ≤ (m + l - 1) / l * l := by
  have h1 := Nat.div_add_mod (m + l - 1) l
  have h2 := Nat.mod_lt (m + l - 1) hl
  rw [Nat.mul_comm]
  generalize l * ((m + l - 1) / l) = q at *
  omega

theorem mul_add_div_lt {w z : Nat} (i : Nat) (hz : z < w) : (w * i + z) / w = i := by
  rw [Nat.mul_add_div (by omega), Nat.div_eq_of_lt hz]
  rfl

theorem mul_add_mod_lt {w z : Nat} (i : Nat) (hz : z < w) : (w * i + z) % w = z := by
  rw [Nat.mul_add_mod]
  exact Nat.mod_eq_of_lt hz

theorem mul_add_lt {w z i n : Nat} (hz : z < w) (hi : i < n) : w * i + z < w * n := by
  have : w * (i + 1) ≤ w * n := Nat.mul_le_mul_left w hi
  rw [Nat.mul_succ] at this
  omega

/-! `(a + (M − o % M)) % M` with `M = 2^w` is how `Model.Bits.sub` takes `a − o` at width `w` -/

theorem add_compl_mod {M : Nat} (hM : 0 < M) (a o : Nat) : a + (M - o % M) + o = a + M * (o / M + 1) := by
  have := Nat.div_add_mod o M
  have := Nat.mod_lt o hM
  rw [Nat.mul_add, Nat.mul_one]
  omega

theorem sub_mod_add_cancel {M : Nat} (hM : 0 < M) (a o : Nat) : ((a + (M - o % M)) % M + o) % M = a % M := by
  rw [Nat.mod_add_mod, add_compl_mod hM, Nat.add_mul_mod_self_left]

theorem sub_mod_int {M : Nat} (hM : 0 < M) (a o : Nat) :
    (((a + (M - o % M)) % M : Nat) : Int) = ((a : Int) - (o : Int)) % (M : Nat) := by
  have h := add_compl_mod hM a o
  have h1 : ((a + (M - o % M) : Nat) : Int) = (a : Int) - o + (M : Int) * ((o / M + 1 : Nat) : Int) := by
    rw [← Int.natCast_mul]
    omega
  rw [Int.natCast_emod, h1, Int.add_mul_emod_self_left]

/-! ### a list of known length, written out (length 1 is `List.length_eq_one_iff`) -/

theorem exists_cons_of_length {α} {l : List α} {n : Nat} (h : l.length = n + 1) : ∃ a t, l = a :: t ∧ t.length = n :=
  match l, h with
  | a :: t, h => ⟨a, t, rfl, Nat.succ.inj h⟩

theorem cons4_of_len {α} {k : Nat} (bs : List α) (h : bs.length = 4 * (k + 1)) :
    ∃ b0 b1 b2 b3 t, bs = b0 :: b1 :: b2 :: b3 :: t ∧ t.length = 4 * k := by
  obtain ⟨b0, t0, rfl, h0⟩ := exists_cons_of_length (l := bs) (n := 4 * k + 3) (by omega)
  obtain ⟨b1, t1, rfl, h1⟩ := exists_cons_of_length h0
  obtain ⟨b2, t2, rfl, h2⟩ := exists_cons_of_length h1
  obtain ⟨b3, t3, rfl, h3⟩ := exists_cons_of_length h2
  exact ⟨b0, b1, b2, b3, t3, rfl, h3⟩

theorem exists_of_length_2 {α} {l : List α} (h : l.length = 2) : ∃ a b, l = [a, b] :=
  match l, h with
  | [a, b], _ => ⟨a, b, rfl⟩

theorem exists_of_length_4 {α} {l : List α} (h : l.length = 4) : ∃ a b c d, l = [a, b, c, d] :=
  match l, h with
  | [a, b, c, d], _ => ⟨a, b, c, d, rfl⟩

theorem exists_of_length_8 {α} {l : List α} (h : l.length = 8) :
    ∃ a0 a1 a2 a3 a4 a5 a6 a7, l = [a0, a1, a2, a3, a4, a5, a6, a7] :=
  match l, h with
  | [a0, a1, a2, a3, a4, a5, a6, a7], _ => ⟨a0, a1, a2, a3, a4, a5, a6, a7, rfl⟩

theorem exists_of_length_16 {α} {l : List α} (h : l.length = 16) :
    ∃ a0 a1 a2 a3 a4 a5 a6 a7 a8 a9 a10 a11 a12 a13 a14 a15,
      l = [a0, a1, a2, a3, a4, a5, a6, a7, a8, a9, a10, a11, a12, a13, a14, a15] :=
  match l, h with
  | [a0, a1, a2, a3, a4, a5, a6, a7, a8, a9, a10, a11, a12, a13, a14, a15], _ =>
    ⟨a0, a1, a2, a3, a4, a5, a6, a7, a8, a9, a10, a11, a12, a13, a14, a15, rfl⟩

theorem forall16 {α} {P : List α → Prop}
    (h : ∀ y0 y1 y2 y3 y4 y5 y6 y7 y8 y9 y10 y11 y12 y13 y14 y15, P [y0, y1, y2, y3, y4, y5, y6, y7, y8, y9, y10, y11, y12, y13, y14, y15])
    (ws : List α) (h0 : ws.length = 16) : P ws := by
  obtain ⟨y0, y1, y2, y3, y4, y5, y6, y7, y8, y9, y10, y11, y12, y13, y14, y15, rfl⟩ := exists_of_length_16 h0
  exact h ..

/-! ### `getD` -/

theorem getD_map {α β} (f : α → β) (l : List α) (i : Nat) (d : α) : (l.map f).getD i (f d) = f (l.getD i d) := by
  simp only [List.getD_eq_getElem?_getD, List.getElem?_map]
  cases l[i]? <;> rfl

theorem getD_map_lt {α β} (f : α → β) (l : List α) (i : Nat) (d : β) (d' : α) (h : i < l.length) :
    (l.map f).getD i d = f (l.getD i d') := by
  simp [List.getD_eq_getElem?_getD, h]

theorem getD_map_range {β} (f : Nat → β) (n i : Nat) (d : β) (h : i < n) : ((List.range n).map f).getD i d = f i := by
  rw [getD_map_lt f _ i d 0 (by rwa [List.length_range]), List.getD_eq_getElem?_getD, List.getElem?_range h]
  rfl

theorem map_getD_range {α} (l : List α) (d : α) (n : Nat) (h : n ≤ l.length) :
    (List.range n).map (fun i => l.getD i d) = l.take n := by
  apply List.ext_getElem
  · simp [Nat.min_eq_left h]
  · intro i h1 h2
    have : i < l.length := Nat.lt_of_lt_of_le (by simpa using h1) h
    simp [List.getD_eq_getElem?_getD, this]

theorem getD_of_forall {α} {P : α → Prop} {l : List α} {d : α} (hd : P d) (h : ∀ x ∈ l, P x) (i : Nat) : P (l.getD i d) := by
  rw [List.getD_eq_getElem?_getD]
  cases hi : l[i]? with
  | none => exact hd
  | some x => exact h x (List.mem_of_getElem? hi)

theorem getD_mem {α} {l : List α} {j : Nat} (d : α) (h : j < l.length) : l.getD j d ∈ l := by
  rw [List.getD_eq_getElem?_getD, List.getElem?_eq_getElem h]
  exact List.getElem_mem h

theorem toArray_getD {α} (l : List α) (i : Nat) (d : α) : l.toArray.getD i d = l.getD i d := by
  rw [Array.getD_eq_getD_getElem?, List.getElem?_toArray, List.getD_eq_getElem?_getD]

theorem getD_take {α} (l : List α) (n i : Nat) (d : α) (h : i < n) : (l.take n).getD i d = l.getD i d := by
  simp [List.getD_eq_getElem?_getD, h]

theorem getD_take_succ {α} (l : List α) (n k : Nat) (d : α) :
    (l.take (n + 1)).getD k d = if k = n then l.getD n d else (l.take n).getD k d := by
  simp only [List.getD_eq_getElem?_getD, List.getElem?_take]
  by_cases h : k = n
  · subst h; simp
  · by_cases h' : k < n
    · simp [h, h', show k < n + 1 by omega]
    · simp [h, h', show ¬ k < n + 1 by omega]

theorem getD_drop {α} (l : List α) (n i : Nat) (d : α) : (l.drop n).getD i d = l.getD (n + i) d := by
  simp only [List.getD_eq_getElem?_getD, List.getElem?_drop]

theorem getD_append_replicate {α} (l : List α) (n i : Nat) (d : α) :
    (l ++ List.replicate n d).getD i d = l.getD i d := by
  simp only [List.getD_eq_getElem?_getD, List.getElem?_append]
  split
  · rfl
  · rename_i h
    rw [List.getElem?_eq_none (Nat.le_of_not_lt h), List.getElem?_replicate]
    split <;> rfl

theorem take_append_replicate {α} (l : List α) (d : Nat) (x : α) :
    (l ++ List.replicate (d - l.length) x).take d = (List.range d).map fun i => l.getD i x := by
  rw [← map_getD_range _ x d (by rw [List.length_append, List.length_replicate]; omega)]
  exact List.map_congr_left fun i _ => getD_append_replicate l _ i x

theorem getD_take_false (l : List Bool) (n i : Nat) : (l.take n).getD i false = (decide (i < n) && l.getD i false) := by
  simp only [List.getD_eq_getElem?_getD, List.getElem?_take]
  by_cases h : i < n <;> simp [h]

theorem getD_drop_take (l : List Bool) (s n j : Nat) :
    ((l.drop s).take n).getD j false = (decide (j < n) && l.getD (s + j) false) := by
  rw [getD_take_false, getD_drop]

theorem getD_reverse_window {α} (l : List α) (w i j : Nat) (d : α) (hi : i + w ≤ l.length) (hj : j < w) :
    ((l.drop i).take w).reverse.getD j d = l.getD (i + (w - 1) - j) d := by
  have hl : ((l.drop i).take w).length = w := by simp; omega
  rw [List.getD_eq_getElem?_getD, List.getD_eq_getElem?_getD, List.getElem?_reverse (by omega), hl,
    List.getElem?_take_of_lt (by omega), List.getElem?_drop]
  congr 2; omega

/-! ### numbers spelt by lists

  `Nat.testBit` facts that stand here and not in Lemmas/BitsBasic because Lemmas/DesEval and DesSboxVectors use them and
  must not import `Model.Bits`. -/

theorem testBit_foldr_bits (x : List Bool) (j : Nat) :
    (x.foldr (fun (b : Bool) a => 2 * a + b.toNat) 0).testBit j = x.getD j false := by
  induction x generalizing j with
  | nil => simp
  | cons b x ih =>
    have hb := Bool.toNat_lt b
    rw [List.foldr_cons]
    cases j with
    | zero => cases b <;> simp [Nat.testBit_zero, Nat.add_mod]
    | succ j =>
      rw [List.getD_cons_succ, ← ih, Nat.testBit_succ]
      congr 1
      omega

/-- the bit mask of the values that occur: "every value below n occurs" becomes one equation the kernel evaluates
    (`Lsh.perm_range_of_mask`, the S-box coverage of Lemmas/DesSboxVectors) -/
theorem mask_testBit (l : List Nat) (m i : Nat) :
    (l.foldl (fun m x => m ||| 1 <<< x) m).testBit i = (m.testBit i || decide (i ∈ l)) := by
  induction l generalizing m with
  | nil => simp
  | cons x xs ih =>
    rw [List.foldl_cons, ih, Nat.testBit_or, Nat.one_shiftLeft, Nat.testBit_two_pow]
    simp [Bool.or_assoc, eq_comm]

end Proofs.Lemmas.Fold
