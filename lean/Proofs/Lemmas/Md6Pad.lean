/-
  Lemmas for C17: `Nullpadding(B).iterblocks(M,bitlen=…)` as MD6 uses it (fresh padder, padding on) yields exactly the
  blocks of the specification: the first m bits of M zero-padded to j = max(1,⌈m/B⌉) blocks, and leaves
  `padcnt` = j·B − m.  The call itself is `Padding.iterblocks_refines` at scheme `.null`; what is MD6's own relates two
  specifications: the report's zero padding of bytes (`Spec.Md6.zeroPad` of `takeBits`) is ISO 9797-1 method 1 on the bit
  string (`Spec.Padding.padBytes .zero`).
-/
import Proofs.Lemmas.Md6Bits
import Proofs.Lemmas.PaddingRun
namespace Proofs.Lemmas.Md6Pad
open Model Model.Py Model.Md6 Proofs.Lemmas.Md6Bits Proofs.Lemmas.Padding

theorem numBlocks_eq (B m : Nat) (hB : 0 < B) :
    Spec.Md6.numBlocks B m = (if m = 0 then 0 else (m - 1) / B) + 1 := by
  unfold Spec.Md6.numBlocks
  by_cases h : m = 0
  · subst h
    rw [Nat.div_eq_of_lt (by omega)]
    rfl
  · rw [if_neg h, show m + B - 1 = (m - 1) + B by omega, Nat.add_div_right _ hB]
    exact Nat.max_eq_right (Nat.le_add_left 1 _)

theorem numBlocks_spec (B m : Nat) (hB : 0 < B) :
    ∃ k, Spec.Md6.numBlocks B m = k + 1 ∧ k * B ≤ m ∧ m ≤ k * B + B ∧ (0 < k → k * B < m) := by
  refine ⟨_, numBlocks_eq B m hB, ?_⟩
  split
  · omega
  · have := Nat.div_add_mod (m - 1) B
    have := Nat.mod_lt (m - 1) hB
    rw [Nat.mul_comm]
    omega

/-- ISO 9797-1 method 1 (`Spec.Padding.zeroPad`) fills m bits to MD6's number of blocks -/
theorem zeroFill_blocks (B : Nat) (hB : 0 < B) (m : Nat) :
    m + (if m = 0 then B else Spec.Padding.fill B m) = Spec.Md6.numBlocks B m * B := by
  obtain ⟨k, hj, hk1, hk2, hk3⟩ := numBlocks_spec B m hB
  rw [hj, Nat.add_mul, Nat.one_mul]
  split
  · omega
  · rw [fill_of_le B k _ hB hk1 hk2]
    split
    · rcases Nat.eq_zero_or_pos k with rfl | hk
      · omega
      · have := hk3 hk
        omega
    · omega

theorem zeroPad_eq_padBytes (n : Nat) (hn : 0 < n) (M : List Nat) (hM : ∀ x ∈ M, x < 256) (m : Nat)
    (hm : m ≤ 8 * M.length) :
    Spec.Md6.zeroPad (Spec.Md6.numBlocks (8 * n) m * n) (Spec.Md6.takeBits m M)
      = Spec.Padding.padBytes .zero (8 * n) M m := by
  have htl : (Spec.Padding.takeBits m M).length = m := by
    rw [Spec.Padding.takeBits, List.length_take, bytesToBits_length, Nat.min_eq_left hm]
  have hlen := zeroFill_blocks (8 * n) (by omega) m
  rw [Nat.mul_left_comm] at hlen
  rw [takeBits_eq m M hM hm, Spec.Padding.padBytes, Spec.Padding.pad, Spec.Padding.zeroPad, ← zeroPad_bitsToBytes,
    htl, hlen]
  congr 1
  omega

theorem block_eq (n : Nat) (hn : 0 < n) (M : List Nat) (hM : ∀ x ∈ M, x < 256) (m : Nat) (hm : m ≤ 8 * M.length)
    (i : Nat) :
    Spec.Md6.block (8 * n) M m i
      = (⟨.null, 8 * n⟩ : Padder).blockAt (Spec.Padding.padBytes .zero (8 * n) M m) i := by
  rw [← zeroPad_eq_padBytes n hn M hM m hm]
  simp only [Spec.Md6.block, Padder.blockAt, Padder.blocklen, show 8 * n / 8 = n by omega]

theorem block_length (n : Nat) (M : List Nat) (m : Nat) (i : Nat)
    (hi : i < Spec.Md6.numBlocks (8 * n) m) (hn : 0 < n) :
    (Spec.Md6.block (8 * n) M m i).length = n := by
  have hin : (i + 1) * n ≤ Spec.Md6.numBlocks (8 * n) m * n := Nat.mul_le_mul_right _ hi
  rw [Nat.add_mul] at hin
  simp only [Spec.Md6.block, show 8 * n / 8 = n by omega, List.length_take, List.length_drop, Spec.Md6.zeroPad,
    List.length_append, List.length_replicate]
  omega

theorem nullBlocks_spec (B n : Nat) (hB : B = 8 * n) (hn : 0 < n) (M : List Nat) (hM : ∀ x ∈ M, x < 256)
    (bitlen : Option Nat) (hbl : bitlen.getD (8 * M.length) ≤ 8 * M.length) :
    Md6.nullBlocks B M bitlen =
      .ok ((List.range (Spec.Md6.numBlocks B (bitlen.getD (8 * M.length)))).map
              (Spec.Md6.block B M (bitlen.getD (8 * M.length))),
           Spec.Md6.numBlocks B (bitlen.getD (8 * M.length)) * B - bitlen.getD (8 * M.length)) := by
  subst hB
  have hv : Valid ⟨.null, 8 * n⟩ := ⟨by show 8 * n % 8 = 0; omega, by show 0 < 8 * n; omega, trivial⟩
  obtain ⟨-, h1, h2, -⟩ := call_facts ⟨.null, 8 * n⟩ hv M bitlen hbl
  -- the null scheme's shortest pad is empty, so the tail is one block
  have htb : tailBlocks ⟨.null, 8 * n⟩ (rOf ⟨.null, 8 * n⟩ M bitlen) = 1 := if_neg fun h => h.2 h2
  -- `loopCount` is the `if` of `numBlocks_eq`
  have hk : Spec.Md6.numBlocks (8 * n) (effLen M bitlen) = kOf ⟨.null, 8 * n⟩ M bitlen + 1 :=
    numBlocks_eq (8 * n) _ (by omega)
  unfold Md6.nullBlocks
  rw [iterblocks_refines ⟨.null, 8 * n⟩ hv {} rfl rfl M hM bitlen hbl (fun _ => trivial), htb]
  simp only [List.map_map, Nat.add_sub_cancel]
  show Except.ok _ = Except.ok ((List.range (Spec.Md6.numBlocks (8 * n) (effLen M bitlen))).map _,
    Spec.Md6.numBlocks (8 * n) (effLen M bitlen) * (8 * n) - effLen M bitlen)
  rw [hk]
  congr 2
  · exact List.map_congr_left fun i _ => (block_eq n hn M hM _ hbl i).symm
  · simp only [yieldState, stateAt, Nat.lt_irrefl, if_false, tailPadcnt]
    rw [modelTail_null _ rfl _ _ h2, Spec.Padding.zeros, List.length_replicate, Nat.add_mul, Nat.one_mul]
    simp only [rOf] at h1 h2 ⊢
    omega

theorem nullBlocks_too_long (B : Nat) (M : List Nat) (b : Nat) (hb : 8 * M.length < b) :
    ∃ e, Md6.nullBlocks B M (some b) = .error e := by
  obtain ⟨-, he, -⟩ := iterblocks_refused ⟨.null, B⟩ {} M (some b) true (.inr (.inl hb))
  obtain ⟨e, he⟩ := Option.isSome_iff_exists.1 he
  exact ⟨e, by rw [Md6.nullBlocks, he]⟩

end Proofs.Lemmas.Md6Pad
