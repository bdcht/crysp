/- end-to-end: every MD/SHA hash object of the library computes its standard function (the ten instances of the composition lemma) -/
import Proofs.Lemmas.Streaming
import Proofs.Lemmas.Instances
namespace Proofs.Lemmas.EndToEnd
open Model Model.Py Proofs.Lemmas.Parse Proofs.Lemmas.Compose Proofs.Lemmas.Streaming Proofs.Lemmas.Instances

def toSpec : Model.Alg → Spec.Alg
  | .md4 => .md4 | .md5 => .md5 | .sha0 => .sha0 | .sha1 => .sha1 | .sha224 => .sha224 | .sha256 => .sha256
  | .sha384 => .sha384 | .sha512 => .sha512 | .sha512_224 => .sha512_224 | .sha512_256 => .sha512_256

/-- for each algorithm: its object, and what it refines (packaged so that one statement covers all ten).  The literals are
    `Framing`'s word size, block size (bits), length-field size (bytes) and byte order (`true`: big-endian); for SHA-2,
    `⟨size, outlen, blocksize, wsize⟩` is the `Sha2Cfg` of the object (`size` of `SHA2(size,t)`, digest bytes, block bits, word bits). -/
theorem alg_cases (alg : Model.Alg) :
    ∃ c, alg.new = .ok c ∧
      ∃ (σ : Type) (h : Spec.MDHash σ) (emb : σ → List Bits) (w B ll : Nat) (bigend : Bool),
        Refines c h emb ∧ Framing c h w B alg.blocklen ll bigend ∧ Spec.hash (toSpec alg) = h.hash := by
  cases alg
  · exact ⟨_, rfl, _, Spec.Md4.md, _, 32, 512, 8, false, md4_refines,
      ⟨rfl, rfl, by decide, rfl, by decide, rfl, rfl, rfl⟩, rfl⟩
  · exact ⟨_, rfl, _, Spec.Md5.md, _, 32, 512, 8, false, md5_refines,
      ⟨rfl, rfl, by decide, rfl, by decide, rfl, rfl, rfl⟩, rfl⟩
  · exact ⟨_, rfl, _, Spec.Sha1.md 0, _, 32, 512, 8, true, sha1_refines 0 (by decide),
      ⟨rfl, rfl, by decide, rfl, by decide, rfl, rfl, rfl⟩, rfl⟩
  · exact ⟨_, rfl, _, Spec.Sha1.md 1, _, 32, 512, 8, true, sha1_refines 1 (by decide),
      ⟨rfl, rfl, by decide, rfl, by decide, rfl, rfl, rfl⟩, rfl⟩
  · exact ⟨_, rfl, _, _, _, 32, 512, 8, true,
      sha2_refines (Sha2.link32 ⟨224, 28, 512, 32⟩ rfl (by decide)) (by decide) (by decide) rfl iv224_eq,
      ⟨rfl, rfl, by decide, rfl, by decide, rfl, rfl, rfl⟩, rfl⟩
  · exact ⟨_, rfl, _, _, _, 32, 512, 8, true,
      sha2_refines (Sha2.link32 ⟨256, 32, 512, 32⟩ rfl (by decide)) (by decide) (by decide) rfl iv256_eq,
      ⟨rfl, rfl, by decide, rfl, by decide, rfl, rfl, rfl⟩, rfl⟩
  · exact ⟨_, rfl, _, _, _, 64, 1024, 16, true,
      sha2_refines (Sha2.link64 ⟨384, 48, 1024, 64⟩ rfl (by decide)) (by decide) (by decide) rfl iv384_eq,
      ⟨rfl, rfl, by decide, rfl, by decide, rfl, rfl, rfl⟩, rfl⟩
  · exact ⟨_, rfl, _, _, _, 64, 1024, 16, true,
      sha2_refines (Sha2.link64 ⟨512, 64, 1024, 64⟩ rfl (by decide)) (by decide) (by decide) rfl iv512_eq,
      ⟨rfl, rfl, by decide, rfl, by decide, rfl, rfl, rfl⟩, rfl⟩
  · exact ⟨_, rfl, _, _, _, 64, 1024, 16, true,
      sha2_refines (Sha2.link64 ⟨512, 28, 1024, 64⟩ rfl (by decide)) (by decide) (by decide) rfl iv512_224_eq,
      ⟨rfl, rfl, by decide, rfl, by decide, rfl, rfl, rfl⟩, rfl⟩
  · exact ⟨_, rfl, _, _, _, 64, 1024, 16, true,
      sha2_refines (Sha2.link64 ⟨512, 32, 1024, 64⟩ rfl (by decide)) (by decide) (by decide) rfl iv512_256_eq,
      ⟨rfl, rfl, by decide, rfl, by decide, rfl, rfl, rfl⟩, rfl⟩

theorem hash_eq (alg : Model.Alg) (M : List Spec.Byte) (kw : Option Nat) (hkw : ∀ l, kw = some l → l ≤ 8 * M.length) :
    Model.hash alg (toNatBytes M) kw
      = .ok (toNatBytes (Spec.hash (toSpec alg) ((Spec.bytesToBits M).take (kw.getD (8 * M.length))))) := by
  obtain ⟨c, hc, σ, h, emb, w, B, ll, bigend, R, F, hs⟩ := alg_cases alg
  rw [Model.hash, hc, hs]
  exact hash_of_framing R F M kw hkw

/-- `__call__` starts with `initstate()`, hence any state `o` -/
theorem call_eq_hash (alg : Model.Alg) (c : HashCore) (hc : alg.new = .ok c) (o : HashObj) (M : List Nat) (L : Option Nat) :
    (c.call o M L).2 = Model.hash alg M L := by
  simp only [Model.hash, hc, HashCore.hash, HashCore.call]
  rfl

theorem hash_eq_none (alg : Model.Alg) (M : List Spec.Byte) :
    Model.hash alg (toNatBytes M) none = .ok (toNatBytes (Spec.hash (toSpec alg) (Spec.bytesToBits M))) := by
  rw [hash_eq alg M none (fun l hl => by cases hl), Option.getD_none,
    List.take_of_length_le (Nat.le_of_eq (SpecList.bytesToBits_length M))]

theorem md_out_length (s : Spec.Md4.State) : (Spec.Md4.out s).length = 16 := by
  obtain ⟨a, b, c, d⟩ := s; simp [Spec.Md4.out, Spec.leBytes]
theorem sha1_out_length (s : Spec.Sha1.State) : (Spec.Sha1.out s).length = 20 := by
  obtain ⟨a, b, c, d, e⟩ := s; simp [Spec.Sha1.out, Spec.beBytes]
theorem sha2_out_length {w : Nat} (n : Nat) (s : Spec.Sha2.State w) (hn : n ≤ 8 * (w / 8)) :
    (Spec.Sha2.out n s).length = n := by
  obtain ⟨a, b, c, d, e, f, g, h⟩ := s
  simp [Spec.Sha2.out, Spec.beBytes]; omega

theorem spec_length (alg : Model.Alg) (bits : List Bool) : (Spec.hash (toSpec alg) bits).length = alg.outlen := by
  cases alg
  · exact md_out_length _
  · exact md_out_length _
  · exact sha1_out_length _
  · exact sha1_out_length _
  · exact sha2_out_length 28 _ (by decide)
  · exact sha2_out_length 32 _ (by decide)
  · exact sha2_out_length 48 _ (by decide)
  · exact sha2_out_length 64 _ (by decide)
  · exact sha2_out_length 28 _ (by decide)
  · exact sha2_out_length 32 _ (by decide)

end Proofs.Lemmas.EndToEnd
