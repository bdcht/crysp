/-
  Helper lemmas for C09: `remove`, scheme by scheme, on a byte string that is `bitsToBytes` of message bits followed
  by that scheme's pad bits.  That padded bit string is the `W` of `lastBlock_cut`; the `remove_…_W` lemmas are `remove` on
  `bitsToBytes W` with `W` spelt out per scheme.
-/
import Proofs.Lemmas.PaddingRemove
import Proofs.Lemmas.PaddingTail
import Proofs.Lemmas.Fold
namespace Proofs.Lemmas.Padding
open Model Model.Py Model.Padder Spec.Padding

theorem bools_bitsOfBytes_bitsToBytes (X : List Bool) (h : X.length % 8 = 0) :
    bools (Padder.bitsOfBytes (bitsToBytes X) (8 * (bitsToBytes X).length)) = X := by
  rw [bools_bitsOfBytes _ (bitsToBytes_Bytes X) _ (Nat.le_refl _), bytesToBits_bitsToBytes X h,
    List.take_of_length_le (by rw [bitsToBytes_length]; omega)]

theorem rfind1_spec (b : Model.Bits) (hwf : b.WF) (Y : List Bool) (z : Nat) (hb : bools b = Y ++ true :: zeros z) :
    Padder.rfind1 b = some Y.length := by
  have hsize : b.size = Y.length + 1 + z := by
    have := congrArg List.length hb
    simp only [bools_length, List.length_append, List.length_cons, zeros, List.length_replicate] at this
    omega
  have hbit : ∀ i, i < b.size → b.ival.testBit i = (Y ++ true :: zeros z).getD i false := by
    intro i hi
    rw [← hb, bools_getD]
    simp [hi]
  have h1 : b.ival.testBit Y.length = true := by
    rw [hbit _ (by omega)]
    simp [List.getD_eq_getElem?_getD]
  have h2 : ∀ i, i ≥ Y.length + 1 → b.ival.testBit i = false := by
    intro i hi
    by_cases hlt : i < b.size
    · rw [hbit i hlt, List.getD_eq_getElem?_getD, List.getElem?_append_right (by omega)]
      have : i - Y.length = (i - Y.length - 1) + 1 := by omega
      rw [this, List.getElem?_cons_succ]
      simp only [zeros, List.getElem?_replicate]
      split <;> rfl
    · exact Bits.wf_testBit hwf (by omega)
  have hge := Nat.ge_two_pow_of_testBit h1
  have hlt := Nat.lt_pow_two_of_testBit b.ival h2
  have hne : b.ival ≠ 0 := by
    have := Nat.two_pow_pos Y.length
    omega
  have hlog : Nat.log2 b.ival = Y.length := by
    have a1 := (Nat.le_log2 hne).mpr hge
    have a2 := (Nat.log2_lt hne).mpr hlt
    omega
  simp [Padder.rfind1, hne, bitLength, hlog]

/-- the last block `b` of a padded string as the code cuts it off, and what results from keeping its first j bits -/
theorem lastBlock_cut (p : Padder) (hv : Valid p) (W : List Bool) (n : Nat) (hn : 1 ≤ n)
    (hW : W.length = n * p.blocksize) :
    ∃ b : Model.Bits,
      Padder.bitsOfBytes ((bitsToBytes W).drop ((bitsToBytes W).length - p.blocklen))
        (8 * ((bitsToBytes W).drop ((bitsToBytes W).length - p.blocklen)).length) = b ∧
      b.WF ∧ b.size = p.blocksize ∧ bools b = W.drop (W.length - p.blocksize) ∧
      ∀ j ≤ p.blocksize, (bitsToBytes W).take ((bitsToBytes W).length - p.blocklen) ++ (b.setSize j).toBytes
        = bitsToBytes (W.take (W.length - p.blocksize + j)) := by
  have hB := hv.size_eq
  obtain ⟨k, rfl⟩ : ∃ k, n = k + 1 := ⟨n - 1, by omega⟩
  have hnB : (k + 1) * p.blocksize = 8 * (k * p.blocklen) + 8 * p.blocklen := by
    rw [Nat.succ_mul, hB, Nat.mul_left_comm]
  have hj : (bitsToBytes W).length - p.blocklen = k * p.blocklen := by
    rw [bitsToBytes_length]
    omega
  have hWB : W.length - p.blocksize = 8 * (k * p.blocklen) := by omega
  obtain ⟨ht, hd⟩ := bitsToBytes_take_aligned W (k * p.blocklen) (by omega)
  have hdl : (W.drop (8 * (k * p.blocklen))).length = p.blocksize := by
    rw [List.length_drop]
    omega
  have h3 := bools_bitsOfBytes_bitsToBytes (W.drop (8 * (k * p.blocklen))) (by omega)
  rw [hj, hWB, hd, ht]
  refine ⟨_, rfl, bitsOfBytes_WF _ _, by rw [← bools_length, h3, hdl], h3, ?_⟩
  intro j hj
  rw [toBytes_eq, bools_setSize _ _ (by rw [← bools_length, h3, hdl]; exact hj), h3,
    ← bitsToBytes_append _ _ (by rw [List.length_take]; omega), ← List.take_add]

theorem remove_null_W (p : Padder) (hv : Valid p) (hs : p.scheme = .null) (st : PadState) (X : List Bool) (z n : Nat)
    (hn : 1 ≤ n) (hW : (X ++ zeros z).length = n * p.blocksize) (hz : z ≤ p.blocksize) (hpc : st.padcnt = z) :
    p.remove st (bitsToBytes (X ++ zeros z)) = .ok (bitsToBytes X) := by
  obtain ⟨b, hb, _, hsz, _, hcut⟩ := lastBlock_cut p hv _ n hn hW
  have hge : p.blocksize ≤ (X ++ zeros z).length := by
    rw [hW]
    exact Nat.le_mul_of_pos_left _ hn
  have hXl : (X ++ zeros z).length = X.length + z := by simp [zeros]
  simp only [Padder.remove, hs, hb]
  rw [if_neg (by omega), hcut _ (by omega), hsz, hpc, show _ - p.blocksize + (p.blocksize - z) = X.length by omega,
    List.take_left]

theorem remove_bit_W (p : Padder) (hv : Valid p) (hs : p.scheme = .bit) (st : PadState) (X : List Bool) (z n : Nat)
    (hn : 1 ≤ n) (hW : (X ++ true :: zeros z).length = n * p.blocksize) (hz : z < p.blocksize) :
    p.remove st (bitsToBytes (X ++ true :: zeros z)) = .ok (bitsToBytes X) := by
  obtain ⟨b, hb, hwf, hsz, h3, hcut⟩ := lastBlock_cut p hv _ n hn hW
  have hlenW : (X ++ true :: zeros z).length = X.length + 1 + z := by
    simp [zeros]
    omega
  have hle : (X ++ true :: zeros z).length - p.blocksize ≤ X.length := by omega
  rw [List.drop_append_of_le_length hle] at h3
  simp only [Padder.remove, hs, hb, rfind1_spec b hwf _ z h3]
  rw [hcut _ (by rw [List.length_drop]; omega), List.length_drop,
    show _ - p.blocksize + (X.length - _) = X.length by omega, List.take_left]

theorem remove_bytes_W (p : Padder) (hv : Valid p) (hs : p.scheme = .pkcs7 ∨ p.scheme = .x923) (st : PadState)
    (m : List Nat) (hm : Bytes m) (base r : Nat) :
    p.remove st (bitsToBytes (bytesToBits m ++ modelTail p base r)) = .ok m := by
  obtain ⟨hq0, hq⟩ := padQ_range p.blocklen (r / 8) hv.blocklen_pos
  have hw := hv.scheme_ok
  apply Fold.toOption_eq_some.mp
  rcases hs with hs | hs
  · rw [hs] at hw
    have hb : Bytes (m ++ List.replicate (padQ p.blocklen (r / 8)) (padQ p.blocklen (r / 8))) :=
      Bytes.AllBytes.append hm (Bytes.AllBytes.replicate (by omega) _)
    simp only [modelTail, hs]
    rw [← bytesToBits_append, bitsToBytes_bytesToBits _ hb, remove_pkcs7 p hs, pkcs7Unpad_append _ _ hq0 hq]
  · rw [hs] at hw
    have hb : Bytes (m ++ List.replicate (padQ p.blocklen (r / 8) - 1) 0 ++ [padQ p.blocklen (r / 8)]) :=
      Bytes.AllBytes.append (Bytes.AllBytes.append hm (Bytes.AllBytes.replicate (by decide) _))
        (Bytes.AllBytes.replicate (by omega) 1)
    simp only [modelTail, hs]
    rw [← bytesToBits_append, ← List.append_assoc, bitsToBytes_bytesToBits _ hb, remove_x923 p hs,
      x923Unpad_append _ _ hq0 hq]

/-! ### MD / SHA / BLAKE: strip zero bytes, then cut before the last 1 bit -/

theorem rstrip0_append_zeros (A : List Nat) (x t : Nat) (hx : x ≠ 0) :
    Padder.rstrip0 (A ++ [x] ++ List.replicate t 0) = A ++ [x] := by
  unfold Padder.rstrip0
  rw [List.reverse_append, List.reverse_replicate, List.dropWhile_append, List.dropWhile_replicate]
  simp [hx]

theorem cutLastOne_rstrip (X : List Bool) (N : Nat) (hal : (X ++ true :: zeros N).length % 8 = 0) :
    (Padder.rstrip0 (bitsToBytes (X ++ true :: zeros N))).length ≠ 0 ∧
    Padder.cutLastOne (Padder.rstrip0 (bitsToBytes (X ++ true :: zeros N))) = .ok (bitsToBytes X) := by
  have hlen : ∀ z, (X ++ true :: zeros z).length = X.length + 1 + z := by
    intro z
    simp [zeros]
    omega
  -- j whole bytes of X, s bits in the byte that receives the 1, then t zero bytes
  generalize hj : X.length / 8 = j
  generalize hs : X.length % 8 = s
  have hs8 : s < 8 := by omega
  obtain ⟨t, ht⟩ : ∃ t, N = (7 - s) + 8 * t := ⟨(N - (7 - s)) / 8, by have := hlen N; omega⟩
  have hYl : (X.drop (8 * j)).length = s := by
    rw [List.length_drop]
    omega
  have hlast8 : (X.drop (8 * j) ++ true :: zeros (7 - s)).length = 8 := by
    simp [zeros, hYl]
    omega
  have hA : bitsToBytes (X ++ true :: zeros (7 - s))
      = bitsToBytes (X.take (8 * j)) ++ [byteOfBits (X.drop (8 * j) ++ true :: zeros (7 - s))] := by
    rw [← bitsToBytes_eight _ hlast8, ← bitsToBytes_append _ _ (by rw [List.length_take]; omega), ← List.append_assoc,
      List.take_append_drop]
  have hbytes : bitsToBytes (X ++ true :: zeros N) = bitsToBytes (X ++ true :: zeros (7 - s)) ++ List.replicate t 0 := by
    rw [ht, show zeros (7 - s + 8 * t) = zeros (7 - s) ++ zeros (8 * t) from List.replicate_append_replicate.symm,
      ← List.cons_append, ← List.append_assoc, bitsToBytes_append _ _ (by rw [hlen]; omega), bitsToBytes_zeros]
  have hx : byteOfBits (X.drop (8 * j) ++ true :: zeros (7 - s)) ≠ 0 :=
    byteOfBits_ne_zero _ s hs8 (by
      rw [List.getD_eq_getElem?_getD, List.getElem?_append_right (by omega), hYl, Nat.sub_self]
      rfl)
  rw [hbytes, hA, rstrip0_append_zeros _ _ _ hx, ← hA]
  -- `cutLastOne` is the removal of bit padding with blocks of one byte
  exact ⟨by simp [hA], remove_bit_W ⟨.bit, 8⟩ ⟨rfl, by decide, trivial⟩ rfl {} X (7 - s) (j + 1) (by omega)
    (show _ = (j + 1) * 8 by rw [hlen]; omega) (show 7 - s < 8 by omega)⟩

theorem remove_md_W (p : Padder) (w : Nat) (hs : p.scheme = .md w ∨ p.scheme = .sha w) (hw : w % 4 = 0) (st : PadState)
    (X F : List Bool) (N : Nat) (hal : (X ++ true :: zeros N).length % 8 = 0) (hF : F.length = 2 * w) :
    p.remove st (bitsToBytes (X ++ true :: zeros N ++ F)) = .ok (bitsToBytes X) := by
  have hF' : F.length = 8 * (w / 4) := by omega
  obtain ⟨h1, h2⟩ := cutLastOne_rstrip X N hal
  have ht := take_bitsToBytes_append (X ++ true :: zeros N) F (w / 4) hal hF'
  rcases hs with hs | hs <;> simp only [Padder.remove, hs, ht, h1, if_false, h2]

theorem remove_blake_W (p : Padder) (h : Nat) (hs : p.scheme = .blake h) (st : PadState)
    (X F : List Bool) (N : Nat) (hal : (X ++ true :: zeros N ++ [decide (h = 256 ∨ h = 512)]).length % 8 = 0)
    (hF : F.length = 2 * Padder.blakeW h) :
    p.remove st (bitsToBytes (X ++ true :: zeros N ++ [decide (h = 256 ∨ h = 512)] ++ F)) = .ok (bitsToBytes X) := by
  have hW4 : Padder.blakeW h / 4 * 8 = 2 * Padder.blakeW h := by
    unfold Padder.blakeW
    split <;> rfl
  have hF' : F.length = 8 * (Padder.blakeW h / 4) := by omega
  have ht := take_bitsToBytes_append (X ++ true :: zeros N ++ [decide (h = 256 ∨ h = 512)]) F (Padder.blakeW h / 4) hal hF'
  -- split the flagged bit string at its last byte
  generalize hZ : X ++ true :: zeros N = Z at *
  have hZl : (Z ++ [decide (h = 256 ∨ h = 512)]).length = Z.length + 1 := by simp
  generalize hj : Z.length / 8 = j
  have hZlen : Z.length = 8 * j + 7 := by omega
  have hsplit : Z = Z.take (8 * j) ++ Z.drop (8 * j) := (List.take_append_drop _ _).symm
  have hAl : (Z.take (8 * j)).length = 8 * j := by
    rw [List.length_take]
    omega
  have h7 : (Z.drop (8 * j)).length = 7 := by
    rw [List.length_drop]
    omega
  have hbytes : ∀ f : Bool, bitsToBytes (Z ++ [f]) = bitsToBytes (Z.take (8 * j)) ++ [byteOfBits (Z.drop (8 * j) ++ [f])] := by
    intro f
    have e : Z ++ [f] = Z.take (8 * j) ++ (Z.drop (8 * j) ++ [f]) := by
      rw [← List.append_assoc, List.take_append_drop]
    rw [e, bitsToBytes_append _ _ (by omega)]
    congr 1
    exact bitsToBytes_eight _ (by simp [h7])
  obtain ⟨hfl, hev⟩ := byteOfBits_flag (Z.drop (8 * j)) h7 (decide (h = 256 ∨ h = 512))
  have hc0 := hbytes (decide (h = 256 ∨ h = 512))
  have hlast : (bitsToBytes (Z.take (8 * j)) ++ [byteOfBits (Z.drop (8 * j) ++ [decide (h = 256 ∨ h = 512)])]).getLast?
      = some (byteOfBits (Z.drop (8 * j) ++ [decide (h = 256 ∨ h = 512)])) := List.getLast?_concat
  have hlen1 : (bitsToBytes (Z.take (8 * j)) ++ [byteOfBits (Z.drop (8 * j) ++ [decide (h = 256 ∨ h = 512)])]).length - 1
      = (bitsToBytes (Z.take (8 * j))).length := by simp
  have hZ1 : Z ++ [false] = X ++ true :: zeros (N + 1) := by
    rw [← hZ]
    simp [zeros, List.replicate_succ', List.append_assoc]
  have hal' : (X ++ true :: zeros (N + 1)).length % 8 = 0 := by
    rw [← hZ1]
    simp only [List.length_append, List.length_singleton] at hZl hal ⊢
    omega
  obtain ⟨g1, g2⟩ := cutLastOne_rstrip X (N + 1) hal'
  rw [← hZ1, hbytes false] at g1 g2
  simp only [Padder.remove, hs, ht, hc0, hlast, hlen1, List.take_left]
  by_cases hflag : h = 256 ∨ h = 512
  · have hd : decide (h = 256 ∨ h = 512) = true := by simp [hflag]
    rw [hd] at hfl
    have hodd : ¬ (True ∧ byteOfBits (Z.drop (8 * j) ++ [true]) % 2 ≠ 1) := by
      simp only [Bool.toNat_true] at hfl
      omega
    have hlb : byteOfBits (Z.drop (8 * j) ++ [true]) - 1 = byteOfBits (Z.drop (8 * j) ++ [false]) := by
      simp only [Bool.toNat_true] at hfl
      omega
    simp only [hflag, decide_true, hodd, if_true, if_false, hlb, g1, g2]
  · have hd : decide (h = 256 ∨ h = 512) = false := by simp [hflag]
    simp only [hflag, decide_false, false_and, if_false, g1, g2]

end Proofs.Lemmas.Padding
