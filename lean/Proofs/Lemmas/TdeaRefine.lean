/-
  TDEA refinement lemmas: Model.Des.TDEA (every calling form of the constructor) computes SP 800-67.
-/
import Proofs.Lemmas.DesRefine
namespace Model.Des
open Model.Bits Proofs Proofs.Lemmas.Bytes

theorem res_bind_refines {f : List Nat → Except Err (List Nat)} {s : List Nat → Option (List Nat)}
    {x : Except Err (List Nat)} {o : Option (List Nat)} (hx : res x = o) (ho : ∀ a, o = some a → IsBytes a)
    (hf : ∀ a, IsBytes a → res (f a) = s a) : res (x >>= f) = o.bind s := by
  rw [res, Lemmas.Fold.toOption_bind, show x.toOption = o from hx]
  cases o with
  | none => rfl
  | some a => exact hf a (ho a rfl)

theorem spec_enc_isBytes (K M C : List Nat) (h : Spec.Des.enc K M = some C ∨ Spec.Des.dec K M = some C) : IsBytes C := by
  have key : ∀ ks, IsBytes (Spec.Des.bitsToBytes (Spec.Des.cryptBits ks (Spec.Des.bytesToBits M))) := fun ks =>
    (Spec.Des.bytesToBits_bitsToBytes _ 8 (by simp [Spec.Des.cryptBits, Spec.Des.length_permute, Spec.Des.IPinv])).2
  simp only [Spec.Des.enc, Spec.Des.dec] at h
  rcases h with h | h
  · split at h
    · cases h
      exact key _
    · cases h
  · split at h
    · cases h
      exact key _
    · cases h

theorem spec_bad_key (K : List Nat) (h : K.length ≠ 8) :
    Spec.Des.enc K = (fun _ => none) ∧ Spec.Des.dec K = fun _ => none :=
  ⟨funext fun M => by simp [Spec.Des.enc, h], funext fun M => by simp [Spec.Des.dec, h]⟩

theorem spec_tdea_bad (k1 k2 k3 M : List Nat) (h : k1.length ≠ 8 ∨ k2.length ≠ 8 ∨ k3.length ≠ 8) :
    Spec.Des.tdeaEnc (.opt1 k1 k2 k3) M = none ∧ Spec.Des.tdeaDec (.opt1 k1 k2 k3) M = none := by
  simp only [Spec.Des.tdeaEnc, Spec.Des.tdeaDec, Spec.Des.Keying.bundle]
  rcases h with h | h | h <;> simp [spec_bad_key _ h]

def new3 (k1 k2 k3 : List Nat) : Except Err TDEA := do
  let e1 ← DES.new k1; let e2 ← DES.new k2; let e3 ← DES.new k3; pure ⟨e1, e2, e3⟩

theorem new3_bad (k1 k2 k3 : List Nat) (h : k1.length ≠ 8 ∨ k2.length ≠ 8 ∨ k3.length ≠ 8) :
    new3 k1 k2 k3 = .error assertErr := by
  simp only [new3, bind, Except.bind]
  by_cases l1 : k1.length = 8
  · by_cases l2 : k2.length = 8
    · simp [DES_new_eq _ l1, DES_new_eq _ l2, DES_new_badlen k3 (by omega)]
    · simp [DES_new_eq _ l1, DES_new_badlen _ l2]
  · simp [DES_new_badlen _ l1]

theorem new3_rejects (k1 k2 k3 M : List Nat) (h : k1.length ≠ 8 ∨ k2.length ≠ 8 ∨ k3.length ≠ 8) :
    res (new3 k1 k2 k3 >>= fun t => t.enc M) = none ∧ res (new3 k1 k2 k3 >>= fun t => t.dec M) = none := by
  rw [new3_bad k1 k2 k3 h]
  exact ⟨rfl, rfl⟩

theorem enc_of_obj (K M : List Nat) (hK : K.length = 8) (hKb : IsBytes K) :
    (⟨ofByteStr K⟩ : DES).enc M = enc K M ∧ (⟨ofByteStr K⟩ : DES).dec M = dec K M := by
  simp [enc, dec, DES_new_bytes K hK hKb, bind, Except.bind]

theorem new3_refines (k1 k2 k3 M : List Nat) (h1 : IsBytes k1) (h2 : IsBytes k2) (h3 : IsBytes k3) (hM : IsBytes M) :
    res (new3 k1 k2 k3 >>= fun t => t.enc M) = Spec.Des.tdeaEnc (.opt1 k1 k2 k3) M
    ∧ res (new3 k1 k2 k3 >>= fun t => t.dec M) = Spec.Des.tdeaDec (.opt1 k1 k2 k3) M := by
  by_cases h : k1.length = 8 ∧ k2.length = 8 ∧ k3.length = 8
  · obtain ⟨l1, l2, l3⟩ := h
    simp only [new3, DES_new_bytes _ l1 h1, DES_new_bytes _ l2 h2, DES_new_bytes _ l3 h3, bind, Except.bind, pure,
      Except.pure, TDEA.enc, TDEA.dec, enc_of_obj k1 _ l1 h1, enc_of_obj k2 _ l2 h2, enc_of_obj k3 _ l3 h3]
    constructor
    · exact res_bind_refines (enc_refines k1 M h1 hM) (fun a ha => spec_enc_isBytes k1 M a (Or.inl ha)) fun a hab =>
        res_bind_refines (dec_refines k2 a h2 hab) (fun b hb => spec_enc_isBytes k2 a b (Or.inr hb)) fun b hbb =>
          enc_refines k3 b h3 hbb
    · exact res_bind_refines (dec_refines k3 M h3 hM) (fun a ha => spec_enc_isBytes k3 M a (Or.inr ha)) fun a hab =>
        res_bind_refines (enc_refines k2 a h2 hab) (fun b hb => spec_enc_isBytes k2 a b (Or.inl hb)) fun b hbb =>
          dec_refines k1 b h1 hbb
  · have hbad : k1.length ≠ 8 ∨ k2.length ≠ 8 ∨ k3.length ≠ 8 := by omega
    rw [(spec_tdea_bad k1 k2 k3 M hbad).1, (spec_tdea_bad k1 k2 k3 M hbad).2]
    exact new3_rejects k1 k2 k3 M hbad

/-- the calling forms `TDEA(K1)`, `TDEA(K1,K2)`, `TDEA(K1,K2,K3)`: K2 and K3 default to K1 -/
theorem new_short (K1 : List Nat) (K2 K3 : Option (List Nat)) (h : K1.length ≤ 8) (h2 : K2 = none → K3 = none) :
    TDEA.new K1 K2 K3 = new3 K1 (K2.getD K1) (K3.getD K1) := by
  have : ¬ K1.length > 8 := by omega
  cases K2 with
  | none => simp [h2 rfl, TDEA.new, new3, this, bind, Except.bind, pure, Except.pure]
  | some k2 => cases K3 <;> simp [TDEA.new, new3, this, bind, Except.bind, pure, Except.pure]

theorem new_K2None (K1 K3 : List Nat) : TDEA.new K1 none (some K3) = .error assertErr := by
  by_cases h : K1.length > 8 <;> simp [TDEA.new, h, bind, Except.bind, pure, Except.pure, throw, throwThe, MonadExceptOf.throw]

theorem new_long_extra (K1 : List Nat) (K2 K3 : Option (List Nat)) (h : K1.length > 8) (h2 : K2.isSome ∨ K3.isSome) :
    TDEA.new K1 K2 K3 = .error assertErr := by
  simp [TDEA.new, h, h2, bind, Except.bind, throw, throwThe, MonadExceptOf.throw]

theorem new_string (K : List Nat) (h : K.length > 8) :
    TDEA.new K none none =
      new3 (K.take 8) ((K.drop 8).take 8) (if (K.drop 16).isEmpty then K.take 8 else K.drop 16) := by
  simp [TDEA.new, new3, h, bind, Except.bind, pure, Except.pure]

/-- the keys passed as ONE string: 8 bytes = keying option 3, 16 = option 2, 24 = option 1, anything else rejected -/
theorem tdea_string_refines (K M : List Nat) (hK : IsBytes K) (hM : IsBytes M) :
    res (tdeaEnc K none none M) = (Spec.Des.keyingOfString K).bind (fun ko => Spec.Des.tdeaEnc ko M)
    ∧ res (tdeaDec K none none M) = (Spec.Des.keyingOfString K).bind (fun ko => Spec.Des.tdeaDec ko M) := by
  simp only [tdeaEnc, tdeaDec, Spec.Des.keyingOfString]
  by_cases h8 : K.length ≤ 8
  · rw [new_short K none none h8 fun _ => rfl]
    by_cases e8 : K.length = 8
    · rw [if_pos e8]
      exact new3_refines K K K M hK hK hK hM
    · rw [if_neg e8, if_neg (by omega), if_neg (by omega)]
      exact new3_rejects K K K M (Or.inl e8)
  · rw [new_string K (by omega), if_neg (show ¬ K.length = 8 by omega)]
    have he : (K.drop 16).isEmpty = decide (K.length ≤ 16) := by
      rw [Bool.eq_iff_iff, List.isEmpty_iff_length_eq_zero, List.length_drop, decide_eq_true_iff]
      omega
    have b1 : IsBytes (K.take 8) := AllBytes.take hK 8
    have b2 : IsBytes ((K.drop 8).take 8) := (AllBytes.drop hK 8).take 8
    by_cases e16 : K.length = 16
    · have ht : (K.drop 8).take 8 = K.drop 8 := List.take_of_length_le (by simp [e16])
      rw [if_pos e16, he, e16, ht]
      exact new3_refines _ _ _ M b1 (AllBytes.drop hK 8) b1 hM
    · rw [if_neg e16, he]
      by_cases e24 : K.length = 24
      · rw [if_pos e24, e24]
        exact new3_refines _ _ _ M b1 b2 (AllBytes.drop hK 16) hM
      · rw [if_neg e24]
        refine new3_rejects _ _ _ M ?_
        by_cases hl : K.length ≤ 16
        · refine Or.inr (Or.inl ?_)
          simp
          omega
        · refine Or.inr (Or.inr ?_)
          simp [hl]
          omega

/-- also for a first argument of more than 8 bytes: it is refused with the error a key of the wrong size gets -/
theorem new_args (K1 K2 : List Nat) (K3 : Option (List Nat)) : TDEA.new K1 (some K2) K3 = new3 K1 K2 (K3.getD K1) := by
  by_cases h8 : K1.length ≤ 8
  · exact new_short K1 (some K2) K3 h8 nofun
  · rw [new_long_extra K1 _ _ (by omega) (Or.inl rfl), new3_bad _ _ _ (Or.inl (by omega))]

/-- keying option 1, and option 2 without `K3` -/
theorem tdea_args_refines (K1 K2 M : List Nat) (K3 : Option (List Nat)) (h1 : IsBytes K1) (h2 : IsBytes K2)
    (h3 : IsBytes (K3.getD K1)) (hM : IsBytes M) :
    res (tdeaEnc K1 (some K2) K3 M) = Spec.Des.tdeaEnc (.opt1 K1 K2 (K3.getD K1)) M
    ∧ res (tdeaDec K1 (some K2) K3 M) = Spec.Des.tdeaDec (.opt1 K1 K2 (K3.getD K1)) M := by
  rw [tdeaEnc, tdeaDec, new_args]
  exact new3_refines K1 K2 _ M h1 h2 h3 hM

end Model.Des
