/-
  Byte strings as the stream ciphers handle them: the pieces `m[p:p+k]` of a message (`Py.chunks`), the xor with a
  keystream, and the cipher `M xor KS[0:|M|]` that a function from block numbers to 64-byte blocks defines (`ksFrom`,
  `encW`).  The declarations are in the namespace `Proofs.Lemmas.StreamEnc`, which Proofs/Lemmas/StreamEnc.lean continues.
-/
import Proofs.Lemmas.StreamPoly
import Proofs.Lemmas.Bytes
namespace Proofs.Lemmas.StreamEnc
open Model Proofs.Lemmas.StreamPoly Proofs.Lemmas.Bytes

abbrev Byte := BitVec 8

theorem mapM_ok {α β} (f : α → β) (l : List α) :
    l.mapM (fun x => (Except.ok (f x) : Except Err β)) = .ok (l.map f) :=
  Fold.mapM_ok _ f l fun _ _ => rfl

def xorB (m ks : List Byte) : List Byte := List.zipWith (· ^^^ ·) m ks

theorem zipWith_take_comm (b ks : List Byte) :
    List.zipWith (· ^^^ ·) (ks.take b.length) b = List.zipWith (· ^^^ ·) b ks := by
  induction b generalizing ks with
  | nil => simp
  | cons x t ih =>
    cases ks with
    | nil => simp
    | cons k ks => simp [ih, BitVec.xor_comm]

theorem xorB_length (m ks : List Byte) (h : m.length ≤ ks.length) : (xorB m ks).length = m.length := by
  simp only [xorB, List.length_zipWith]; omega

theorem xorB_xorB (m ks : List Byte) (h : m.length ≤ ks.length) : xorB (xorB m ks) ks = m :=
  Fold.zipWith_cancel (fun a b => by rw [BitVec.xor_assoc, BitVec.xor_self, BitVec.xor_zero]) m ks h

theorem xorB_append_right (m ks r : List Byte) (h : m.length ≤ ks.length) : xorB m (ks ++ r) = xorB m ks := by
  rw [xorB, Fold.zipWith_append_right, List.take_of_length_le h, List.drop_eq_nil_of_le h, List.zipWith_nil_left, List.append_nil]
  rfl

theorem xorB_take (m ks : List Byte) (k : Nat) : (xorB m ks).take k = xorB (m.take k) ks := by
  induction m generalizing ks k with
  | nil => simp [xorB]
  | cons a t ih =>
    cases ks with
    | nil => simp [xorB]
    | cons x ks =>
      cases k with
      | zero => simp [xorB]
      | succ k => simp only [xorB, List.zipWith_cons_cons, List.take_succ_cons, List.cons.injEq, true_and]; exact ih ks k

section Keystream
variable (blk : Nat → List Byte)

def ksFrom : Nat → Nat → List Byte
  | _, 0 => []
  | i, n + 1 => blk i ++ ksFrom (i + 1) n

def encChunks : Nat → List (List Byte) → List Byte
  | _, [] => []
  | i, b :: bs => xorB b (blk i) ++ encChunks (i + 1) bs

/-- `M xor KS[0:|M|]` where KS starts at block `b0` -/
def encW (b0 : Nat) (M : List Byte) : List Byte := xorB M (ksFrom blk b0 ((M.length + 63) / 64))

theorem ksFrom_add (i n m : Nat) : ksFrom blk i (n + m) = ksFrom blk i n ++ ksFrom blk (i + n) m := by
  induction n generalizing i with
  | zero => simp [ksFrom]
  | succ n ih =>
    have : n + 1 + m = (n + m) + 1 := by omega
    rw [this]
    simp only [ksFrom, ih, List.append_assoc]
    congr 3; omega

variable (h64 : ∀ i, (blk i).length = 64)
include h64

theorem ksFrom_length (i n : Nat) : (ksFrom blk i n).length = 64 * n := by
  induction n generalizing i with
  | zero => rfl
  | succ n ih => simp only [ksFrom, List.length_append, h64, ih]; omega

theorem encChunks_eq (i : Nat) (M : List Byte) : encChunks blk i (Py.chunks 64 M) = encW blk i M := by
  induction M using Fold.drop_induction 64 (by decide) generalizing i with
  | nil => simp [chunks_nil, encChunks, encW, xorB]
  | step M hl ih =>
    have h0 : M.length ≠ 0 := fun h => hl (List.eq_nil_of_length_eq_zero h)
    have hN : (M.length + 63) / 64 = ((M.drop 64).length + 63) / 64 + 1 := by simp only [List.length_drop]; omega
    rw [chunks_cons 64 (by decide) M hl, encW, hN, encChunks, ksFrom, ih, encW, xorB, xorB, xorB, Fold.zipWith_append_right, h64]

theorem encW_length (b0 : Nat) (M : List Byte) : (encW blk b0 M).length = M.length := by
  apply xorB_length
  rw [ksFrom_length blk h64]
  omega

theorem encW_encW (b0 : Nat) (M : List Byte) : encW blk b0 (encW blk b0 M) = M := by
  have hl := encW_length blk h64 b0 M
  unfold encW at hl ⊢
  rw [hl]
  apply xorB_xorB
  rw [ksFrom_length blk h64]
  omega

theorem encW_prefix (b0 : Nat) (M : List Byte) (k : Nat) : encW blk b0 (M.take k) = (encW blk b0 M).take k := by
  unfold encW
  rw [xorB_take]
  have hle : ((M.take k).length + 63) / 64 ≤ (M.length + 63) / 64 := by
    simp only [List.length_take]; omega
  obtain ⟨d, hd⟩ := Nat.exists_eq_add_of_le hle
  rw [hd, ksFrom_add, xorB_append_right]
  rw [ksFrom_length blk h64]
  omega

end Keystream

/-- any function with the recursion equations of the specifications' `keystream` (blocks given by `block`) is `ksFrom` -/
theorem ksFrom_of_rec {ks : Nat → Nat → Option (List Byte)} {block : Nat → Option (List Byte)} {blk : Nat → List Byte}
    (h : ∀ i, block i = some (blk i)) (h0 : ∀ b0, ks b0 0 = some [])
    (hs : ∀ b0 n, ks b0 (n + 1) = (block b0).bind fun b => (ks (b0 + 1) n).bind fun r => some (b ++ r)) :
    ∀ n b0, ks b0 n = some (ksFrom blk b0 n)
  | 0, b0 => h0 b0
  | n + 1, b0 => by rw [hs, h, ksFrom_of_rec h h0 hs n]; rfl

end Proofs.Lemmas.StreamEnc
