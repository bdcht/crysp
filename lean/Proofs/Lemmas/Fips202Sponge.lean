/-
  Lemmas for C04 / FIPS 202 (pad10*1, Algorithm 8, h2b / b2h): the padded length is whole blocks, the two squeezing
  loops agree, hex pairs versus bytes; and the packing of the evaluator Spec.Fips202Eval.
-/
import Spec.Fips202Eval
import Proofs.Lemmas.Fips202Perm
namespace Proofs.Lemmas.Fips202Sponge
open Spec.Fips202 Proofs.Lemmas.KeccakString Proofs.Lemmas.Fips202Step
open Proofs.Lemmas.Fips202Perm

theorem padded_length (r m : Nat) (hr : 0 < r) :
    ∃ k, m + (Spec.Keccak.pad101 r m).length = r * k := by
  have hq : m % r < r := Nat.mod_lt m hr
  have hdm := Nat.div_add_mod m r
  rw [pad101_length, pad_zeros r (m % r) m hq rfl]
  split
  · exact ⟨m / r + 2, by rw [Nat.mul_add]; omega⟩
  · exact ⟨m / r + 1, by rw [Nat.mul_add]; omega⟩

theorem squeeze_agree (f : Str → Str) (b r d : Nat) (hr : 0 < r) (hrb : r ≤ b) (hf : ∀ S, (f S).length = b) :
    ∀ (fuel : Nat) (S Z : Str), S.length = b → d ≤ Z.length + fuel * r →
      squeeze f r d fuel S Z = (Z ++ Spec.Keccak.squeezeBlocks f r (nblk r (d - Z.length)) S).take d := by
  intro fuel
  induction fuel with
  | zero =>
    intro S Z _ hd
    simp only [squeeze, Trunc, squeeze_done f r hr (by omega : d ≤ Z.length), List.append_nil]
  | succ fuel ih =>
    intro S Z hS hd
    have hlen : (Z ++ Trunc r S).length = Z.length + r := by
      simp only [Trunc, List.length_append, List.length_take, hS]; omega
    simp only [squeeze]
    by_cases h1 : d ≤ (Z ++ Trunc r S).length
    · rw [if_pos h1]
      by_cases h2 : d ≤ Z.length
      · simp only [Trunc, squeeze_done f r hr h2, List.append_nil, List.take_append_of_le_length h2]
      · rw [squeeze_more f r hr (Nat.lt_of_not_le h2), squeeze_done f r hr (by omega), List.append_nil]
        rfl
    · rw [if_neg h1]
      have hd' : d ≤ (Z ++ Trunc r S).length + fuel * r := by
        rw [hlen]; rw [Nat.succ_mul] at hd; omega
      rw [ih (f S) _ (hf S) hd', hlen, squeeze_more f r hr (by omega : Z.length < d), Trunc, List.append_assoc]

theorem bytesOfHex_pairs (g : Nat → Nat) : ∀ l : List Nat,
    bytesOfHex (l.flatMap fun i => [g i / 16, g i % 16]) = l.map g := by
  intro l
  induction l with
  | nil => rfl
  | cons a l ih =>
    simp only [List.flatMap_cons, List.cons_append, List.nil_append, bytesOfHex, List.map_cons, ih]
    congr 1
    have := Nat.div_add_mod (g a) 16
    omega

theorem hexOfBytes_length (M : List Nat) : (hexOfBytes M).length = 2 * M.length := by
  induction M with
  | nil => rfl
  | cons b M ih => simp only [hexOfBytes, List.flatMap_cons, List.length_append, List.length_cons, List.length_nil] at ih ⊢; omega

theorem h2bT_agree : ∀ M : List Nat,
    ((List.range ((hexOfBytes M).length / 2)).flatMap fun i => (List.range 8).map fun j =>
        (16 * (hexOfBytes M).getD (2 * i) 0 + (hexOfBytes M).getD (2 * i + 1) 0).testBit j)
      = Spec.Keccak.bitsOfBytes M := by
  intro M
  induction M with
  | nil => rfl
  | cons b M ih =>
    have hl : (hexOfBytes (b :: M)).length / 2 = (hexOfBytes M).length / 2 + 1 := by
      rw [hexOfBytes_length, hexOfBytes_length, List.length_cons]; omega
    have hc : hexOfBytes (b :: M) = b / 16 :: b % 16 :: hexOfBytes M := rfl
    rw [hl, List.range_succ_eq_map (n := (hexOfBytes M).length / 2), List.flatMap_cons, List.flatMap_map]
    have hb : 16 * (b / 16) + b % 16 = b := Nat.div_add_mod b 16
    have h1 : ∀ i, (hexOfBytes (b :: M)).getD (2 * Nat.succ i) 0 = (hexOfBytes M).getD (2 * i) 0 := by
      intro i
      rw [hc, show 2 * Nat.succ i = (2 * i + 1) + 1 by omega, List.getD_cons_succ, List.getD_cons_succ]
    have h2 : ∀ i, (hexOfBytes (b :: M)).getD (2 * Nat.succ i + 1) 0 = (hexOfBytes M).getD (2 * i + 1) 0 := by
      intro i
      rw [hc, show 2 * Nat.succ i + 1 = (2 * i + 1 + 1) + 1 by omega, List.getD_cons_succ, List.getD_cons_succ]
    simp only [h1, h2, ih]
    simp only [hc, Nat.mul_zero, List.getD_cons_zero, Nat.zero_add, List.getD_cons_succ, hb,
      Spec.Keccak.bitsOfBytes, List.flatMap_cons]

open Spec.Fips202.Eval

theorem natOfStr_eq (l : Str) : natOfStr l = Spec.Keccak.bitsToNat l := by
  induction l with
  | nil => rfl
  | cons b bs ih => simp only [natOfStr, Spec.Keccak.bitsToNat, ih]

theorem unpack_pack {w : Nat} (A : StateArray) (x y z : Nat) (hx : x < 5) (hy : y < 5) (hz : z < w) :
    unpack w (pack w A) x y z = A x y z := by
  rw [← toStateArray_toStr A x y z hx hy hz]
  simp only [unpack, pack, natOfStr_eq, testBit_bitsToNat, bit, toStateArray]

theorem lanes_unpack_pack (w : Nat) (A : StateArray) : lanes w (unpack w (pack w A)) = lanes w A :=
  lanes_congr w _ _ fun x hx y hy z hz => unpack_pack A x y z hx hy hz

end Proofs.Lemmas.Fips202Sponge
