/-
  The backward CRC step for every reflected polynomial whose top bit (the x^0 coefficient) is
  set, every width ≥ 8: `crc_back_table(P)` is the table of 8-step preimages, and the table-driven backward loop of
  `crc_back_pos` is the two-sided inverse of the forward loop.
-/
import Model.Crc
import Spec.Crc
import Proofs.Lemmas.CrcLin
import Proofs.Lemmas.CrcModel
import Proofs.Lemmas.Bytes
import Proofs.Lemmas.Pair

namespace Proofs.Lemmas.CrcBack
open Model Model.Crc Spec.Crc Proofs.Lemmas.CrcLin Proofs.Lemmas.CrcModel
open Proofs.Lemmas.Bits (xor_mk or_mk shl_mk)

/-- the backward bit step on register values: undo `r := r>>1 xor (P if r&1)` -/
def bstepN (P w c : Nat) : Nat :=
  if c.testBit (w - 1) then (((c ^^^ P) <<< 1) % 2 ^ w) ||| 1 else (c <<< 1) % 2 ^ w

def bsteps (P w n c : Nat) : Nat := Nat.repeat (bstepN P w) n c

theorem bsteps_succ (P w n c : Nat) : bsteps P w (n + 1) c = bstepN P w (bsteps P w n c) := rfl

theorem bstepN_lt (P w c : Nat) (hw : 1 ≤ w) : bstepN P w c < 2 ^ w := by
  unfold bstepN
  split
  · exact Nat.or_lt_two_pow (Nat.mod_lt _ (Nat.two_pow_pos w)) (Nat.one_lt_two_pow (by omega))
  · exact Nat.mod_lt _ (Nat.two_pow_pos w)

theorem bsteps_lt (P w n c : Nat) (hw : 1 ≤ w) (hc : c < 2 ^ w) : bsteps P w n c < 2 ^ w := by
  cases n with
  | zero => exact hc
  | succ n => rw [bsteps_succ]; exact bstepN_lt P w _ hw

theorem step_bstepN (P w c : Nat) (hw : 1 ≤ w) (hP : P < 2 ^ w) (htop : P.testBit (w - 1) = true) (hc : c < 2 ^ w) :
    step P (bstepN P w c) = c := by
  unfold bstepN
  split
  · rename_i ht
    have hx : (c ^^^ P).testBit (w - 1) = false := by
      rw [Nat.testBit_xor, ht, htop]
      rfl
    rw [Bits.shl1_mod _ w hw (Nat.xor_lt_two_pow hc hP) hx]
    have h0 : ((c ^^^ P) <<< 1 ||| 1).testBit 0 = true := by simp
    unfold step
    rw [if_pos h0, Nat.shiftRight_or_distrib, Nat.shiftLeft_shiftRight]
    show (c ^^^ P ||| 0) ^^^ P = c
    rw [Nat.or_zero, Bits.xor_cancel_right]
  · rename_i ht
    rw [Bits.shl1_mod c w hw hc (by simpa using ht), step_shl]

/-- the top bit of `P` makes the forward step injective on `w`-bit values: it is xor-additive with trivial kernel -/
theorem step_eq_zero (P w y : Nat) (htop : P.testBit (w - 1) = true) (hy : y < 2 ^ w)
    (h : step P y = 0) : y = 0 := by
  unfold step at h
  split at h
  · have hP := (Bits.xor_eq_zero_iff _ _).1 h
    have : (y >>> 1).testBit (w - 1) = false := by
      rw [Nat.testBit_shiftRight]
      exact Bits.testBit_of_lt hy (by omega)
    rw [hP, htop] at this
    cases this
  · rename_i h0
    rw [Nat.testBit_zero, decide_eq_true_eq] at h0
    rw [Nat.shiftRight_eq_div_pow] at h
    omega

theorem step_inj (P w a b : Nat) (htop : P.testBit (w - 1) = true) (ha : a < 2 ^ w) (hb : b < 2 ^ w)
    (h : step P a = step P b) : a = b := by
  apply (Bits.xor_eq_zero_iff _ _).1
  apply step_eq_zero P w _ htop (Nat.xor_lt_two_pow ha hb)
  rw [step_xor, h, Nat.xor_self]

theorem steps_inj (P w : Nat) (hP : P < 2 ^ w) (htop : P.testBit (w - 1) = true) :
    ∀ (n a b : Nat), a < 2 ^ w → b < 2 ^ w → steps P n a = steps P n b → a = b := by
  intro n
  induction n with
  | zero => intro a b _ _ h; exact h
  | succ n ih =>
    intro a b ha hb h
    exact step_inj P w a b htop ha hb (ih _ _ (step_lt P w a hP ha) (step_lt P w b hP hb) h)

theorem steps_bsteps (P w : Nat) (hw : 1 ≤ w) (hP : P < 2 ^ w) (htop : P.testBit (w - 1) = true) :
    ∀ (n c : Nat), c < 2 ^ w → steps P n (bsteps P w n c) = c := by
  intro n
  induction n with
  | zero => intro c _; rfl
  | succ n ih =>
    intro c hc
    rw [bsteps_succ, steps, step_bstepN P w _ hw hP htop (bsteps_lt P w n c hw hc), ih c hc]

theorem bsteps_steps (P w : Nat) (hw : 1 ≤ w) (hP : P < 2 ^ w) (htop : P.testBit (w - 1) = true)
    (n y : Nat) (hy : y < 2 ^ w) : bsteps P w n (steps P n y) = y :=
  have hs := steps_lt P w n y hP hy
  steps_inj P w hP htop n _ _ (bsteps_lt P w n _ hw hs) hy (steps_bsteps P w hw hP htop n _ hs)

theorem msb_ne_zero (c : Bits) : (msb c ≠ 0) ↔ c.ival.testBit (c.size - 1) = true := by
  unfold msb Nat.testBit
  rw [Nat.and_comm]
  simp

theorem backStep_eq (P : Bits) (hw : 2 ≤ P.size) (x : Nat) :
    backStep P ⟨x, P.size⟩ = ⟨bstepN P.ival P.size x, P.size⟩ := by
  unfold backStep bstepN
  by_cases h : x.testBit (P.size - 1) = true
  · have hb1 : Py.bitLength 1 ≤ P.size := Nat.le_trans (by decide) hw
    rw [if_pos ((msb_ne_zero ⟨x, P.size⟩).2 h), if_pos h, xor_mk _ _ _ _ (Nat.le_refl _), shl_mk, Bits.ofNat,
      or_mk _ _ _ _ hb1]
  · rw [if_neg (mt (msb_ne_zero ⟨x, P.size⟩).1 h), if_neg h, shl_mk]

theorem repeat_backStep (P : Bits) (hw : 2 ≤ P.size) (n x : Nat) :
    Nat.repeat (backStep P) n ⟨x, P.size⟩ = ⟨bsteps P.ival P.size n x, P.size⟩ := by
  induction n with
  | zero => rfl
  | succ n ih => rw [Nat.repeat, ih, backStep_eq P hw, bsteps_succ]

theorem shl_top_lt (n w : Nat) (hn : n < 256) (hw : 8 ≤ w) : n <<< (w - 8) < 2 ^ w := by
  have := Bits.shl_lt n 8 (w - 8) hn
  rwa [Nat.add_sub_cancel' hw] at this

theorem shr_top_lt (r w : Nat) (hw : 8 ≤ w) (hr : r < 2 ^ w) : r >>> (w - 8) < 256 :=
  Bits.shr_lt r 8 (w - 8) (by rwa [Nat.add_sub_cancel' hw])

theorem backEntry_eq (P : Bits) (hw : 8 ≤ P.size) (n : Nat) (hn : n < 256) :
    backEntry P n = ⟨bsteps P.ival P.size 8 (n <<< (P.size - 8)), P.size⟩ := by
  unfold backEntry Bits.ofNatSz
  rw [Nat.mod_eq_of_lt (shl_top_lt n P.size hn hw)]
  exact repeat_backStep P (by omega) 8 _

abbrev backTable (P : Bits) : List Bits := (List.range 256).map (backEntry P)

theorem crcBackTable_eq (P : Bits) (hw : 8 ≤ P.size) : crcBackTable P = .ok (backTable P) := by
  unfold crcBackTable
  rw [if_neg (by omega)]

/-- table-driven backward byte step = eight backward bit steps: both sides are `w`-bit values that eight forward
    steps take to `r` -/
theorem back_byte (P w r : Nat) (hw : 8 ≤ w) (hP : P < 2 ^ w) (htop : P.testBit (w - 1) = true) (hr : r < 2 ^ w) :
    ((r <<< 8) % 2 ^ w) ^^^ bsteps P w 8 ((r >>> (w - 8)) <<< (w - 8)) = bsteps P w 8 r := by
  have hw1 : 1 ≤ w := by omega
  have htoplt := shl_top_lt _ w (shr_top_lt r w hw hr) hw
  apply steps_inj P w hP htop 8
  · exact Nat.xor_lt_two_pow (Nat.mod_lt _ (Nat.two_pow_pos w)) (bsteps_lt P w 8 _ hw1 htoplt)
  · exact bsteps_lt P w 8 r hw1 hr
  · rw [steps_bsteps P w hw1 hP htop 8 r hr, steps_xor, Bits.shl_mod r 8 w hw, steps_shl,
      steps_bsteps P w hw1 hP htop 8 _ htoplt]
    exact (Bits.split_low r (w - 8)).symm

/-- the backward loop on register values, over the bytes in the order the loop meets them -/
def bregister (P w r : Nat) (l : List Nat) : Nat := l.foldl (fun r b => bsteps P w 8 r ^^^ b) r

theorem backLoop_eq (P : Bits) (hPwf : P.WF) (hw : 8 ≤ P.size) (htop : P.ival.testBit (P.size - 1) = true) :
    ∀ (l : List Nat) (r : Nat), (∀ b ∈ l, b < 256) → r < 2 ^ P.size →
      backLoop (backTable P) P.size ⟨r, P.size⟩ l = .ok ⟨bregister P.ival P.size r l, P.size⟩
  | [], _, _, _ => rfl
  | b :: bs, r, hl, hr => by
    have hb : b < 256 := Bytes.AllBytes.head hl
    have h256 := two_pow_ge_256 _ hw
    have hidx := shr_top_lt r P.size hw hr
    have hbl : Py.bitLength b ≤ P.size := Nat.le_trans (Bits.bitLength_le_of_lt (n := 8) hb) hw
    have hstep : ((⟨r, P.size⟩ : Bits).shl 8).xor ((backEntry P (r >>> (P.size - 8))).xor (Bits.ofNat b))
        = ⟨bsteps P.ival P.size 8 r ^^^ b, P.size⟩ := by
      rw [backEntry_eq P hw _ hidx, Bits.ofNat, shl_mk, xor_mk _ _ _ _ hbl, xor_mk _ _ _ _ (Nat.le_refl _),
        ← Nat.xor_assoc, back_byte P.ival P.size r hw hPwf htop hr]
    have h8 : ¬ (P.size < 8) := by omega
    simp only [backLoop, h8, if_false, lookup_map_range _ 256 _ hidx, bind, Except.bind]
    rw [hstep]
    exact backLoop_eq P hPwf hw htop bs _ (Bytes.AllBytes.tail hl)
      (Nat.xor_lt_two_pow (bsteps_lt _ _ 8 r (by omega) hr) (by omega))

/-- on `w`-bit registers the forward run over `data` and the backward run over `data` reversed undo each other -/
theorem register_pair (P w : Nat) (hw : 8 ≤ w) (hP : P < 2 ^ w) (htop : P.testBit (w - 1) = true) (data : List Nat)
    (hd : ∀ b ∈ data, b < 256) :
    Pair (· < 2 ^ w) (register P · data) (bregister P w · data.reverse) (register P · data) (bregister P w · data.reverse) := by
  have hw1 : 1 ≤ w := by omega
  have e : (register P · data) = data.foldl fun r b => steps P 8 (r ^^^ b) := funext (register_bytes P data hd)
  rw [e]
  refine Pair.foldl data fun b hb => ?_
  have hb' : b < 2 ^ w := Nat.lt_of_lt_of_le (hd b hb) (two_pow_ge_256 w hw)
  exact .self
    (fun hr => ⟨steps_lt P w 8 _ hP (Nat.xor_lt_two_pow hr hb'), Nat.xor_lt_two_pow (bsteps_lt P w 8 _ hw1 hr) hb'⟩)
    fun hr => ⟨by rw [bsteps_steps P w hw1 hP htop 8 _ (Nat.xor_lt_two_pow hr hb'), Bits.xor_cancel_right],
      by rw [Bits.xor_cancel_right, steps_bsteps P w hw1 hP htop 8 _ hr]⟩

section
variable (P : Bits) (hP : P.WF) (hw : 8 ≤ P.size) (htop : P.ival.testBit (P.size - 1) = true)
  (data : List Nat) (hd : ∀ b ∈ data, b < 256) (pos : Nat) (hpos : pos < data.length) (xfinal : Nat) (hx : xfinal < 2 ^ P.size)
include hP hw htop hd hpos hx

theorem crcBackPos_eq (c : Nat) (hc : c < 2 ^ P.size) :
    crcBackPos data (pos : Int) (backTable P) (xfinal : Int) (c : Int)
      = .ok (some (bregister P.ival P.size (xfinal ^^^ c) (data.drop pos).reverse)) := by
  unfold crcBackPos
  have hp : (0 ≤ (pos : Int) ∧ (pos : Int) < (data.length : Int)) := ⟨by omega, by omega⟩
  simp only [hp, not_true_eq_false, if_false, lookup_map_range _ 256 0 (by decide), bind, Except.bind, and_self]
  rw [backEntry_eq P hw 0 (by decide)]
  have hr : (Bits.ofInt (xfinal : Int) (some P.size)).xor (Bits.ofInt (c : Int) none) = ⟨xfinal ^^^ c, P.size⟩ := by
    simp only [Bits.ofInt, Bits.ofNatSz, Bits.ofNat, Int.natAbs_natCast, Nat.mod_eq_of_lt hx]
    exact xor_mk _ _ _ _ (Bits.bitLength_le_of_lt hc)
  simp only [Int.toNat_natCast]
  rw [hr, backLoop_eq P hP hw htop _ _ (Bytes.AllBytes.drop hd pos).reverse (Nat.xor_lt_two_pow hx hc)]
  rfl

theorem crcBackPos_register (r0 : Nat) (hr : r0 < 2 ^ P.size) :
    crcBackPos data (pos : Int) (backTable P) (xfinal : Int)
      ((register P.ival r0 (data.drop pos) ^^^ xfinal : Nat) : Int) = .ok (some r0) := by
  have hdd := Bytes.AllBytes.drop hd pos
  rw [crcBackPos_eq P hP hw htop data hd pos hpos xfinal hx _
      (Nat.xor_lt_two_pow (register_lt _ _ hP hw _ r0 hdd hr) hx),
    Nat.xor_comm xfinal, Bits.xor_cancel_right, ((register_pair P.ival P.size hw hP htop _ hdd).undo hr).1]

theorem crcBackPos_preimage (c : Nat) (hc : c < 2 ^ P.size) :
    ∃ R, crcBackPos data (pos : Int) (backTable P) (xfinal : Int) (c : Int) = .ok (some R) ∧ R < 2 ^ P.size
      ∧ register P.ival R (data.drop pos) ^^^ xfinal = c := by
  have h := register_pair P.ival P.size hw hP htop _ (Bytes.AllBytes.drop hd pos)
  have hxc := Nat.xor_lt_two_pow hx hc
  exact ⟨_, crcBackPos_eq P hP hw htop data hd pos hpos xfinal hx c hc, (h.st hxc).2,
    by rw [(h.undo hxc).2, Nat.xor_comm xfinal, Bits.xor_cancel_right]⟩

end

end Proofs.Lemmas.CrcBack
