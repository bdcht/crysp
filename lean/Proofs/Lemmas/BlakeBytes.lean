/-
  Byte-level plumbing: the model's `Py` helpers against the specification's own copies, word <-> byte conversions.
-/
import Proofs.Lemmas.BlakeWords
import Proofs.Lemmas.BitsConv
import Spec.Blake
import Spec.Blake2
namespace Proofs.Lemmas.BlakeBytes
open Model Model.Py Proofs.Lemmas.BlakeWords

theorem leBytes_eq : ∀ k n, Py.leBytes k n = Spec.Blake2.leBytes k n
  | 0, _ => rfl
  | k + 1, n => by simp [Py.leBytes, Spec.Blake2.leBytes, leBytes_eq k]

theorem leInt_eq : ∀ l, Py.leInt l = Spec.Blake2.leVal l
  | [] => rfl
  | b :: bs => by simp [Py.leInt, Spec.Blake2.leVal, leInt_eq bs]

theorem chunks_eq_blake2 {α} (k : Nat) (hk : k ≠ 0) (l : List α) : Py.chunks k l = Spec.Blake2.chunk k l := by
  rw [Py.chunks, if_neg hk, Bytes.chunks_go_unique k (Spec.Blake2.chunk.go k) (fun _ => rfl) (fun _ _ => rfl)]
  rfl

theorem chunks_eq_blake {α} (k : Nat) (hk : k ≠ 0) (l : List α) : Py.chunks k l = Spec.Blake.chunk k l := by
  rw [Py.chunks, if_neg hk, Bytes.chunks_go_unique k (Spec.Blake.chunk.go k) (fun _ => rfl) (fun _ _ => rfl)]
  rfl

theorem pack_le {w} (x : BitVec w) (hw : w % 8 = 0) :
    (ofBV x).pack false = Spec.Blake2.leBytes (w / 8) x.toNat := by
  rw [ofBV_eq, Bits.pack_ofBV_le, leBytes_eq, show (w + 7) / 8 = w / 8 by omega]

theorem pack_be {w} (x : BitVec w) (hw : w % 8 = 0) :
    (ofBV x).pack true = (List.range (w / 8)).map fun i => (x.toNat / 2 ^ (8 * (w / 8 - 1 - i))) % 256 := by
  rw [ofBV_eq, Bits.pack_ofBV_be, Py.beBytes, Bytes.leBytes_eq_map, Fold.reverse_map_range,
    show (w + 7) / 8 = w / 8 by omega]
  apply List.map_congr_left
  intro i _
  rw [show (256 : Nat) = 2 ^ 8 from rfl, ← Nat.pow_mul]

end Proofs.Lemmas.BlakeBytes
