/-
  Deciphering inverts enciphering in `Spec.Des`, for every list of round keys: the sixteen iterations are the generic
  Feistel network of Proofs/Lemmas/Feistel.lean (the one the model's round loop is, too) with a round function that
  never fails.  Facts about the standard alone; what is used of the tables (`IP_IPinv`, `IPinv_IP`, what PC-1 selects)
  are the table checks of Proofs/C02_DesSpec.lean.
-/
import Proofs.Lemmas.Feistel
import Proofs.Lemmas.BitCodec
import Proofs.C02_DesSpec
namespace Spec.Des
open Proofs Proofs.Lemmas.BitCodec

theorem xor_cancel (a b : Bitstr) (ha : a.length = 32) (hb : b.length = 32) : xor (xor a b) b = a :=
  Lemmas.Fold.zipWith_cancel (fun x y => by cases x <;> cases y <;> rfl) a b (by omega)

theorem foldl_round (ks : List Bitstr) (LR : Bitstr × Bitstr) :
    ks.foldl round LR = Feistel.runP xor (fun K R => f R K) ks LR := rfl

theorem cryptBits_reverse (ks : List Bitstr) (blk : Bitstr) (h : blk.length = 64) :
    cryptBits ks.reverse (cryptBits ks blk) = blk := by
  have hx : (permute IP blk).length = 64 := length_permute IP blk
  obtain ⟨hr, hL', hR'⟩ := Feistel.runP_reverse xor (fun K R => f R K) (fun b => b.length = 32) xor_cancel
    (fun a b ha hb => by simp [xor, ha, hb]) (fun K a _ => length_permute P _)
    ks ((permute IP blk).take 32) ((permute IP blk).drop 32) (by simp [hx]) (by simp [hx])
  -- IP undoes the final IP⁻¹, the halves come out swapped, and the reversed network maps them back
  rw [cryptBits, cryptBits, foldl_round, foldl_round, C02_DesSpec.IP_IPinv _ (by simp [hL', hR']), List.take_left' hR',
    List.drop_left' hR', hr, List.take_append_drop, C02_DesSpec.IPinv_IP blk h]

theorem cryptBytes_reverse (ks : List Bitstr) (blk : List Nat) (hl : blk.length = 8) (hb : ∀ b ∈ blk, b < 256) :
    (bitsToBytes (cryptBits ks (bytesToBits blk))).length = 8 ∧
      bitsToBytes (cryptBits ks.reverse (bytesToBits (bitsToBytes (cryptBits ks (bytesToBits blk))))) = blk := by
  have hc : (cryptBits ks (bytesToBits blk)).length = 64 := length_permute IPinv _
  have hm : (cryptBits ks (bytesToBits blk)).length % 8 = 0 := by rw [hc]
  have h64 : (bytesToBits blk).length = 64 := by rw [des_bytesToBits, Lemmas.Padding.bytesToBits_length, hl]
  refine ⟨by rw [length_bitsToBytes, hc], ?_⟩
  rw [des_bitsToBytes _ hm, des_bytesToBits, Lemmas.Padding.bytesToBits_bitsToBytes _ hm, cryptBits_reverse _ _ h64,
    des_bitsToBytes _ (by rw [h64]), des_bytesToBits, Lemmas.Padding.bitsToBytes_bytesToBits blk hb]

theorem dec_enc (k blk : List Nat) (hk : k.length = 8) (hl : blk.length = 8) (hb : ∀ b ∈ blk, b < 256) :
    (enc k blk).bind (dec k) = some blk := by
  obtain ⟨h8, h⟩ := cryptBytes_reverse (keySchedule (bytesToBits k)) blk hl hb
  rw [enc, if_pos ⟨hk, hl⟩, Option.bind_some, dec, if_pos ⟨hk, h8⟩, encryptBits, decryptBits, h]

/-- with `k2 = k1`: a key whose schedule is a palindrome makes enciphering an involution -/
theorem enc_enc_of_reverse (k1 k2 blk : List Nat) (h1 : k1.length = 8) (h2 : k2.length = 8) (hl : blk.length = 8)
    (hb : ∀ b ∈ blk, b < 256)
    (hk : keySchedule (bytesToBits k2) = (keySchedule (bytesToBits k1)).reverse) :
    (enc k1 blk).bind (enc k2) = some blk := by
  obtain ⟨h8, h⟩ := cryptBytes_reverse (keySchedule (bytesToBits k1)) blk hl hb
  rw [enc, if_pos ⟨h1, hl⟩, Option.bind_some, enc, if_pos ⟨h2, h8⟩, encryptBits, encryptBits, hk, h]

theorem enc_congr_keySchedule (k k' blk : List Nat) (hl : k.length = k'.length)
    (h : keySchedule (bytesToBits k) = keySchedule (bytesToBits k')) : enc k blk = enc k' blk := by
  rw [enc, enc, encryptBits, encryptBits, h, hl]

/-- `i % 8 = 7`: the parity bits, which PC-1 does not select -/
theorem keySchedule_parity (key key' : Bitstr) (h : ∀ i < 64, i % 8 ≠ 7 → key.getD i false = key'.getD i false) :
    keySchedule key = keySchedule key' := by
  have hp : permute PC1 key = permute PC1 key' := by
    apply List.map_congr_left
    intro k hk
    have h65 : ∀ k ∈ PC1, k < 65 := by decide
    have := (C02_DesSpec.PC1_selects_nonparity_bits.2.2 k (h65 k hk)).mp hk
    exact h (k - 1) (by have := h65 k hk; omega) (by omega)
  simp only [keySchedule, hp]

end Spec.Des
