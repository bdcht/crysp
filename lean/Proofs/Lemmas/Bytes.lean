/-
  Byte lists: the predicate `AllBytes`, the integers `Py.leInt` / `Py.beInt` they denote, `Py.leBytes`, byte `k` of a
  number (`byteAt`), `Py.chunks`.  Of the xor of byte strings only that it is one (`AllBytes.zipWith_xor`); the algebra of
  `zipWith` is in Lemmas/Fold.
-/
import Model.Bits
import Proofs.Lemmas.BitsBasic
import Proofs.Lemmas.Fold
namespace Proofs.Lemmas.Bytes
open Model Model.Py Proofs.Lemmas.Bits

def AllBytes (s : List Nat) : Prop := ∀ x ∈ s, x < 256

theorem AllBytes.append_iff {a b : List Nat} : AllBytes (a ++ b) ↔ AllBytes a ∧ AllBytes b := List.forall_mem_append
theorem AllBytes.flatMap {α} {l : List α} {f : α → List Nat} (h : ∀ x ∈ l, AllBytes (f x)) : AllBytes (l.flatMap f) := by
  intro b hb
  obtain ⟨x, hx, hbx⟩ := List.mem_flatMap.1 hb
  exact h x hx b hbx
theorem AllBytes.flatten {l : List (List Nat)} (h : ∀ x ∈ l, AllBytes x) : AllBytes l.flatten :=
  List.flatMap_id (L := l) ▸ AllBytes.flatMap h
theorem AllBytes.tail {b : Nat} {bs : List Nat} (h : AllBytes (b :: bs)) : AllBytes bs :=
  fun x hx => h x (List.mem_cons_of_mem _ hx)
theorem AllBytes.head {b : Nat} {bs : List Nat} (h : AllBytes (b :: bs)) : b < 256 := h b List.mem_cons_self
theorem AllBytes.append {a b : List Nat} (ha : AllBytes a) (hb : AllBytes b) : AllBytes (a ++ b) :=
  AllBytes.append_iff.2 ⟨ha, hb⟩
theorem AllBytes.take {s : List Nat} (h : AllBytes s) (n : Nat) : AllBytes (s.take n) :=
  fun x hx => h x (List.mem_of_mem_take hx)
theorem AllBytes.drop {s : List Nat} (h : AllBytes s) (n : Nat) : AllBytes (s.drop n) :=
  fun x hx => h x (List.mem_of_mem_drop hx)
theorem AllBytes.reverse {s : List Nat} (h : AllBytes s) : AllBytes s.reverse :=
  fun x hx => h x (List.mem_reverse.1 hx)
theorem AllBytes.replicate {b : Nat} (hb : b < 256) (n : Nat) : AllBytes (List.replicate n b) :=
  fun _ hx => List.eq_of_mem_replicate hx ▸ hb
theorem AllBytes.map {f : Nat → Nat} (hf : ∀ b, b < 256 → f b < 256) {s : List Nat} (h : AllBytes s) : AllBytes (s.map f) := by
  intro x hx
  obtain ⟨b, hb, rfl⟩ := List.mem_map.1 hx
  exact hf b (h b hb)
theorem AllBytes.zipWith_xor {a b : List Nat} (ha : AllBytes a) (hb : AllBytes b) :
    AllBytes (List.zipWith (· ^^^ ·) a b) := by
  intro x hx
  obtain ⟨i, hi, rfl⟩ := List.mem_iff_getElem.1 hx
  rw [List.getElem_zipWith]
  exact Nat.xor_lt_two_pow (n := 8) (ha _ (List.getElem_mem _)) (hb _ (List.getElem_mem _))
theorem AllBytes.getD_lt {s : List Nat} (h : AllBytes s) (i : Nat) : s.getD i 0 < 256 :=
  Fold.getD_of_forall (P := fun x => x < 256) (by decide) h i

theorem allBytes_toNat (s : List (BitVec 8)) : AllBytes (s.map BitVec.toNat) :=
  List.forall_mem_map.mpr fun b _ => b.isLt

theorem map_toNat_ofNat {m : List Nat} (h : AllBytes m) : (m.map (BitVec.ofNat 8)).map BitVec.toNat = m := by
  rw [List.map_map]
  exact (List.map_congr_left fun x hx => Nat.mod_eq_of_lt (h x hx)).trans (List.map_id m)

theorem byte_cons_testBit (b x : Nat) (hb : b < 256) (q : Nat) :
    (b + 256 * x).testBit q = if q < 8 then b.testBit q else x.testBit (q - 8) := by
  have e : b + 256 * x = x <<< 8 ||| b := by
    rw [← Nat.shiftLeft_add_eq_or_of_lt (i := 8) (by simpa using hb), Nat.shiftLeft_eq]; omega
  rw [e, Nat.testBit_or, Nat.testBit_shiftLeft]
  by_cases hq : q < 8
  · have : ¬ q ≥ 8 := by omega
    simp [hq, this]
  · have h2 : q ≥ 8 := by omega
    simp [hq, h2, testBit_of_lt (n := 8) (by simpa using hb) h2]

theorem leInt_lt (s : List Nat) (h : AllBytes s) : leInt s < 2 ^ (8 * s.length) := by
  induction s with
  | nil => simp [leInt]
  | cons b bs ih =>
    have := ih h.tail
    have hb := h.head
    simp only [leInt, List.length_cons]
    have e : 2 ^ (8 * (bs.length + 1)) = 256 * 2 ^ (8 * bs.length) := by
      rw [Nat.mul_add, Nat.pow_add]
      simp
      omega
    omega

theorem pow256 (n : Nat) : 256 ^ n = 2 ^ (8 * n) := by
  rw [show (256 : Nat) = 2 ^ 8 by decide, ← Nat.pow_mul]

theorem leInt_singleton (y : Nat) : leInt [y] = y := by simp only [leInt, Nat.mul_zero, Nat.add_zero]

theorem leInt_append (a b : List Nat) : leInt (a ++ b) = leInt a + 256 ^ a.length * leInt b := by
  induction a with
  | nil => simp [leInt]
  | cons x xs ih =>
    simp only [List.cons_append, leInt, ih, List.length_cons]
    grind

theorem leInt_drop (s : List Nat) (h : AllBytes s) (i : Nat) : leInt s / 256 ^ i = leInt (s.drop i) := by
  induction i generalizing s with
  | zero => simp
  | succ n ih =>
    cases s with
    | nil => simp [leInt]
    | cons x xs =>
      have hx := h.head
      rw [List.drop_succ_cons, ← ih xs h.tail, leInt, Nat.pow_succ, Nat.mul_comm (256 ^ n) 256, ← Nat.div_div_eq_div_mul]
      congr 1
      omega

theorem leInt_take (s : List Nat) (h : AllBytes s) (n : Nat) : leInt s % 256 ^ n = leInt (s.take n) := by
  induction n generalizing s with
  | zero => simp [leInt, Nat.mod_one]
  | succ k ih =>
    cases s with
    | nil => simp [leInt]
    | cons x xs =>
      have hx := h.head
      rw [List.take_succ_cons, leInt, leInt, ← ih xs h.tail, Nat.pow_succ, Nat.mul_comm (256 ^ k) 256, Nat.mod_mul,
        Nat.add_mul_div_left _ _ (by decide : 0 < 256), Nat.add_mul_mod_self_left, Nat.div_eq_of_lt hx, Nat.mod_eq_of_lt hx,
        Nat.zero_add]

theorem leInt_word (s : List Nat) (h : AllBytes s) (m j : Nat) :
    leInt s / 2 ^ (8 * m * j) % 2 ^ (8 * m) = leInt ((s.drop (m * j)).take m) := by
  rw [Nat.mul_assoc, ← pow256, ← pow256, leInt_drop s h, leInt_take _ (h.drop _)]

def byteAt (X k : Nat) : Nat := X / 2 ^ (8 * k) % 256

theorem byteAt_lt (X k : Nat) : byteAt X k < 256 := Nat.mod_lt _ (by decide)

theorem byteAt_testBit (X k t : Nat) (ht : t < 8) : (byteAt X k).testBit t = X.testBit (8 * k + t) := by
  rw [byteAt, show (256 : Nat) = 2 ^ 8 from rfl, Nat.testBit_mod_two_pow, Nat.testBit_div_two_pow, decide_eq_true ht,
    Bool.true_and, Nat.add_comm]

theorem byteAt_leInt (s : List Nat) (h : AllBytes s) (k : Nat) : byteAt (leInt s) k = s.getD k 0 := by
  have := leInt_word s h 1 k
  rw [Nat.mul_one, Nat.one_mul] at this
  rw [byteAt, show (256 : Nat) = 2 ^ 8 from rfl, this, List.getD_eq_getElem?_getD, ← List.head?_drop]
  cases s.drop k with
  | nil => rfl
  | cons x r => simp [leInt]

theorem byteAt_mod (X L k : Nat) (hk : 8 * (k + 1) ≤ L) : byteAt (X % 2 ^ L) k = byteAt X k := by
  unfold byteAt
  have s1 : ∀ Z, Z / 2 ^ (8 * k) % 256 = Z % 2 ^ (8 * k + 8) / 2 ^ (8 * k) := by
    intro Z; rw [Nat.pow_add, Nat.mod_mul_right_div_self]
  rw [s1, s1 X, Nat.mod_mod_of_dvd _ (Nat.pow_dvd_pow 2 (by omega))]

/-- the last, partial byte of `Y` cut to `8 * q + r` bits with one more bit set above the cut: the top byte of Skein's
    bit-padded message (`SkBitPad.last_byte`) -/
theorem byteAt_last (Y q r : Nat) (hr : r < 8) :
    byteAt (Y % 2 ^ (8 * q + r) + 2 ^ (8 * q + r)) q = byteAt Y q % 2 ^ r + 2 ^ r := by
  unfold byteAt
  have h1 : Y % 2 ^ (8 * q + r) = Y % 2 ^ (8 * q) + 2 ^ (8 * q) * (Y / 2 ^ (8 * q) % 2 ^ r) := by
    rw [Nat.pow_add, Nat.mod_mul]
  have hlt : Y % 2 ^ (8 * q) < 2 ^ (8 * q) := Nat.mod_lt _ (Nat.two_pow_pos _)
  rw [h1, Nat.pow_add 2 (8 * q) r, Nat.add_assoc, ← Nat.mul_add, Nat.add_comm, Nat.mul_add_div (Nat.two_pow_pos _),
      Nat.div_eq_of_lt hlt, Nat.add_zero]
  have hw : Y / 2 ^ (8 * q) % 2 ^ r < 2 ^ r := Nat.mod_lt _ (Nat.two_pow_pos _)
  have h2r : 2 ^ r ≤ 128 := by
    have : r ≤ 7 := by omega
    calc 2 ^ r ≤ 2 ^ 7 := Nat.pow_le_pow_right (by decide) this
      _ = 128 := by decide
  rw [Nat.mod_eq_of_lt (by omega)]
  congr 1
  have : (256 : Nat) = 2 ^ r * 2 ^ (8 - r) := by rw [← Nat.pow_add, show r + (8 - r) = 8 by omega]
  rw [this, Nat.mod_mul_right_mod]

theorem leInt_testBit (s : List Nat) (h : AllBytes s) (u j : Nat) (hj : j < 8) :
    (leInt s).testBit (8 * u + j) = (s.getD u 0).testBit j := by
  rw [← byteAt_leInt s h u, byteAt_testBit _ _ _ hj]

theorem testBits_leInt (s : List Nat) (h : AllBytes s) :
    (List.range (8 * s.length)).map (fun i => (leInt s).testBit i) = s.flatMap fun x => (List.range 8).map fun j => x.testBit j := by
  have e : s = (List.range s.length).map fun u => s.getD u 0 := by
    rw [Fold.map_getD_range s 0 _ (Nat.le_refl _), List.take_length]
  conv => rhs; rw [e, List.flatMap_map]
  rw [Nat.mul_comm, Fold.map_range_mul]
  exact Fold.flatMap_congr_mem fun u _ => List.map_congr_left fun j hj => leInt_testBit s h u j (List.mem_range.1 hj)

theorem beInt_foldl (l : List Nat) (acc : Nat) :
    l.foldl (fun acc b => acc * 256 + b) acc = acc * 256 ^ l.length + leInt l.reverse := by
  induction l generalizing acc with
  | nil => simp [leInt]
  | cons b bs ih =>
    simp only [List.foldl_cons, ih, List.reverse_cons, leInt_append, List.length_reverse, List.length_cons, leInt]
    grind

theorem beInt_eq (l : List Nat) : beInt l = leInt l.reverse := by
  unfold beInt
  rw [beInt_foldl]
  simp

theorem beInt_lt (s : List Nat) (h : AllBytes s) : beInt s < 2 ^ (8 * s.length) := by
  rw [beInt_eq]
  have := leInt_lt s.reverse h.reverse
  simpa using this

theorem beInt_append (a b : List Nat) : beInt (a ++ b) = beInt a * 256 ^ b.length + beInt b := by
  simp only [beInt_eq, List.reverse_append, leInt_append, List.length_reverse]; grind

theorem beInt_testBit (s : List Nat) (h : AllBytes s) (u j : Nat) (hj : j < 8) :
    (beInt s).testBit (8 * u + j) = (s.reverse.getD u 0).testBit j := by
  rw [beInt_eq]; exact leInt_testBit _ h.reverse u j hj

@[simp] theorem leBytes_length (k n : Nat) : (leBytes k n).length = k := by
  induction k generalizing n with
  | zero => rfl
  | succ k ih => simp [leBytes, ih]

theorem leBytes_getElem (k n j : Nat) (h : j < (leBytes k n).length) : (leBytes k n)[j] = n / 256 ^ j % 256 := by
  induction k generalizing n j with
  | zero => simp at h
  | succ k ih =>
    cases j with
    | zero => simp [leBytes]
    | succ j =>
      simp only [leBytes, List.getElem_cons_succ]
      rw [ih]
      rw [Nat.pow_succ, Nat.mul_comm, Nat.div_div_eq_div_mul]

theorem leBytes_eq_map (k n : Nat) : leBytes k n = (List.range k).map fun j => n / 256 ^ j % 256 :=
  List.ext_getElem (by simp) fun j h1 h2 => by rw [leBytes_getElem, List.getElem_map, List.getElem_range]

theorem leBytes_allBytes (k n : Nat) : AllBytes (leBytes k n) := by
  rw [leBytes_eq_map]
  exact List.forall_mem_map.2 fun j _ => Nat.mod_lt _ (by decide)

theorem leBytes_getD_testBit (c v k t : Nat) (ht : t < 8) :
    ((leBytes c v).getD k 0).testBit t = (decide (k < c) && v.testBit (8 * k + t)) := by
  rw [leBytes_eq_map]
  by_cases hk : k < c
  · simp only [List.getD_eq_getElem?_getD, List.getElem?_map, List.getElem?_range hk, Option.map_some, Option.getD_some,
      pow256, decide_eq_true hk, Bool.true_and]
    exact byteAt_testBit v k t ht
  · simp [List.getD_eq_getElem?_getD, hk]

theorem leBytes_mod (k n : Nat) : leBytes k (n % 256 ^ k) = leBytes k n := by
  rw [leBytes_eq_map, leBytes_eq_map]
  apply List.map_congr_left
  intro j hj
  obtain ⟨d, rfl⟩ := Nat.exists_eq_add_of_lt (List.mem_range.1 hj)
  rw [show j + d + 1 = j + (d + 1) by omega, Nat.pow_add, Nat.mod_mul_right_div_self,
    Nat.mod_mod_of_dvd _ ⟨256 ^ d, by rw [Nat.pow_succ, Nat.mul_comm]⟩]

theorem leBytes_append (a b v : Nat) : leBytes (a + b) v = leBytes a v ++ leBytes b (v / 256 ^ a) := by
  induction a generalizing v with
  | zero => simp [leBytes]
  | succ a ih =>
    rw [show a + 1 + b = (a + b) + 1 by omega]
    simp only [leBytes, List.cons_append, ih]
    congr 3
    rw [Nat.pow_succ, Nat.div_div_eq_div_mul, Nat.mul_comm]

theorem leInt_leBytes (k n : Nat) : leInt (leBytes k n) = n % 256 ^ k := by
  induction k generalizing n with
  | zero => simp [leBytes, leInt, Nat.mod_one]
  | succ k ih =>
    simp only [leBytes, leInt, ih]
    rw [Nat.pow_succ, Nat.mul_comm (256 ^ k) 256, Nat.mod_mul]

theorem leBytes_leInt (s : List Nat) (h : AllBytes s) : leBytes s.length (leInt s) = s := by
  induction s with
  | nil => rfl
  | cons b bs ih =>
    have hb := h.head
    simp only [List.length_cons, leBytes, leInt]
    have e1 : (b + 256 * leInt bs) % 256 = b := by omega
    have e2 : (b + 256 * leInt bs) / 256 = leInt bs := by omega
    rw [e1, e2, ih h.tail]

theorem chunks_go_nil {α} (k : Nat) (fuel : Nat) : chunks.go k ([] : List α) fuel = [] := by
  cases fuel <;> simp [chunks.go]

theorem chunks_go_cons {α} (k : Nat) (l : List α) (hl : l ≠ []) (fuel : Nat) (hf : l.length ≤ fuel) :
    chunks.go k l fuel = l.take k :: chunks.go k (l.drop k) (fuel - 1) := by
  cases fuel with
  | zero => cases l with
    | nil => exact absurd rfl hl
    | cons _ _ => simp at hf
  | succ fuel =>
    have : l.isEmpty = false := by cases l with
      | nil => exact absurd rfl hl
      | cons _ _ => rfl
    simp [chunks.go, this]

theorem chunks_eq {α} (k : Nat) (hk : 0 < k) (l : List α) : chunks k l = chunks.go k l l.length := by
  unfold chunks; simp [Nat.pos_iff_ne_zero.1 hk]

theorem chunks_go_fuel {α} (k : Nat) (hk : 0 < k) (fuel fuel' : Nat) (l : List α) (h : l.length ≤ fuel)
    (h' : l.length ≤ fuel') : chunks.go k l fuel = chunks.go k l fuel' := by
  induction fuel generalizing l fuel' with
  | zero =>
    have : l = [] := List.eq_nil_of_length_eq_zero (by omega)
    rw [this, chunks_go_nil, chunks_go_nil]
  | succ fuel ih =>
    by_cases hl : l = []
    · rw [hl, chunks_go_nil, chunks_go_nil]
    · have hpos : 0 < l.length := List.length_pos_iff.2 hl
      rw [chunks_go_cons k l hl _ h, chunks_go_cons k l hl _ h']
      congr 1
      exact ih _ _ (by simp only [List.length_drop]; omega) (by simp only [List.length_drop]; omega)

/-- `Py.chunks.go` is the only function with its two equations: `Spec.Blake.chunk` and `Spec.Blake2.chunk` are copies of it -/
theorem chunks_go_unique {α} (k : Nat) (g : List α → Nat → List (List α)) (h0 : ∀ l, g l 0 = [])
    (hs : ∀ l fuel, g l (fuel + 1) = if l.isEmpty then [] else l.take k :: g (l.drop k) fuel) :
    ∀ (fuel : Nat) (l : List α), Py.chunks.go k l fuel = g l fuel
  | 0, l => (h0 l).symm
  | fuel + 1, l => by
    rw [hs, Py.chunks.go, chunks_go_unique k g h0 hs fuel]

theorem chunks_nil {α} (k : Nat) : chunks k ([] : List α) = [] := by
  unfold chunks
  split <;> rfl

theorem chunks_cons {α} (k : Nat) (hk : 0 < k) (l : List α) (h : l ≠ []) :
    chunks k l = l.take k :: chunks k (l.drop k) := by
  rw [chunks_eq k hk, chunks_eq k hk, chunks_go_cons k l h _ (Nat.le_refl _)]
  congr 1
  exact chunks_go_fuel k hk _ _ _ (by simp only [List.length_drop]; omega) (Nat.le_refl _)

theorem chunks_induction {α} (k : Nat) (hk : 0 < k) (P : List α → List (List α) → Prop) (hnil : P [] [])
    (hcons : ∀ (l : List α), l ≠ [] → k ∣ l.length → ∀ cs, P (l.drop k) cs → P l (l.take k :: cs))
    (l : List α) (hd : k ∣ l.length) : P l (chunks k l) := by
  induction l using Fold.drop_induction k hk with
  | nil => rw [chunks_nil]; exact hnil
  | step l hl ih =>
    have hkl : k ≤ l.length := Nat.le_of_dvd (List.length_pos_iff.2 hl) hd
    rw [chunks_cons k hk l hl]
    exact hcons l hl hd _ (ih (by rw [List.length_drop]; exact Nat.dvd_sub hd (Nat.dvd_refl k)))

theorem chunks_flatten {α} (k : Nat) (hk : 0 < k) (l : List α) : (chunks k l).flatten = l := by
  induction l using Fold.drop_induction k hk with
  | nil => rw [chunks_nil]; rfl
  | step l hl ih => rw [chunks_cons k hk l hl, List.flatten_cons, ih, List.take_append_drop]

theorem chunks_flatten_append {α} (k : Nat) (hk : 0 < k) : ∀ (Bs : List (List α)) (t : List α), (∀ b ∈ Bs, b.length = k) →
    chunks k (Bs.flatten ++ t) = Bs ++ chunks k t
  | [], _, _ => rfl
  | b :: Bs, t, h => by
    have hb : b.length = k := h b List.mem_cons_self
    have hne : b ++ (Bs.flatten ++ t) ≠ [] := List.append_ne_nil_of_left_ne_nil (List.ne_nil_of_length_pos (hb ▸ hk)) _
    rw [List.flatten_cons, List.append_assoc, chunks_cons k hk _ hne, List.take_left' hb, List.drop_left' hb,
      chunks_flatten_append k hk Bs t fun x hx => h x (List.mem_cons_of_mem _ hx), List.cons_append]

theorem chunks_short {α} (k : Nat) (hk : 0 < k) (t : List α) (h0 : t ≠ []) (hle : t.length ≤ k) : chunks k t = [t] := by
  rw [chunks_cons k hk t h0, List.take_of_length_le hle, List.drop_eq_nil_of_le hle, chunks_nil]

theorem chunks_full {α} (k : Nat) (hk : 0 < k) (l : List α) : k ∣ l.length → ∀ b ∈ chunks k l, b.length = k :=
  chunks_induction k hk (fun _ cs => ∀ b ∈ cs, b.length = k) (fun _ h => nomatch h)
    (fun l hl hd cs ih b hb => by
      rcases List.mem_cons.1 hb with rfl | hb
      · exact List.length_take_of_le (Nat.le_of_dvd (List.length_pos_iff.2 hl) hd)
      · exact ih b hb) l

theorem chunks_map {α β} (f : α → β) (k : Nat) (hk : 0 < k) (l : List α) :
    chunks k (l.map f) = (chunks k l).map (List.map f) := by
  induction l using Fold.drop_induction k hk with
  | nil => simp [chunks_nil]
  | step l hl ih =>
    rw [chunks_cons k hk l hl, chunks_cons k hk (l.map f) (by simpa using hl), ← List.map_drop, ih, List.map_cons, List.map_take]

theorem chunks_mem {α} (k : Nat) (hk : 0 < k) (l : List α) : ∀ b ∈ chunks k l, b ≠ [] ∧ b.length ≤ k := by
  induction l using Fold.drop_induction k hk with
  | nil => simp [chunks_nil]
  | step l hl ih =>
    rw [chunks_cons k hk l hl]
    intro b hb
    rcases List.mem_cons.mp hb with rfl | hb
    · exact ⟨by simpa using ⟨by omega, hl⟩, by simp only [List.length_take]; omega⟩
    · exact ih b hb

theorem chunks_length {α} (k : Nat) (hk : 0 < k) (l : List α) : (chunks k l).length = (l.length + k - 1) / k := by
  induction l using Fold.drop_induction k hk with
  | nil => rw [chunks_nil]; exact (Fold.ceilDiv_zero k hk).symm
  | step l hl ih =>
    rw [chunks_cons k hk l hl, List.length_cons, ih, List.length_drop,
      Fold.ceilDiv_step k l.length hk (List.length_pos_iff.2 hl)]

theorem chunks_length_whole {α} (n : Nat) (hn : 0 < n) (k : Nat) (l : List α)
    (h : l.length = k * n) : (chunks n l).length = k := by
  rw [chunks_length n hn, h, Nat.mul_comm, Fold.ceilDiv_mul n k hn]

theorem chunks_eq_range_map {α} (k : Nat) (hk : 0 < k) (l : List α) :
    chunks k l = (List.range (chunks k l).length).map fun i => (l.drop (i * k)).take k := by
  induction l using Fold.drop_induction k hk with
  | nil => simp [chunks_nil]
  | step l hl ih => rw [chunks_cons k hk l hl, List.length_cons, Fold.pieces_succ, ← ih]

theorem chunks_one {α} (l : List α) : chunks 1 l = l.map fun x => [x] := by
  induction l with
  | nil => exact chunks_nil 1
  | cons x xs ih => rw [chunks_cons 1 Nat.one_pos _ (List.cons_ne_nil x xs)]; simp [ih]

theorem chunks_self {α} (l : List α) (hne : l ≠ []) : chunks l.length l = [l] :=
  chunks_short _ (List.length_pos_iff.2 hne) l hne (Nat.le_refl _)

end Proofs.Lemmas.Bytes
