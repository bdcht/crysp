/-
  Refinement lemmas: Model.Blake2 against Spec.Blake2 (RFC 7693) — G, round, compression function F.
-/
import Proofs.Lemmas.BlakeRefine
import Spec.Blake2
namespace Proofs.Lemmas.Blake2Refine
open Model Model.Gen Proofs.Lemmas.BlakeWords

/-- the regenerated data of a model configuration are those of a specification variant -/
structure Match (c : Blake.Cfg) (V : Spec.Blake2.Variant) : Prop where
  w : c.wsize = V.w
  iv : Blake2.iv c = V.iv.map BitVec.toNat
  rounds : Blake2.rounds c = V.rounds
  rot : Blake2.rot c = [V.R1, V.R2, V.R3, V.R4]
  ivlen : V.iv.length = 8
  r1 : V.R1 < V.w
  r2 : V.R2 < V.w
  r3 : V.R3 < V.w
  r4 : V.R4 < V.w
  block : c.blocksize = 8 * V.bb
  w8 : V.w % 8 = 0

theorem tables_eq : Spec.Blake2.sigma = Spec.Blake.sigma ∧ Spec.Blake2.positions = Spec.Blake.positions ∧
    BlakeG.b2gsched = BlakeG.gsched ∧ BlakeG.b2sigmaMod = BlakeG.sigmaMod :=
  ⟨rfl, rfl, rfl, rfl⟩

theorem gstep_refines {c : Blake.Cfg} {V : Spec.Blake2.Variant} (hm : Match c V)
    (W v : List (BitVec V.w)) (hW : W.length = 16) (hv : v.length = 16) (r i : Nat) (hi : i < 8) :
    Blake2.gstep c (W.map ofBV) r (v.map ofBV) (BlakeG.b2gsched.getD i []) = (Spec.Blake2.Gi V W r v i).map ofBV := by
  have hr : r % 10 < 10 := Nat.mod_lt _ (by decide)
  have hp := BlakeRefine.sigma_lt (r % 10) hr (2 * i) (by omega)
  have hq := BlakeRefine.sigma_lt (r % 10) hr (2 * i + 1) (by omega)
  obtain ⟨pa, pb, pc, pd⟩ := BlakeRefine.positions_lt i hi
  rw [tables_eq.2.2.1, BlakeRefine.gsched_getD i hi]
  simp only [Blake2.gstep, Blake.sigmaPQ, BlakeRefine.sigma_eq, tables_eq.2.2.2, BlakeRefine.sigmaMod_eq, List.getD_cons_zero,
    List.getD_cons_succ]
  rw [getW_map _ _ (by omega), getW_map _ _ (by omega), hm.rot]
  rw [gapply_ofBV _ _ _ _ hm.r1 hm.r2 hm.r3 hm.r4 _ _ _ _ _ _ _ (by omega) (by omega) (by omega) (by omega)]
  simp only [Spec.Blake2.Gi, Spec.Blake2.G, Spec.Blake2.at', tables_eq.1, tables_eq.2.1]

theorem round_refines {c : Blake.Cfg} {V : Spec.Blake2.Variant} (hm : Match c V)
    (W v : List (BitVec V.w)) (hW : W.length = 16) (hv : v.length = 16) (r : Nat) :
    Blake2.round c (W.map ofBV) (v.map ofBV) r = (Spec.Blake2.round V W v r).map ofBV ∧
      (Spec.Blake2.round V W v r).length = 16 := by
  unfold Blake2.round Spec.Blake2.round
  exact BlakeRefine.round_fold _ _
    (fun i hi v hv => ⟨gstep_refines hm W v hW hv r i hi, by simp [Spec.Blake2.Gi, hv]⟩) v hv

theorem allOnes_wd (w : Nat) : Blake.wd w (2 ^ w - 1) = ofBV (BitVec.allOnes w) := by
  rw [wd_eq]; congr 1
  apply BitVec.eq_of_toNat_eq
  simp [BitVec.toNat_allOnes]

theorem zero_wd (w : Nat) : Blake.wd w 0 = ofBV (0 : BitVec w) := by
  rw [wd_eq]; rfl

theorem compress_refines {c : Blake.Cfg} {V : Spec.Blake2.Variant} (hm : Match c V)
    (H W : List (BitVec V.w)) (hH : H.length = 8) (hW : W.length = 16) (t : Nat) (fin : Bool) :
    Blake2.compress c (H.map ofBV) (W.map ofBV) t fin = (Spec.Blake2.F V H W t fin).map ofBV ∧
      (Spec.Blake2.F V H W t fin).length = 8 := by
  refine ⟨?_, by simp [Spec.Blake2.F]⟩
  obtain ⟨h0, h1, h2, h3, h4, h5, h6, h7, rfl⟩ := Fold.exists_of_length_8 hH
  obtain ⟨i0, i1, i2, i3, i4, i5, i6, i7, hiv⟩ := Fold.exists_of_length_8 hm.ivlen
  unfold Blake2.compress Spec.Blake2.F
  simp only [hm.rounds, hm.w, counter_lo, counter_hi, hm.iv, map_wd_toNat, hiv]
  -- the initial state
  generalize hvs : (if fin = true then _ else _ : List (BitVec V.w)) = vs
  generalize hvm : _ ++ List.take 4 _ ++ Blake.xorL _ _ ++ Blake.xorL _ _ = vm
  have h0 : vm = vs.map ofBV ∧ vs.length = 16 := by
    rw [← hvs, ← hvm]
    cases fin <;> simp [Blake.xorL, ofBV_eq, BitsBitVec.xor_ofBV, allOnes_wd, zero_wd, BitVec.xor_comm, Spec.Blake2.at']
  obtain ⟨hr, hl⟩ := foldl_ofBV 16 _ _ (List.range V.rounds) (fun r _ v hv => round_refines hm W v hW hv r) vs h0.2
  rw [h0.1, hr]
  obtain ⟨v0, v1, v2, v3, v4, v5, v6, v7, v8, v9, v10, v11, v12, v13, v14, v15, hv⟩ := Fold.exists_of_length_16 hl
  rw [hv]
  simp [Blake.xorL, Spec.Blake2.at', ofBV_eq, BitsBitVec.xor_ofBV, List.range_succ, BitVec.xor_assoc]

end Proofs.Lemmas.Blake2Refine
