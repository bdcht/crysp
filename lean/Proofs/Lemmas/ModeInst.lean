/-
  `Implements c k` (ModeL.lean) for the block ciphers of the library, `Model.Mode.Ciphers.*` against `Spec.ModeCiphers.*`: AES and
  Threefish from the pair (`Implements.of_pair`) their refinement proofs end in, DES, TDEA and Serpent from their C03 and C02
  theorems (`implements_of_refines`).
-/
import Proofs.Lemmas.ModePadL
import Proofs.Lemmas.ModeCounter
import Model.ModeCiphers
import Spec.ModeCiphers
import Proofs.Lemmas.AesApi
import Proofs.C02_Des
import Proofs.C03_Des
import Proofs.C02_Serpent
import Proofs.C03_Serpent
import Proofs.Lemmas.TfEnd
namespace Proofs.Lemmas.ModeInst
open Model Model.Mode Proofs.Lemmas.ModeL Proofs.Lemmas.Bytes
open Spec.Threefish (bytesToWords)

/-- `henc`/`hdec` have the form of the C03 theorems, `hE`/`hD` that of the C02 refinement theorems -/
theorem implements_of_refines (c : BlockCipher) (l : Nat) (E D : List Nat → Option (List Nat)) (hlen : l = c.len)
    (hpos : 0 < c.len)
    (henc : ∀ b, IsBlock c.len b → ∃ y, c.enc b = .ok y ∧ IsBlock c.len y ∧ c.dec y = .ok b)
    (hdec : ∀ y, IsBlock c.len y → ∃ b, c.dec y = .ok b ∧ IsBlock c.len b ∧ c.enc b = .ok y)
    (hE : ∀ b, IsBlock c.len b → (c.enc b).toOption = E b)
    (hD : ∀ b, IsBlock c.len b → (c.dec b).toOption = D b) :
    Implements c ⟨l, fun b => (E b).getD [], fun b => (D b).getD []⟩ :=
  have h := implements_of_model c hpos henc hdec
  .of_pair hlen hpos
    ⟨h.pair.st, h.pair.undo, fun {b} hb => by
      constructor
      · show (match c.enc b with | .ok y => y | .error _ => []) = (E b).getD []
        rw [← hE b hb]
        cases c.enc b <;> rfl
      · show (match c.dec b with | .ok y => y | .error _ => []) = (D b).getD []
        rw [← hD b hb]
        cases c.dec b <;> rfl⟩
    (h.enc_ok _) (h.dec_ok _)

def AesKey (K : List Nat) : Prop := (K.length = 16 ∨ K.length = 24 ∨ K.length = 32) ∧ Bytes K

theorem aes_implements (K : List Nat) (hK : AesKey K) : Implements (Ciphers.aes K) (Spec.ModeCiphers.fips197 K) :=
  have hk : Proofs.Aes.KeyOk K := hK
  .of_pair rfl (Nat.succ_pos _) (Proofs.Aes.cipher_pair_key hk) (Proofs.Aes.enc_ok hk.1 ·.1) (Proofs.Aes.dec_ok hk.1 ·.1)

theorem aes_ctor (K : List Nat) (hK : AesKey K) : Ciphers.aes? K = .ok (Ciphers.aes K) := by
  obtain ⟨h, _⟩ := hK
  unfold Ciphers.aes? Aes.init
  rcases h with h | h | h <;> simp [h, Aes.nrOf]

def DesKey (K : List Nat) : Prop := K.length = 8 ∧ Bytes K

theorem des_implements (K : List Nat) (hK : DesKey K) : Implements (Ciphers.des K) (Spec.ModeCiphers.fips46 K) :=
  implements_of_refines (Ciphers.des K) 8 (Spec.Des.enc K) (Spec.Des.dec K) rfl (Nat.succ_pos _)
    (fun b hb => by
      obtain ⟨C, h1, h2, h3, h4⟩ := Proofs.C03_Des.des_dec_enc K b hK.1 hb.1 hb.2
      exact ⟨C, h1, ⟨h2, h3⟩, h4⟩)
    (fun b hb => by
      obtain ⟨C, h1, h2, h3, h4⟩ := Proofs.C03_Des.des_enc_dec K b hK.1 hb.1 hb.2
      exact ⟨C, h1, ⟨h2, h3⟩, h4⟩)
    (fun b hb => Proofs.C02_Des.enc_refines K b hK.2 hb.2)
    (fun b hb => Proofs.C02_Des.dec_refines K b hK.2 hb.2)

theorem des_ctor (K : List Nat) (hK : DesKey K) : Ciphers.des? K = .ok (Ciphers.des K) := by
  obtain ⟨d, hd, _⟩ := Model.Des.DES_new_ok K hK.1
  simp [Ciphers.des?, hd]

def KeyingOk (ko : Spec.Des.Keying) : Prop :=
  IsBlock 8 ko.bundle.1 ∧ IsBlock 8 ko.bundle.2.1 ∧ IsBlock 8 ko.bundle.2.2

def TdeaKey (K1 : List Nat) (K2 K3 : Option (List Nat)) (ko : Spec.Des.Keying) : Prop :=
  Spec.ModeCiphers.keyingOfCall K1 K2 K3 = some ko ∧ KeyingOk ko

theorem new_of_call {K1 : List Nat} {K2 K3 : Option (List Nat)} {ko : Spec.Des.Keying} (h : TdeaKey K1 K2 K3 ko) :
    Des.TDEA.new K1 K2 K3 = Des.new3 ko.bundle.1 ko.bundle.2.1 ko.bundle.2.2 := by
  obtain ⟨hc, h1, h2, h3⟩ := h
  match K2, K3 with
  | none, some _ => cases hc
  | some k2, none =>
    cases hc
    exact Des.new_short K1 _ _ (Nat.le_of_eq h1.1) nofun
  | some k2, some k3 =>
    cases hc
    exact Des.new_short K1 _ _ (Nat.le_of_eq h1.1) nofun
  | none, none =>
    simp only [Spec.ModeCiphers.keyingOfCall, Spec.Des.keyingOfString] at hc
    by_cases e8 : K1.length = 8
    · rw [if_pos e8] at hc
      cases hc
      exact Des.new_short K1 _ _ (Nat.le_of_eq e8) fun _ => rfl
    rw [if_neg e8] at hc
    by_cases e16 : K1.length = 16
    · rw [if_pos e16] at hc
      cases hc
      rw [Des.new_string K1 (by omega)]
      simp [Spec.Des.Keying.bundle, e16, List.take_of_length_le (show (K1.drop 8).length ≤ 8 by simp [e16])]
    rw [if_neg e16] at hc
    by_cases e24 : K1.length = 24
    · rw [if_pos e24] at hc
      cases hc
      rw [Des.new_string K1 (by omega)]
      simp [Spec.Des.Keying.bundle, e24]
    · rw [if_neg e24] at hc
      cases hc

theorem bundle_refines (ko : Spec.Des.Keying) (M : List Nat) :
    Spec.Des.tdeaEnc ko M = Spec.Des.tdeaEnc (.opt1 ko.bundle.1 ko.bundle.2.1 ko.bundle.2.2) M ∧
    Spec.Des.tdeaDec ko M = Spec.Des.tdeaDec (.opt1 ko.bundle.1 ko.bundle.2.1 ko.bundle.2.2) M := by
  cases ko <;> exact ⟨rfl, rfl⟩

theorem tdea_new_ok {K1 : List Nat} {K2 K3 : Option (List Nat)} {ko : Spec.Des.Keying} (h : TdeaKey K1 K2 K3 ko) :
    ∃ t, Des.TDEA.new K1 K2 K3 = .ok t := by
  have ⟨_, h1, h2, h3⟩ := h
  exact ⟨_, by rw [new_of_call h, Des.new3, Des.DES_new_bytes _ h1.1 h1.2, Des.DES_new_bytes _ h2.1 h2.2,
    Des.DES_new_bytes _ h3.1 h3.2]; rfl⟩

theorem tdea_implements (K1 : List Nat) (K2 K3 : Option (List Nat)) (ko : Spec.Des.Keying) (h : TdeaKey K1 K2 K3 ko) :
    Implements (Ciphers.tdea K1 K2 K3) (Spec.ModeCiphers.sp80067 ko) := by
  have ⟨_, h1, h2, h3⟩ := h
  obtain ⟨t, ht⟩ := tdea_new_ok h
  have ee : ∀ b, Des.tdeaEnc K1 K2 K3 b = t.enc b := fun b => by simp [Des.tdeaEnc, ht, bind, Except.bind]
  have ed : ∀ b, Des.tdeaDec K1 K2 K3 b = t.dec b := fun b => by simp [Des.tdeaDec, ht, bind, Except.bind]
  have hr := fun b (hb : Bytes b) => Des.new3_refines _ _ _ b h1.2 h2.2 h3.2 hb
  exact implements_of_refines (Ciphers.tdea K1 K2 K3) 8 (Spec.Des.tdeaEnc ko) (Spec.Des.tdeaDec ko) rfl (Nat.succ_pos _)
    (fun b hb => by
      obtain ⟨C, c1, c2, c3, c4⟩ := Proofs.C03_Des.tdea_dec_enc t b hb.1 hb.2
      exact ⟨C, (ee b).trans c1, ⟨c2, c3⟩, (ed C).trans c4⟩)
    (fun b hb => by
      obtain ⟨C, c1, c2, c3, c4⟩ := Proofs.C03_Des.tdea_enc_dec t b hb.1 hb.2
      exact ⟨C, (ed b).trans c1, ⟨c2, c3⟩, (ee C).trans c4⟩)
    (fun b hb => by
      show (Des.tdeaEnc K1 K2 K3 b).toOption = _
      rw [Des.tdeaEnc, new_of_call h, (bundle_refines ko b).1]
      exact (hr b hb.2).1)
    (fun b hb => by
      show (Des.tdeaDec K1 K2 K3 b).toOption = _
      rw [Des.tdeaDec, new_of_call h, (bundle_refines ko b).2]
      exact (hr b hb.2).2)

theorem tdea_ctor (K1 : List Nat) (K2 K3 : Option (List Nat)) (ko : Spec.Des.Keying) (h : TdeaKey K1 K2 K3 ko) :
    Ciphers.tdea? K1 K2 K3 = .ok (Ciphers.tdea K1 K2 K3) := by
  obtain ⟨t, ht⟩ := tdea_new_ok h
  simp [Ciphers.tdea?, ht]

theorem tdeaKey_string8 (K : List Nat) (hl : K.length = 8) (hb : Bytes K) : TdeaKey K none none (.opt3 K) :=
  ⟨by simp [Spec.ModeCiphers.keyingOfCall, Spec.Des.keyingOfString, hl], ⟨hl, hb⟩, ⟨hl, hb⟩, ⟨hl, hb⟩⟩

theorem tdeaKey_string16 (K : List Nat) (hl : K.length = 16) (hb : Bytes K) :
    TdeaKey K none none (.opt2 (K.take 8) (K.drop 8)) :=
  ⟨by simp [Spec.ModeCiphers.keyingOfCall, Spec.Des.keyingOfString, hl],
   ⟨by simp [Spec.Des.Keying.bundle, hl], AllBytes.take hb 8⟩,
   ⟨by simp [Spec.Des.Keying.bundle, hl], AllBytes.drop hb 8⟩,
   ⟨by simp [Spec.Des.Keying.bundle, hl], AllBytes.take hb 8⟩⟩

theorem tdeaKey_string24 (K : List Nat) (hl : K.length = 24) (hb : Bytes K) :
    TdeaKey K none none (.opt1 (K.take 8) ((K.drop 8).take 8) (K.drop 16)) :=
  ⟨by simp [Spec.ModeCiphers.keyingOfCall, Spec.Des.keyingOfString, hl],
   ⟨by simp [Spec.Des.Keying.bundle, hl], AllBytes.take hb 8⟩,
   ⟨by simp [Spec.Des.Keying.bundle, hl], (AllBytes.drop hb 8).take 8⟩,
   ⟨by simp [Spec.Des.Keying.bundle, hl], AllBytes.drop hb 16⟩⟩

theorem tdeaKey_two (K1 K2 : List Nat) (h1 : IsBlock 8 K1) (h2 : IsBlock 8 K2) : TdeaKey K1 (some K2) none (.opt2 K1 K2) :=
  ⟨rfl, h1, h2, h1⟩

theorem tdeaKey_three (K1 K2 K3 : List Nat) (h1 : IsBlock 8 K1) (h2 : IsBlock 8 K2) (h3 : IsBlock 8 K3) :
    TdeaKey K1 (some K2) (some K3) (.opt1 K1 K2 K3) :=
  ⟨rfl, h1, h2, h3⟩

def SerpentKey (K : List Nat) : Prop := K.length ≤ 32 ∧ Bytes K

theorem serpent_implements (K : List Nat) (hK : SerpentKey K) :
    Implements (Ciphers.serpent K) (Spec.ModeCiphers.serpent K) :=
  implements_of_refines (Ciphers.serpent K) 16 (Spec.Serpent.enc K) (Spec.Serpent.dec K) rfl (Nat.succ_pos _)
    (fun b hb => by
      obtain ⟨C, h1, h2, h3, h4⟩ := Proofs.C03_Serpent.dec_enc_bytes K b hK.2 hb.2 hK.1 hb.1
      exact ⟨C, h1, ⟨h2.trans hb.1, h3⟩, h4⟩)
    (fun b hb => by
      obtain ⟨C, h1, h2, h3, h4⟩ := Proofs.C03_Serpent.enc_dec_bytes K b hK.2 hb.2 hK.1 hb.1
      exact ⟨C, h1, ⟨h2.trans hb.1, h3⟩, h4⟩)
    (fun b hb => (Proofs.C02_Serpent.enc_refines_bytes K b hK.2 hb.2 hK.1 hb.1).1)
    (fun b hb => (Proofs.C02_Serpent.dec_refines_bytes K b hK.2 hb.2 hK.1 hb.1).1)

theorem serpent_ctor (K : List Nat) (hK : SerpentKey K) : Ciphers.serpent? K = .ok (Ciphers.serpent K) := by
  have hk := Proofs.Lemmas.SerpentBytes.ofBytes_le K hK.2
  have hi := Proofs.Lemmas.SerpentKS.init_eq ⟨Spec.Serpent.leNat K, 8 * K.length⟩ (by show 8 * K.length ≤ 256; have := hK.1; omega)
    (Proofs.Lemmas.SerpentBytes.leNat_lt K)
  unfold Ciphers.serpent?
  simp only [hk, hi, bind, Except.bind]
  congr 1
  unfold Ciphers.serpentObj Ciphers.serpent
  congr 1
  · funext b
    simp only [Serpent.encBytes, Serpent.enc, hk, hi, bind, Except.bind]
  · funext b
    simp only [Serpent.decBytes, Serpent.dec, hk, hi, bind, Except.bind]

theorem serpentShared_eq (K : List Nat) : Spec.ModeCiphers.serpentShared K = Spec.ModeCiphers.serpent K := by
  unfold Spec.ModeCiphers.serpentShared Spec.ModeCiphers.serpent
  simp only [Spec.Serpent.enc, Spec.Serpent.dec, Spec.Serpent.encNat, Spec.Serpent.decNat]
  congr 1
  · funext b
    split <;> rfl
  · funext b
    split <;> rfl

def ThreefishKey (K T : List Nat) : Prop :=
  (K.length = 32 ∨ K.length = 64 ∨ K.length = 128) ∧ Bytes K ∧ T.length = 16 ∧ Bytes T

theorem threefish_implements (K T : List Nat) (hK : ThreefishKey K T) :
    Implements (Ciphers.threefish K T) (Spec.ModeCiphers.threefish K T) := by
  obtain ⟨hl, hk, htl, ht⟩ := hK
  have p := TfEnd.bytes_inv (TfInverse.enc_inv (TfEnd.valid_of_len hl) (bytesToWords K) (bytesToWords T))
  have hn : ∀ {b}, IsBlock K.length b → TfBytes.NBytes (8 * (K.length / 8)) b := fun hb => ⟨hb.2, by rw [hb.1]; omega⟩
  have hb' : ∀ {b}, TfBytes.NBytes (8 * (K.length / 8)) b → IsBlock K.length b := fun hb => ⟨by rw [hb.len]; omega, hb.bytes⟩
  have hs : ∀ {b}, IsBlock K.length b → Spec.Threefish.sizesOk K T b = true := fun hb => TfEnd.sizes_block hl htl (hn hb)
  exact .of_pair rfl (by show 0 < K.length; omega)
    ⟨fun hb => ⟨hb' (p.st (hn hb)).1, hb' (p.st (hn hb)).2⟩, fun hb => p.undo (hn hb),
      fun hb => ⟨by simp only [Spec.Threefish.enc, hs hb, if_true, Option.getD_some],
        by simp only [Spec.Threefish.dec, hs hb, if_true, Option.getD_some]⟩⟩
    (fun hb => TfEnd.encrypt_ok K T _ hk ht hb.2 (hs hb)) (fun hb => TfEnd.decrypt_ok K T _ hk ht hb.2 (hs hb))

theorem threefish_ctor (K T : List Nat) (hK : ThreefishKey K T) : Ciphers.threefish? K T = .ok (Ciphers.threefish K T) := by
  obtain ⟨hl, hk, htl, ht⟩ := hK
  obtain ⟨c, hc, hsz, _⟩ := Proofs.Lemmas.TfEnd.init_rel K T hk ht hl htl
  unfold Ciphers.threefish?
  simp only [hc]
  congr 1
  unfold Ciphers.threefishObj Ciphers.threefish
  congr 1
  · rw [hsz]
    omega
  · funext b
    simp only [Threefish.encrypt, hc, bind, Except.bind]
  · funext b
    simp only [Threefish.decrypt, hc, bind, Except.bind]

inductive LibCipher : BlockCipher → Spec.Mode.Cipher → Prop
  | aes (K : List Nat) : AesKey K → LibCipher (Ciphers.aes K) (Spec.ModeCiphers.fips197 K)
  | des (K : List Nat) : DesKey K → LibCipher (Ciphers.des K) (Spec.ModeCiphers.fips46 K)
  | tdea (K1 : List Nat) (K2 K3 : Option (List Nat)) (ko : Spec.Des.Keying) :
      TdeaKey K1 K2 K3 ko → LibCipher (Ciphers.tdea K1 K2 K3) (Spec.ModeCiphers.sp80067 ko)
  | serpent (K : List Nat) : SerpentKey K → LibCipher (Ciphers.serpent K) (Spec.ModeCiphers.serpent K)
  | threefish (K T : List Nat) : ThreefishKey K T → LibCipher (Ciphers.threefish K T) (Spec.ModeCiphers.threefish K T)

theorem lib_implements {c : BlockCipher} {k : Spec.Mode.Cipher} (h : LibCipher c k) : Implements c k := by
  cases h with
  | aes K hK => exact aes_implements K hK
  | des K hK => exact des_implements K hK
  | tdea K1 K2 K3 ko hK => exact tdea_implements K1 K2 K3 ko hK
  | serpent K hK => exact serpent_implements K hK
  | threefish K T hK => exact threefish_implements K T hK

theorem lib_len {c : BlockCipher} {k : Spec.Mode.Cipher} (h : LibCipher c k) :
    c.len = 8 ∨ c.len = 16 ∨ c.len = 32 ∨ c.len = 64 ∨ c.len = 128 := by
  cases h with
  | threefish K T hK =>
    have := hK.1
    show K.length = 8 ∨ K.length = 16 ∨ K.length = 32 ∨ K.length = 64 ∨ K.length = 128
    omega
  | _ => simp [Ciphers.aes, Ciphers.des, Ciphers.tdea, Ciphers.serpent]

def LibPadDom (l : Nat) (s : Spec.ModePad.Scheme) (M : List Nat) : Prop :=
  s = .none → M.length % l = 0 ∧ 0 < M.length

theorem lib_padDom {c : BlockCipher} {k : Spec.Mode.Cipher} (h : LibCipher c k) (s : Spec.ModePad.Scheme) (M : List Nat)
    (hd : LibPadDom c.len s M) : PadDom s c.len M := by
  have hl := lib_len h
  cases s with
  | none => exact hd rfl
  | pkcs7 =>
    show c.len < 256
    omega
  | x923 =>
    show c.len < 256
    omega
  | bit => trivial

def LibCtrDom (l : Nat) (iv : Option (List Nat)) : Prop := ∀ v, iv = some v → IsBlock l v

theorem lib_ctrDom {c : BlockCipher} {k : Spec.Mode.Cipher} (h : LibCipher c k) (iv : Option (List Nat))
    (hd : LibCtrDom c.len iv) : CtrDom c.len iv := by
  have hl := lib_len h
  cases iv with
  | none =>
    show c.len % 2 = 0
    omega
  | some v => exact hd v rfl

end Proofs.Lemmas.ModeInst
