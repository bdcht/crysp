/-
  The generic part of property C10: for a `Model.Objects.Machine` whose steps preserve
  the configuration (up to explicit re-configuration), preserve the invariant, and whose probe results depend on
  the configuration only, the result of a probe after ANY history equals its result on a fresh object.
-/
import Model.Objects
namespace Proofs.Lemmas.History
open Model Model.Objects

/-- what has to be shown per object kind.
    `Adm`   = the configurations the property quantifies over,
    `Valid` = the well-formed operations (arguments a Python caller can actually pass),
    `Inv`   = what is assumed about scratch state (`True`: nothing, i.e. havoc) -/
structure Sound (M : Machine) (Adm : M.Cfg → Prop) (Valid : M.Op → Prop) (Inv : M.State → Prop) : Prop where
  cfg_init : ∀ c, M.cfg (M.init c) = c
  cfg_preserved : ∀ s op, M.cfg (M.next s op) = M.reconf (M.cfg s) op
  adm_reconf : ∀ c op, Adm c → Adm (M.reconf c op)
  inv_init : ∀ c, Adm c → Inv (M.init c)
  inv_preserved : ∀ s op, Valid op → Inv s → Inv (M.next s op)
  result_depends_on_cfg : ∀ s s' op, M.probe op = true → Valid op → Adm (M.cfg s) → Inv s → Inv s' → M.cfg s = M.cfg s' →
    M.out s op = M.out s' op

variable {M : Machine} {Adm : M.Cfg → Prop} {Valid : M.Op → Prop} {Inv : M.State → Prop}

/-- the last field in one-state form: a probe returns what it returns on the re-initialised object -/
theorem Sound.of_reinit (cfg_init : ∀ c, M.cfg (M.init c) = c)
    (cfg_preserved : ∀ s op, M.cfg (M.next s op) = M.reconf (M.cfg s) op)
    (adm_reconf : ∀ c op, Adm c → Adm (M.reconf c op)) (inv_init : ∀ c, Adm c → Inv (M.init c))
    (inv_preserved : ∀ s op, Valid op → Inv s → Inv (M.next s op))
    (reinit : ∀ s op, M.probe op = true → Valid op → Adm (M.cfg s) → Inv s → M.out s op = M.out (M.init (M.cfg s)) op) :
    Sound M Adm Valid Inv where
  cfg_init := cfg_init
  cfg_preserved := cfg_preserved
  adm_reconf := adm_reconf
  inv_init := inv_init
  inv_preserved := inv_preserved
  result_depends_on_cfg s s' op hp hv ha hs hs' hc := by
    rw [reinit s op hp hv ha hs, reinit s' op hp hv (hc ▸ ha) hs', hc]

theorem cfg_run (h : Sound M Adm Valid Inv) (s : M.State) (ops : List M.Op) :
    M.cfg (M.run s ops) = M.reconfAll (M.cfg s) ops :=
  (List.foldl_hom M.cfg fun s op => (h.cfg_preserved s op).symm).symm

theorem inv_run (h : Sound M Adm Valid Inv) (s : M.State) (ops : List M.Op) (hv : ∀ op ∈ ops, Valid op) (hs : Inv s) :
    Inv (M.run s ops) :=
  List.foldlRecOn ops M.next hs fun s hs op hop => h.inv_preserved s op (hv op hop) hs

theorem adm_reconfAll (h : Sound M Adm Valid Inv) (c : M.Cfg) (ops : List M.Op) (hc : Adm c) : Adm (M.reconfAll c ops) :=
  List.foldlRecOn ops M.reconf hc fun c hc op _ => h.adm_reconf c op hc

theorem out_run (h : Sound M Adm Valid Inv) (s : M.State) (ha : Adm (M.cfg s)) (hs : Inv s) (ops : List M.Op)
    (hv : ∀ op ∈ ops, Valid op) (p : M.Op) (hp : M.probe p = true) (hvp : Valid p) :
    M.out (M.run s ops) p = M.out (M.init (M.reconfAll (M.cfg s) ops)) p := by
  have e := cfg_run h s ops
  have ha' := adm_reconfAll h _ ops ha
  exact h.result_depends_on_cfg _ _ _ hp hvp (e ▸ ha') (inv_run h s ops hv hs) (h.inv_init _ ha') (e.trans (h.cfg_init _).symm)

theorem history_independent (h : Sound M Adm Valid Inv) (c : M.Cfg) (hc : Adm c) (ops : List M.Op) (hv : ∀ op ∈ ops, Valid op)
    (p : M.Op) (hp : M.probe p = true) (hvp : Valid p) : M.after c ops p = M.fresh c ops p := by
  have e := out_run h (M.init c) ((h.cfg_init c).symm ▸ hc) (h.inv_init c hc) ops hv p hp hvp
  rwa [h.cfg_init] at e

theorem reconfAll_id (hr : ∀ c op, M.reconf c op = c) (c : M.Cfg) (ops : List M.Op) : M.reconfAll c ops = c :=
  List.foldlRecOn (motive := (· = c)) ops M.reconf rfl fun _ hc op _ => hc ▸ hr c op

theorem out_run' (h : Sound M Adm Valid Inv) (hr : ∀ c op, M.reconf c op = c) (s : M.State) (ha : Adm (M.cfg s)) (hs : Inv s)
    (ops : List M.Op) (hv : ∀ op ∈ ops, Valid op) (p : M.Op) (hp : M.probe p = true) (hvp : Valid p) :
    M.out (M.run s ops) p = M.out (M.init (M.cfg s)) p := by
  rw [out_run h s ha hs ops hv p hp hvp, reconfAll_id hr]

theorem history_independent' (h : Sound M Adm Valid Inv) (hr : ∀ c op, M.reconf c op = c) (c : M.Cfg) (hc : Adm c)
    (ops : List M.Op) (hv : ∀ op ∈ ops, Valid op) (p : M.Op) (hp : M.probe p = true) (hvp : Valid p) :
    M.after c ops p = M.out (M.init c) p := by
  rw [history_independent h c hc ops hv p hp hvp, Machine.fresh, reconfAll_id hr]

def pairValid {M N : Machine} (V : M.Op → Prop) (W : N.Op → Prop) : (Machine.pair M N).Op → Prop
  | .inl o => V o
  | .inr o => W o

/-- an object and a bystander (sibling instance, module-level singleton): interleavings are histories of the pair -/
theorem pair_sound {M N : Machine} {A : M.Cfg → Prop} {B : N.Cfg → Prop} {V : M.Op → Prop} {W : N.Op → Prop}
    {I : M.State → Prop} {J : N.State → Prop} (hM : Sound M A V I) (hN : Sound N B W J) :
    Sound (Machine.pair M N) (fun c => A c.1 ∧ B c.2) (pairValid V W) (fun s => I s.1 ∧ J s.2) where
  cfg_init c := by
    show (M.cfg (M.init c.1), N.cfg (N.init c.2)) = c
    rw [hM.cfg_init, hN.cfg_init]; rfl
  cfg_preserved s op := by
    cases op with
    | inl o => simp only [Machine.pair, hM.cfg_preserved]
    | inr o => simp only [Machine.pair, hN.cfg_preserved]
  adm_reconf c op hc := by
    cases op with
    | inl o => exact ⟨hM.adm_reconf _ _ hc.1, hc.2⟩
    | inr o => exact ⟨hc.1, hN.adm_reconf _ _ hc.2⟩
  inv_init c hc := ⟨hM.inv_init _ hc.1, hN.inv_init _ hc.2⟩
  inv_preserved s op hv hs := by
    cases op with
    | inl o => exact ⟨hM.inv_preserved _ _ hv hs.1, hs.2⟩
    | inr o => exact ⟨hs.1, hN.inv_preserved _ _ hv hs.2⟩
  result_depends_on_cfg s s' op hp hv ha hs hs' hc := by
    have h1 : M.cfg s.1 = M.cfg s'.1 := congrArg Prod.fst hc
    have h2 : N.cfg s.2 = N.cfg s'.2 := congrArg Prod.snd hc
    cases op with
    | inl o => exact hM.result_depends_on_cfg _ _ _ hp hv ha.1 hs.1 hs'.1 h1
    | inr o => exact hN.result_depends_on_cfg _ _ _ hp hv ha.2 hs.2 hs'.2 h2

end Proofs.Lemmas.History
