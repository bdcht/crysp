/-
  BLAKE end to end, last step: the blocks `Blakepadding.iterblocks` yields, read as big-endian words and compressed with
  the counters observed at the yields, are the submission's  M[0:L] ‖ 1 ‖ 0…0 ‖ marker ‖ ⟨L⟩  cut into 16-word blocks with
  the submission's counters.
-/
import Proofs.Lemmas.BlakeEnd
namespace Proofs.Lemmas.BlakeFull
open Model Model.Py Spec.Padding Proofs.Lemmas.Padding Proofs.Lemmas.BlakeEnd Proofs.Lemmas.BlakeBytes

theorem chunk_nil {α} (k : Nat) : Spec.Blake.chunk k ([] : List α) = [] := rfl

theorem bitsVal_byteBits (b : Nat) (hb : b < 256) : Spec.Blake.bitsVal (byteBits b) = b :=
  (BitCodec.bitsVal_eq_byteOfBits _ (byteBits_length b)).trans (byteOfBits_byteBits b hb)

theorem bitsVal_bytesToBits (g : List Nat) (hg : Bytes g) : Spec.Blake.bitsVal (bytesToBits g) = Py.beInt g := by
  induction g with
  | nil => rfl
  | cons b g ih =>
    have h1 : (byteBits b).foldl (fun a (b : Bool) => 2 * a + b.toNat) 0 = b :=
      bitsVal_byteBits b (Bytes.AllBytes.head hg)
    rw [bytesToBits_cons]
    show (byteBits b ++ bytesToBits g).foldl _ 0 = Py.beInt ([b] ++ g)
    rw [List.foldl_append, h1, Bits.bitsVal_foldl, bytesToBits_length, Bytes.beInt_append, ← Bytes.pow256]
    show _ + Spec.Blake.bitsVal (bytesToBits g) = _
    rw [ih (Bytes.AllBytes.tail hg), Nat.mul_comm]
    simp [Py.beInt]

theorem words_of_bytes (k : Nat) (hk : 0 < k) (l : List Nat) (hl : Bytes l) :
    (Spec.Blake.chunk (8 * k) (bytesToBits l)).map Spec.Blake.bitsVal = (Spec.Blake.chunk k l).map Py.beInt := by
  have hk8 : 0 < 8 * k := Nat.mul_pos (by decide) hk
  rw [← chunks_eq_blake _ (Nat.ne_of_gt hk8), ← chunks_eq_blake _ (Nat.ne_of_gt hk)]
  induction l using Fold.drop_induction k hk with
  | nil =>
    rw [bytesToBits_nil, Bytes.chunks_nil, Bytes.chunks_nil]
    rfl
  | step l hnil ih =>
    have hnb : bytesToBits l ≠ [] := List.ne_nil_of_length_pos (by
      rw [bytesToBits_length]
      exact Nat.mul_pos (by decide) (List.length_pos_iff.mpr hnil))
    rw [Bytes.chunks_cons k hk l hnil, Bytes.chunks_cons (8 * k) hk8 _ hnb, List.map_cons, List.map_cons,
      ← bytesToBits_take, ← bytesToBits_drop, bitsVal_bytesToBits _ (Bytes.AllBytes.take hl k),
      ih (Bytes.AllBytes.drop hl k)]

theorem blockWords_bytes (V : Spec.Blake.Variant) (hw : V.w = 32 ∨ V.w = 64) (blk : List Nat) (hb : Bytes blk) :
    Spec.Blake.blockWords V (bytesToBits blk) = beWords V blk := by
  have hk : 0 < V.w / 8 := by rcases hw with h | h <;> rw [h] <;> decide
  have h8 : V.w = 8 * (V.w / 8) := by rcases hw with h | h <;> rw [h]
  have h := congrArg (List.map (BitVec.ofNat V.w)) (words_of_bytes (V.w / 8) hk blk hb)
  rw [List.map_map, List.map_map, ← h8] at h
  exact h

theorem msgBits_eq (M : List Nat) (L : Nat) : Spec.Blake.msgBits M L = takeBits L M := rfl

theorem natBits_eq (k n : Nat) : Spec.Blake.natBits k n = lenBE k n := rfl

theorem msgBits_length (M : List Nat) (L : Nat) (hL : L ≤ 8 * M.length) : (Spec.Blake.msgBits M L).length = L := by
  rw [msgBits_eq, takeBits, List.length_take, bytesToBits_length]
  exact Nat.min_eq_left hL

theorem padding_eq {c V} (hp : Pair c V) (bits : List Bool) :
    bits ++ Spec.Blake.padding V bits.length = Spec.Padding.pad (.blake c.size) (Padder.blakeP c.size).blocksize bits := by
  have g := pair_geo hp
  simp only [Spec.Blake.padding, Spec.Padding.pad, blakePad, natBits_eq, zeros, fill, g.specB, g.specW, g.marker,
    List.append_assoc]

theorem pad_length_mod8 {c V} (hp : Pair c V) (bits : List Bool) :
    (Spec.Padding.pad (.blake c.size) (Padder.blakeP c.size).blocksize bits).length % 8 = 0 := by
  rw [← padding_eq hp]
  simp only [Spec.Blake.padding, Spec.Blake.natBits, List.length_append, List.length_cons, List.length_nil,
    List.length_replicate, List.length_map, List.length_range]
  rcases (pair_geo hp).block with ⟨h1, h2⟩ | ⟨h1, h2⟩ <;> rw [h1, h2] <;> omega

/-- the zero run between the 1 bit and the marker: `lastblock`'s count after `done + k·B` counted bits and r bits in the
    last piece is the submission's for a message of done + k·B + r bits (done a whole number of blocks) -/
theorem zeros_eq (B w : Nat) (hB : 0 < B) (hw : 2 + 2 * w ≤ B) (done k r : Nat) (hd : done % B = 0) (hr : r ≤ B) :
    gap B (2 + 2 * w) r = (B - (done + (k * B + r) + 2 + 2 * w) % B) % B := by
  rw [← fill_gap B (done / B + k) r (2 + 2 * w) hB hr hw (by omega), fill, Nat.add_mul,
    Nat.div_mul_cancel (Nat.dvd_of_mod_eq_zero hd)]
  congr 3
  omega

theorem tail_eq {c V} (hp : Pair c V) (done k r : Nat) (hd : done % V.block = 0) (hr : r ≤ V.block) :
    modelTail (Padder.blakeP c.size) (done + k * V.block) r = Spec.Blake.padding V (done + (k * V.block + r)) := by
  have g := pair_geo hp
  have hw : 0 < V.block ∧ 2 + 2 * V.w ≤ V.block := by
    rcases g.block with ⟨h1, h2⟩ | ⟨h1, h2⟩ <;> omega
  simp only [g.padder, modelTail, preBits, sufBits, minPad, Spec.Blake.padding, natBits_eq, zeros, g.padW, g.marker, zeros_eq _ _ hw.1 hw.2 done k r hd hr,
    Nat.add_assoc, List.cons_append, List.nil_append, List.append_assoc]

theorem block_eq {c V} (hp : Pair c V) : (Padder.blakeP c.size).blocksize = V.block :=
  congrArg Padder.blocksize (pair_geo hp).padder

theorem blocks_bits {c V} (hp : Pair c V) (st : PadState) (hpf : st.padflag = false)
    (hdone : st.bitcnt % (Padder.blakeP c.size).blocksize = 0) (M : List Nat) (hM : Bytes M) (bitlen : Option Nat)
    (hL : bitlen.getD (8 * M.length) ≤ 8 * M.length) :
    ((((Padder.blakeP c.size).iterblocks st M bitlen true).yields.map (·.1)).map bytesToBits).flatten =
      Spec.Blake.msgBits M (bitlen.getD (8 * M.length)) ++ Spec.Blake.padding V (st.bitcnt + bitlen.getD (8 * M.length)) := by
  have hv := BlakeStream.valid_blakeP c (pair_cfg hp)
  have hB := block_eq hp
  obtain ⟨_, hcat, _⟩ := run_facts _ hv st hpf M (fun _ => hM) bitlen hL (fun _ => trivial)
  obtain ⟨e, h1, h2, _⟩ := piece_facts (Padder.blakeP c.size) hv M _ hL
  have hsplit : kOf (Padder.blakeP c.size) M bitlen * (Padder.blakeP c.size).blocksize + rOf (Padder.blakeP c.size) M bitlen
      = bitlen.getD (8 * M.length) := Nat.add_sub_cancel' h1
  have ht := tail_eq hp st.bitcnt (kOf (Padder.blakeP c.size) M bitlen) (rOf (Padder.blakeP c.size) M bitlen)
    (hB ▸ hdone) (hB ▸ h2)
  rw [← hB, hsplit] at ht
  -- the padded string is a whole number of blocks, hence of bytes
  have hmod8 : (Spec.Blake.msgBits M (bitlen.getD (8 * M.length))
      ++ Spec.Blake.padding V (st.bitcnt + bitlen.getD (8 * M.length))).length % 8 = 0 := by
    have htot := modelTail_total _ hv (st.bitcnt + kOf (Padder.blakeP c.size) M bitlen * (Padder.blakeP c.size).blocksize)
      (rOf (Padder.blakeP c.size) M bitlen) h2 (fun h => absurd trivial h) (fun h => nomatch h)
    have h8 := hv.mul8
    rw [List.length_append, ← ht, msgBits_eq, takeBits, List.length_take, bytesToBits_length, Nat.min_eq_left hL, ← hsplit,
      Nat.add_assoc, htot, show kOf (Padder.blakeP c.size) M bitlen * (Padder.blakeP c.size).blocksize = _ from e,
      Nat.mul_add_mod]
    split <;> omega
  rw [← bytesToBits_flatten, hcat, concat_bits _ hv st M hM bitlen hL, ht]
  exact bytesToBits_bitsToBytes _ hmod8

theorem fold_eq_finish_from {c V} (hp : Pair c V) (st : PadState) (hpf : st.padflag = false)
    (hdone : st.bitcnt % (Padder.blakeP c.size).blocksize = 0) (M : List Nat) (hM : Bytes M) (bitlen : Option Nat)
    (hL : bitlen.getD (8 * M.length) ≤ 8 * M.length) (H s : List (BitVec V.w)) :
    ((Padder.blakeP c.size).iterblocks st M bitlen true).yields.foldl
        (fun h (y : List Nat × PadState) => Spec.Blake.compress V h (beWords V y.1) s y.2.bitcnt) H
      = Spec.Blake.finish V H s st.bitcnt (Spec.Blake.msgBits M (bitlen.getD (8 * M.length))) := by
  have g := pair_geo hp
  have hv := BlakeStream.valid_blakeP c (pair_cfg hp)
  have hB := block_eq hp
  have hbits := blocks_bits hp st hpf hdone M hM bitlen hL
  obtain ⟨_, hcat, _, _, hcnt, _⟩ := run_facts _ hv st hpf M (fun _ => hM) bitlen hL (fun _ => trivial)
  have hbytes : Bytes (((Padder.blakeP c.size).iterblocks st M bitlen true).yields.map (·.1)).flatten :=
    hcat ▸ Bytes.AllBytes.append (Bytes.AllBytes.take hM _) (bitsToBytes_Bytes _)
  have hlen : ∀ y ∈ ((Padder.blakeP c.size).iterblocks st M bitlen true).yields,
      y.1.length = (Padder.blakeP c.size).blocksize / 8 :=
    BlakeTrace.blake_yields_blocklen c.size (Padder.blakeP c.size).blocksize (Padder.blakeW c.size) (BlakeStream.blakeP_word c (pair_cfg hp)) rfl st hpf M bitlen _ rfl hL
  generalize ((Padder.blakeP c.size).iterblocks st M bitlen true).yields = ys at hbits hbytes hcnt hlen ⊢
  have hwhole : ∀ b ∈ (ys.map (·.1)).map bytesToBits, b.length = V.block := by
    intro b hb
    simp only [List.map_map, List.mem_map] at hb
    obtain ⟨y, hy, rfl⟩ := hb
    show (bytesToBits y.1).length = _
    rw [bytesToBits_length, hlen y hy, ← hB]
    have := hv.mul8
    omega
  have hchunk := Bytes.chunks_flatten_append V.block (hB ▸ hv.pos) _ [] hwhole
  rw [List.append_nil, Bytes.chunks_nil, List.append_nil, chunks_eq_blake _ (Nat.ne_of_gt (hB ▸ hv.pos))] at hchunk
  unfold Spec.Blake.finish
  simp only [msgBits_length M _ hL]
  rw [← hbits, hchunk]
  -- both folds run over the same list of (words, counter) pairs
  rw [← List.foldl_map (f := fun (y : List Nat × PadState) => (beWords V y.1, y.2.bitcnt))
      (g := fun h (p : List (BitVec V.w) × Nat) => Spec.Blake.compress V h p.1 s p.2),
    ← List.foldl_map (f := fun (bi : List Bool × Nat) =>
        (Spec.Blake.blockWords V bi.1, Spec.Blake.counter V st.bitcnt (bitlen.getD (8 * M.length)) bi.2))
      (g := fun h (p : List (BitVec V.w) × Nat) => Spec.Blake.compress V h p.1 s p.2)]
  congr 1
  apply List.ext_getElem
  · simp
  · intro i h1 h2
    simp only [List.length_map] at h1
    simp only [List.getElem_map, List.getElem_zipIdx, Nat.zero_add]
    have hBy : Bytes ys[i].1 := fun x hx => hbytes x
      (List.mem_flatten.mpr ⟨ys[i].1, List.mem_map.mpr ⟨ys[i], List.getElem_mem _, rfl⟩, hx⟩)
    rw [blockWords_bytes V g.word _ hBy, hcnt i h1]
    simp only [Spec.Blake.counter, ← hB, effLen]
    rfl

theorem blake_update_final {c V} (hp : Pair c V) (H sw : List (BitVec V.w)) (hH : H.length = 8) (hs : sw.length = 4)
    (st : PadState) (hpf : st.padflag = false) (hdone : st.bitcnt % (Padder.blakeP c.size).blocksize = 0)
    (M : List Nat) (hM : Bytes M) (bitlen : Option Nat) (hL : bitlen.getD (8 * M.length) ≤ 8 * M.length) :
    (Blake.update c ⟨H.map BlakeWords.ofBV, sw.map BlakeWords.ofBV, st⟩ M bitlen true).2
      = .ok (Spec.Blake.output V (Spec.Blake.finish V H sw st.bitcnt (Spec.Blake.msgBits M (bitlen.getD (8 * M.length))))) := by
  rw [(blake_update_eq hp H sw hH hs st hpf M bitlen hL).1, fold_eq_finish_from hp st hpf hdone M hM bitlen hL]

theorem blake_call_hash {c V} (hp : Pair c V) (M : List Nat) (hM : Bytes M) (salt : Nat) (bitlen : Option Nat)
    (hL : bitlen.getD (8 * M.length) ≤ 8 * M.length) :
    Blake.call c M salt bitlen = .ok (Spec.Blake.hash V M (bitlen.getD (8 * M.length)) salt) := by
  rw [blake_call_eq hp M salt bitlen hL, fold_eq_finish_from hp {} rfl (Nat.zero_mod _) M hM bitlen hL]
  rfl

end Proofs.Lemmas.BlakeFull
