/-
  Non-vacuity for C05: the toy cipher `Model.Toy.rot` satisfies the cipher hypotheses `Implements`.
-/
import Proofs.Lemmas.ModeL
import Model.ToyCipher
namespace Proofs.Lemmas.ModeL
open Model Model.Mode Model.Toy Proofs.Lemmas.Bytes

theorem xorKey_eq (key b : List Nat) : xorKey key b = xorstr b key := rfl

theorem rot_isBlock {n : Nat} {x : List Nat} (hx : IsBlock n x) (j : Nat) : IsBlock n (x.drop j ++ x.take j) := by
  refine ⟨?_, (AllBytes.drop hx.2 j).append (AllBytes.take hx.2 j)⟩
  rw [List.length_append, List.length_drop, List.length_take, hx.1]
  omega

theorem rotr_rotl (x : List Nat) :
    (x.drop 1 ++ x.take 1).drop ((x.drop 1 ++ x.take 1).length - 1) ++ (x.drop 1 ++ x.take 1).take ((x.drop 1 ++ x.take 1).length - 1) = x := by
  cases x with
  | nil => rfl
  | cons a t => simp

theorem rotl_rotr (y : List Nat) :
    (y.drop (y.length - 1) ++ y.take (y.length - 1)).drop 1 ++ (y.drop (y.length - 1) ++ y.take (y.length - 1)).take 1 = y := by
  rcases List.eq_nil_or_concat y with rfl | ⟨t, a, rfl⟩
  · rfl
  · simp

theorem toy_rot_implements (n : Nat) (hn : 0 < n) (key : List Nat) (hk : IsBlock n key) :
    Implements (Toy.rot n key) ⟨n, rotEncF key, rotDecF key⟩ :=
  have px : Pair (IsBlock n) (xorstr · key) (xorstr · key) (xorstr · key) (xorstr · key) :=
    .involution (xor_isBlock · hk) (fun hb => xor_cancel_right _ key (by rw [hb.1, hk.1]; exact Nat.le_refl _)) fun _ => rfl
  have pr : Pair (IsBlock n) (fun x => x.drop 1 ++ x.take 1) (fun y => y.drop (y.length - 1) ++ y.take (y.length - 1)) _ _ :=
    .self (fun hx => ⟨rot_isBlock hx 1, rot_isBlock hx _⟩) fun _ => ⟨rotr_rotl _, rotl_rotr _⟩
  .of_pair rfl hn (px.comp pr) (fun hb => by simp [Toy.rot, guardLen, hb.1, rotEncF, xorKey_eq])
    (fun hb => by simp [Toy.rot, guardLen, hb.1, rotDecF, xorKey_eq])

end Proofs.Lemmas.ModeL
