/-
  Skein: stages, configuration string, output function and the plain (non-tree) hash versus Spec.Skein.
-/
import Proofs.Lemmas.SkUbi
namespace Proofs.Lemmas.SkHash
open Model Proofs.Lemmas.Bytes Proofs.Lemmas.TfBytes Proofs.Lemmas.SkBytes Proofs.Lemmas.SkTweak Proofs.Lemmas.SkUbi
open Spec.Threefish (toInt toBytes)

theorem bitsOf_none (M : List Nat) : bitsOf M none = 8 * M.length := rfl

variable {lb : Nat} (hlb : lb = 32 ∨ lb = 64 ∨ lb = 128)
include hlb

theorem ubi_type {G M : List Nat} (bitlen : Option Nat) (hG : NBytes lb G) (hM : AllBytes M) (hMl : M.length < 2 ^ 96)
    (hL : bitsOf M bitlen ≤ 8 * M.length) {c : Nat} (hlt : c < 2 ^ 6) :
    Skein.ubi G (typeTw c 0 0).bits M bitlen = .ok (Spec.Skein.ubi G M (bitsOf M bitlen) (c * 2 ^ 120)) ∧
    NBytes lb (Spec.Skein.ubi G M (bitsOf M bitlen) (c * 2 ^ 120)) := by
  rw [← typeTw_val0]
  exact ubi_eq hlb bitlen (typeTw_ok hlt (by decide) (by decide)) rfl rfl rfl hG hM hL (by show 0 + M.length < _; omega)

/-- a non-message stage `update(M,ty)` -/
theorem stage_eq {G M : List Nat} (hG : NBytes lb G) (hM : AllBytes M) (hMl : M.length < 2 ^ 96)
    (ty : String) (c : Nat) (hc : Skein.typeCode ty = .ok c) :
    Skein.stage G M ty = .ok (Spec.Skein.ubiBytes G M (c * 2 ^ 120)) ∧ NBytes lb (Spec.Skein.ubiBytes G M (c * 2 ^ 120)) := by
  simp only [Skein.stage, tweakOfType_eq ty c hc, bind, Except.bind]
  exact ubi_type hlb none hG hM hMl (Nat.le_refl _) (typeCode_lt hc)

omit hlb in
theorem truthy_iff (o : Option (List Nat)) : Skein.truthy o = true ↔ o.getD [] ≠ [] := by
  cases o with
  | none => simp [Skein.truthy]
  | some l => cases l <;> simp [Skein.truthy]

/-- the optional strings of a call, with the conditions a Python `bytes` shorter than 2^96 satisfies -/
structure OptOk (o : Option (List Nat)) : Prop where
  bytes : IsBytes (o.getD [])
  len : (o.getD []).length < 2 ^ 96

theorem optStage_eq {G : List Nat} (hG : NBytes lb G) {o : Option (List Nat)} (ho : OptOk o)
    (ty : String) (c : Nat) (hc : Skein.typeCode ty = .ok c) :
    Skein.optStage G o ty = .ok (Spec.Skein.optStage G (o.getD []) c) ∧ NBytes lb (Spec.Skein.optStage G (o.getD []) c) := by
  unfold Skein.optStage Spec.Skein.optStage
  by_cases h : o.getD [] = []
  · have : Skein.truthy o = false := by
      cases ht : Skein.truthy o with
      | false => rfl
      | true => exact absurd h ((truthy_iff o).1 ht)
    simp only [this, Bool.false_eq_true, ite_false, h, ite_true]
    exact ⟨rfl, hG⟩
  · simp only [(truthy_iff o).2 h, ite_true, h, ite_false]
    exact stage_eq hlb hG ho.bytes ho.len ty c hc

omit hlb

theorem toBytes_append (a b v : Nat) : toBytes (a + b) v = toBytes a v ++ toBytes b (v / 256 ^ a) :=
  toBytes_eq ▸ leBytes_append a b v

/-- the header `pack(Bits(1,16)//Bits(0,16)//Bits(No,64))` -/
theorem hdr_eq (No : Nat) :
    (((Bits.ofNatSz 1 16).concat (Bits.ofNatSz 0 16)).concat (Bits.ofNatSz No 64)).pack =
      toBytes 2 1 ++ toBytes 2 0 ++ toBytes 8 No := by
  have h1 : ((Bits.ofNatSz 1 16).concat (Bits.ofNatSz 0 16)) = ⟨1, 32⟩ := by
    simp [Bits.concat, Bits.ofNatSz]
  have h2 : (⟨1, 32⟩ : Bits).concat (Bits.ofNatSz No 64) = ⟨1 + 256 ^ 4 * (No % 256 ^ 8), 8 * 12⟩ :=
    (Bits.concat_eq_add ⟨1, 32⟩ _ (by decide) (Bits.ofNatSz_wf No 64)).trans (by rw [Nat.mul_comm]; rfl)
  rw [h1, h2, pack_eq_toBytes, toBytes_append 4 8, Nat.add_mul_div_left _ _ (by decide), Nat.div_eq_of_lt (by decide), Nat.zero_add,
    toBytes_mod 8, ← toBytes_mod 4, Nat.add_mul_mod_self_left]
  rfl

theorem mk_ok (Nb No Yl Yf Ym : Nat) (key prs PK kdf non : Option (List Nat))
    (hNb : Nb = 256 ∨ Nb = 512 ∨ Nb = 1024) (h1 : Yl ≤ 255) (h2 : Yf ≤ 255) (h3 : Ym ≤ 255) :
    Skein.mk Nb No Yl Yf Ym key prs PK kdf non =
      .ok (Skein.Cfg.mk (Nb / 8) No (Spec.Skein.cfgString No Yl Yf Ym) Yl Yf Ym key prs PK kdf non) := by
  unfold Skein.mk
  have h4 : ¬ (Yl > 255 ∨ Yf > 255 ∨ Ym > 255) := by omega
  simp only [hNb, not_true_eq_false, ite_false, h4, hdr_eq]
  simp only [Spec.Skein.cfgString, List.append_assoc]
  rfl

theorem cfg_eq (Nb No Yl Yf Ym : Nat) (key prs PK kdf non : Option (List Nat)) (c : Skein.Cfg)
    (h : Skein.mk Nb No Yl Yf Ym key prs PK kdf non = .ok c) :
    (Nb = 256 ∨ Nb = 512 ∨ Nb = 1024) ∧
    c = { Nb := Nb / 8, No := No, C := Spec.Skein.cfgString No Yl Yf Ym, Yl := Yl, Yf := Yf, Ym := Ym,
          key := key, prs := prs, PK := PK, kdf := kdf, non := non } := by
  by_cases h1 : (Nb = 256 ∨ Nb = 512 ∨ Nb = 1024)
  · by_cases h2 : (Yl > 255 ∨ Yf > 255 ∨ Ym > 255)
    · simp [Skein.mk, h1, h2] at h
    · rw [mk_ok Nb No Yl Yf Ym key prs PK kdf non h1 (by omega) (by omega) (by omega)] at h
      injection h with h
      exact ⟨h1, h.symm⟩
  · simp [Skein.mk, h1] at h

theorem nbytes_cfgString (No Yl Yf Ym : Nat) (h1 : Yl ≤ 255) (h2 : Yf ≤ 255) (h3 : Ym ≤ 255) :
    NBytes 32 (Spec.Skein.cfgString No Yl Yf Ym) := by
  unfold Spec.Skein.cfgString
  refine ⟨?_, by simp [toBytes_length]⟩
  refine AllBytes.append (AllBytes.append (AllBytes.append (AllBytes.append (AllBytes.append (allBytes_toBytes _ _) (allBytes_toBytes _ _))
    (allBytes_toBytes _ _)) (allBytes_toBytes _ _)) ?_) (AllBytes.replicate (by decide) _)
  intro x hx
  simp only [List.mem_cons, List.not_mem_nil, or_false] at hx
  rcases hx with h | h | h <;> subst h <;> omega

/-- the chaining value after key / cfg / prs / PK / kdf / nonce stages -/
def specInit (NbBits No Yl Yf Ym : Nat) (key prs pk kdf nonce : List Nat) : List Nat :=
  let Nb := NbBits / 8
  let K' := if key = [] then List.replicate Nb 0 else Spec.Skein.ubiBytes (List.replicate Nb 0) key (Spec.Skein.Tkey * 2 ^ 120)
  let G := Spec.Skein.ubiBytes K' (Spec.Skein.cfgString No Yl Yf Ym) (Spec.Skein.Tcfg * 2 ^ 120)
  let G := Spec.Skein.optStage G prs Spec.Skein.Tprs
  let G := Spec.Skein.optStage G pk Spec.Skein.TPK
  let G := Spec.Skein.optStage G kdf Spec.Skein.Tkdf
  Spec.Skein.optStage G nonce Spec.Skein.Tnon

theorem initstate_eq (Nb No Yl Yf Ym : Nat) (key prs PK kdf non : Option (List Nat))
    (hNb : Nb = 256 ∨ Nb = 512 ∨ Nb = 1024) (h1 : Yl ≤ 255) (h2 : Yf ≤ 255) (h3 : Ym ≤ 255)
    (hk : OptOk key) (hp : OptOk prs) (hP : OptOk PK) (hd : OptOk kdf) (hn : OptOk non) :
    Skein.initstate (Skein.Cfg.mk (Nb / 8) No (Spec.Skein.cfgString No Yl Yf Ym) Yl Yf Ym key prs PK kdf non) =
      .ok (specInit Nb No Yl Yf Ym (key.getD []) (prs.getD []) (PK.getD []) (kdf.getD []) (non.getD [])) ∧
    NBytes (Nb / 8) (specInit Nb No Yl Yf Ym (key.getD []) (prs.getD []) (PK.getD []) (kdf.getD []) (non.getD [])) := by
  have hlb : Nb / 8 = 32 ∨ Nb / 8 = 64 ∨ Nb / 8 = 128 := by omega
  have h0 : NBytes (Nb / 8) (List.replicate (Nb / 8) 0) := ⟨AllBytes.replicate (by decide) _, List.length_replicate⟩
  have hc := nbytes_cfgString No Yl Yf Ym h1 h2 h3
  obtain ⟨a1, a2⟩ := optStage_eq hlb h0 hk "key" Spec.Skein.Tkey rfl
  obtain ⟨b1, b2⟩ := stage_eq hlb a2 hc.bytes (by rw [hc.len]; decide) "cfg" Spec.Skein.Tcfg rfl
  obtain ⟨d1, d2⟩ := optStage_eq hlb b2 hp "prs" Spec.Skein.Tprs rfl
  obtain ⟨e1, e2⟩ := optStage_eq hlb d2 hP "PK" Spec.Skein.TPK rfl
  obtain ⟨f1, f2⟩ := optStage_eq hlb e2 hd "kdf" Spec.Skein.Tkdf rfl
  obtain ⟨g1, g2⟩ := optStage_eq hlb f2 hn "non" Spec.Skein.Tnon rfl
  refine ⟨?_, g2⟩
  unfold Skein.initstate
  simp only [bind, Except.bind, a1, b1, d1, e1, f1]
  exact g1

theorem ctr_block {lb : Nat} (hlb : lb = 32 ∨ lb = 64 ∨ lb = 128) {G : List Nat} (hG : NBytes lb G) (i : Nat) :
    Skein.ubi G (typeTw Spec.Skein.Tout 0 0).bits (Bits.ofNatSz i 64).pack none =
      .ok (Spec.Skein.ubiBytes G (toBytes 8 i) (Spec.Skein.Tout * 2 ^ 120)) ∧
    NBytes lb (Spec.Skein.ubiBytes G (toBytes 8 i) (Spec.Skein.Tout * 2 ^ 120)) := by
  rw [pack64]
  exact ubi_type hlb none hG (allBytes_toBytes _ _) (by rw [toBytes_length]; decide) (Nat.le_refl _) (by decide)

theorem output_eq {lb : Nat} (hlb : lb = 32 ∨ lb = 64 ∨ lb = 128) (c : Skein.Cfg) {G : List Nat} (hG : NBytes lb G) :
    Skein.output c G = .ok (Spec.Skein.output G c.No) ∧ NBytes ((c.No + 7) / 8) (Spec.Skein.output G c.No) := by
  have hne : ¬ (G.length = 0) := by
    rw [hG.len]
    omega
  have ht := tweakOfType_eq "out" Spec.Skein.Tout rfl
  have hm := Fold.mapM_ok (fun i => Skein.ubi G (typeTw Spec.Skein.Tout 0 0).bits (Bits.ofNatSz i 64).pack none)
    (fun i => Spec.Skein.ubiBytes G (toBytes 8 i) (Spec.Skein.Tout * 2 ^ 120))
    (List.range ((((c.No + 7) / 8) + G.length - 1) / G.length)) (fun i _ => (ctr_block hlb hG i).1)
  refine ⟨?_, ?_, ?_⟩
  · simp only [Skein.output, Spec.Skein.output, ht, bind, Except.bind, hne, false_and, ite_false, hm, pure, Except.pure,
      List.flatMap_map, id]
  · unfold Spec.Skein.output
    exact (AllBytes.flatMap fun i _ => (ctr_block hlb hG i).2.bytes).take _
  · unfold Spec.Skein.output
    simp only [hne, ite_false, List.length_take]
    rw [Fold.length_flatMap_const _ lb _ (fun i _ => (ctr_block hlb hG i).2.len), List.length_range, hG.len]
    rcases hlb with h | h | h <;> rw [h] <;> omega

/-- `Skein(...)(M,bitlen)` once the message stage is known: the stages before it, then the output function -/
theorem hash_of_update (Nb No Yl Yf Ym : Nat) (key prs PK kdf non : Option (List Nat)) (M : List Nat) (bitlen : Option Nat)
    (hNb : Nb = 256 ∨ Nb = 512 ∨ Nb = 1024) (h1 : Yl ≤ 255) (h2 : Yf ≤ 255) (h3 : Ym ≤ 255)
    (hk : OptOk key) (hp : OptOk prs) (hP : OptOk PK) (hd : OptOk kdf) (hn : OptOk non) (X : List Nat)
    (hu : NBytes (Nb / 8) (specInit Nb No Yl Yf Ym (key.getD []) (prs.getD []) (PK.getD []) (kdf.getD []) (non.getD [])) →
      Skein.updateMsg (Skein.Cfg.mk (Nb / 8) No (Spec.Skein.cfgString No Yl Yf Ym) Yl Yf Ym key prs PK kdf non)
        (specInit Nb No Yl Yf Ym (key.getD []) (prs.getD []) (PK.getD []) (kdf.getD []) (non.getD [])) M bitlen = .ok X ∧
      NBytes (Nb / 8) X) :
    Skein.hash Nb No Yl Yf Ym key prs PK kdf non M bitlen = .ok (Spec.Skein.output X No) ∧
    (Spec.Skein.output X No).length = (No + 7) / 8 := by
  have hlb : Nb / 8 = 32 ∨ Nb / 8 = 64 ∨ Nb / 8 = 128 := by omega
  obtain ⟨i1, i2⟩ := initstate_eq Nb No Yl Yf Ym key prs PK kdf non hNb h1 h2 h3 hk hp hP hd hn
  obtain ⟨u1, u2⟩ := hu i2
  obtain ⟨o1, o2⟩ := output_eq hlb (Skein.Cfg.mk (Nb / 8) No (Spec.Skein.cfgString No Yl Yf Ym) Yl Yf Ym key prs PK kdf non) u2
  simp only [Skein.hash, Skein.call, mk_ok Nb No Yl Yf Ym key prs PK kdf non hNb h1 h2 h3, bind, Except.bind, i1, u1]
  exact ⟨o1, o2.len⟩

theorem hash_plain (Nb No : Nat) (key prs PK kdf non : Option (List Nat)) (M : List Nat) (bitlen : Option Nat)
    (hNb : Nb = 256 ∨ Nb = 512 ∨ Nb = 1024) (hM : AllBytes M) (hMl : M.length < 2 ^ 96) (hL : bitsOf M bitlen ≤ 8 * M.length)
    (hk : OptOk key) (hp : OptOk prs) (hP : OptOk PK) (hd : OptOk kdf) (hn : OptOk non) :
    Skein.hash Nb No 0 0 0 key prs PK kdf non M bitlen =
      .ok (Spec.Skein.output (Spec.Skein.ubi (specInit Nb No 0 0 0 (key.getD []) (prs.getD []) (PK.getD []) (kdf.getD []) (non.getD []))
              M (bitsOf M bitlen) (Spec.Skein.Tmsg * 2 ^ 120)) No) ∧
    (Spec.Skein.output (Spec.Skein.ubi (specInit Nb No 0 0 0 (key.getD []) (prs.getD []) (PK.getD []) (kdf.getD []) (non.getD []))
              M (bitsOf M bitlen) (Spec.Skein.Tmsg * 2 ^ 120)) No).length = (No + 7) / 8 := by
  apply hash_of_update Nb No 0 0 0 key prs PK kdf non M bitlen hNb (by decide) (by decide) (by decide) hk hp hP hd hn
  intro hG
  simp only [Skein.updateMsg, and_self, not_true_eq_false, ite_false, tweakOfType_eq "msg" Spec.Skein.Tmsg rfl,
    bind, Except.bind]
  exact ubi_type (by omega) bitlen hG hM hMl hL (by decide)

theorem paramsOk_iff (Nb Yl Yf Ym : Nat) : Spec.Skein.paramsOk Nb Yl Yf Ym = true ↔
    (Nb = 256 ∨ Nb = 512 ∨ Nb = 1024) ∧
    ((Yl = 0 ∧ Yf = 0 ∧ Ym = 0) ∨ (1 ≤ Yl ∧ 1 ≤ Yf ∧ 2 ≤ Ym ∧ Yl ≤ 255 ∧ Yf ≤ 255 ∧ Ym ≤ 255)) := by
  simp [Spec.Skein.paramsOk, and_assoc, or_assoc]

theorem spec_skein (Nb No : Nat) (key prs pk kdf non M : List Nat) (L Yl Yf Ym : Nat)
    (hp : Spec.Skein.paramsOk Nb Yl Yf Ym = true) :
    Spec.Skein.skein Nb No key prs pk kdf non Yl Yf Ym M L =
      some (Spec.Skein.output
        (if Yl = 0 ∧ Yf = 0 ∧ Ym = 0 then Spec.Skein.ubi (specInit Nb No Yl Yf Ym key prs pk kdf non) M L (Spec.Skein.Tmsg * 2 ^ 120)
         else Spec.Skein.tree (specInit Nb No Yl Yf Ym key prs pk kdf non) M L Yl Yf Ym) No) := by
  unfold Spec.Skein.skein specInit
  simp only [hp, not_true_eq_false, ite_false]

end Proofs.Lemmas.SkHash
