/-
  InvMixColumn∘MixColumn and MixColumn∘InvMixColumn of a column are the identity (FIPS 197 eq. 5.6 / 5.10).  Both are
  circulant matrices over GF(2^8), m = circ(02,03,01,01), inv = circ(0e,0b,0d,09), and circulants multiply like
  polynomials modulo x^4+1 (`circ_circ`, from the ring laws of AesField); the two products have the coefficients
  (01,00,00,00).
-/
import Proofs.Lemmas.AesField
namespace Proofs.Aes
open Spec.Aes

theorem xor4_lt {a b c d : Nat} (ha : a < 256) (hb : b < 256) (hc : c < 256) (hd : d < 256) :
    a ^^^ b ^^^ c ^^^ d < 256 :=
  Nat.xor_lt_two_pow (n := 8) (Nat.xor_lt_two_pow (n := 8) (Nat.xor_lt_two_pow (n := 8) ha hb) hc) hd

/-- the column s0 + s1·x + s2·x² + s3·x³ times c0 + c3·x + c2·x² + c1·x³ modulo x⁴+1: the circulant matrix with
    first row c0 c1 c2 c3 (FIPS 197 §4.3) -/
def circ (c0 c1 c2 c3 : Nat) : List Nat → List Nat
  | [s0, s1, s2, s3] =>
    [gfmul c0 s0 ^^^ gfmul c1 s1 ^^^ gfmul c2 s2 ^^^ gfmul c3 s3,
     gfmul c3 s0 ^^^ gfmul c0 s1 ^^^ gfmul c1 s2 ^^^ gfmul c2 s3,
     gfmul c2 s0 ^^^ gfmul c3 s1 ^^^ gfmul c0 s2 ^^^ gfmul c1 s3,
     gfmul c1 s0 ^^^ gfmul c2 s1 ^^^ gfmul c3 s2 ^^^ gfmul c0 s3]
  | w => w

theorem bytes4 {a b c d : Nat} : (∀ x ∈ [a, b, c, d], x < 256) ↔ a < 256 ∧ b < 256 ∧ c < 256 ∧ d < 256 := by
  simp only [List.forall_mem_cons, List.not_mem_nil, false_imp_iff, implies_true, and_true]

theorem circ_lt {c0 c1 c2 c3 a b c d : Nat} (hc : ∀ x ∈ [c0, c1, c2, c3], x < 256) (hw : ∀ x ∈ [a, b, c, d], x < 256) :
    ∀ x ∈ circ c0 c1 c2 c3 [a, b, c, d], x < 256 := by
  obtain ⟨h0, h1, h2, h3⟩ := bytes4.mp hc
  obtain ⟨ha, hb, hc, hd⟩ := bytes4.mp hw
  have g := @gfmul_lt
  exact bytes4.mpr ⟨xor4_lt (g h0 ha) (g h1 hb) (g h2 hc) (g h3 hd), xor4_lt (g h3 ha) (g h0 hb) (g h1 hc) (g h2 hd),
    xor4_lt (g h2 ha) (g h3 hb) (g h0 hc) (g h1 hd), xor4_lt (g h1 ha) (g h2 hb) (g h3 hc) (g h0 hd)⟩

theorem circ_circ {p0 p1 p2 p3 q0 q1 q2 q3 a b c d : Nat} (hp : ∀ x ∈ [p0, p1, p2, p3], x < 256)
    (hq : ∀ x ∈ [q0, q1, q2, q3], x < 256) (hw : ∀ x ∈ [a, b, c, d], x < 256) :
    circ p0 p1 p2 p3 (circ q0 q1 q2 q3 [a, b, c, d]) =
      circ (gfmul p0 q0 ^^^ gfmul p1 q3 ^^^ gfmul p2 q2 ^^^ gfmul p3 q1)
        (gfmul p0 q1 ^^^ gfmul p1 q0 ^^^ gfmul p2 q3 ^^^ gfmul p3 q2)
        (gfmul p0 q2 ^^^ gfmul p1 q1 ^^^ gfmul p2 q0 ^^^ gfmul p3 q3)
        (gfmul p0 q3 ^^^ gfmul p1 q2 ^^^ gfmul p2 q1 ^^^ gfmul p3 q0) [a, b, c, d] := by
  obtain ⟨h0, h1, h2, h3⟩ := bytes4.mp hp
  obtain ⟨k0, k1, k2, k3⟩ := bytes4.mp hq
  obtain ⟨ha, hb, hc, hd⟩ := bytes4.mp hw
  simp (disch := assumption) only [circ, gfmul_xor_left, gfmul_xor_right, gfmul_assoc, List.cons.injEq, and_true]
  refine ⟨?_, ?_, ?_, ?_⟩ <;> ac_rfl

theorem circ_one {a b c d : Nat} (hw : ∀ x ∈ [a, b, c, d], x < 256) : circ 1 0 0 0 [a, b, c, d] = [a, b, c, d] := by
  obtain ⟨ha, hb, hc, hd⟩ := bytes4.mp hw
  simp only [circ, gfmul_one_left _ ha, gfmul_one_left _ hb, gfmul_one_left _ hc, gfmul_one_left _ hd, gfmul_zero_left,
    Nat.xor_zero, Nat.zero_xor]

/-- `invMixColumn` is `circ 14 11 13 9` as it stands; `mixColumn` leaves out the products by {01} -/
theorem mixColumn_eq_circ {a b c d : Nat} (hw : ∀ x ∈ [a, b, c, d], x < 256) :
    mixColumn [a, b, c, d] = circ 2 3 1 1 [a, b, c, d] := by
  obtain ⟨ha, hb, hc, hd⟩ := bytes4.mp hw
  simp only [circ, mixColumn, gfmul_one_left _ ha, gfmul_one_left _ hb, gfmul_one_left _ hc, gfmul_one_left _ hd]

theorem spec_invMixColumn_mixColumn {a b c d : Nat} (hw : ∀ x ∈ [a, b, c, d], x < 256) :
    Spec.Aes.invMixColumn (Spec.Aes.mixColumn [a, b, c, d]) = [a, b, c, d] ∧
      Spec.Aes.mixColumn (Spec.Aes.invMixColumn [a, b, c, d]) = [a, b, c, d] := by
  have e1 : circ 14 11 13 9 (circ 2 3 1 1 [a, b, c, d]) = circ 1 0 0 0 [a, b, c, d] :=
    circ_circ (by decide) (by decide) hw
  have e2 : circ 2 3 1 1 (circ 14 11 13 9 [a, b, c, d]) = circ 1 0 0 0 [a, b, c, d] :=
    circ_circ (by decide) (by decide) hw
  have hi : ∀ x ∈ circ 14 11 13 9 [a, b, c, d], x < 256 := circ_lt (by decide) hw
  rw [mixColumn_eq_circ hw]
  exact ⟨e1.trans (circ_one hw), (mixColumn_eq_circ hi).trans (e2.trans (circ_one hw))⟩

end Proofs.Aes
