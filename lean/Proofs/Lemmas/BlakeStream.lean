/-
  Streaming for Model.Blake / Model.Blake2: updates over block-aligned pieces followed by the rest are one update on the
  concatenation.  The iterator side is `Padding.nonfinal_piece` and `Padding.piece_then_rest` (C09's `continuation` for
  whole bytes); here it is lifted through the two `update` functions, and the induction over the piece list is
  `Padding.feed_fold` for both.
-/
import Proofs.Lemmas.BlakeTrace
import Proofs.Lemmas.PaddingCont
namespace Proofs.Lemmas.BlakeStream
open Model Model.Py Proofs.Lemmas.Padding Proofs.Lemmas.BlakeTrace

def blakeCfg (c : Blake.Cfg) : Prop := c = Blake.blake224 ∨ c = Blake.blake256 ∨ c = Blake.blake384 ∨ c = Blake.blake512

theorem blakeP_geom (c : Blake.Cfg) (hc : blakeCfg c) :
    ((Padder.blakeP c.size).blocksize = 512 ∨ (Padder.blakeP c.size).blocksize = 1024) ∧
      (Padder.blakeP c.size).blocksize = c.blocksize ∧ (Padder.blakeP c.size).blocklen = c.blocksize / 8 := by
  rcases hc with rfl | rfl | rfl | rfl <;> decide

theorem blakeP_blocksize (c : Blake.Cfg) (hc : blakeCfg c) : (Padder.blakeP c.size).blocksize = c.blocksize :=
  (blakeP_geom c hc).2.1

theorem blakeP_blocklen (c : Blake.Cfg) (hc : blakeCfg c) : (Padder.blakeP c.size).blocklen = c.blocksize / 8 :=
  (blakeP_geom c hc).2.2

theorem blakeP_word (c : Blake.Cfg) (hc : blakeCfg c) :
    ((Padder.blakeP c.size).blocksize = 512 ∧ Padder.blakeW c.size = 32) ∨
      ((Padder.blakeP c.size).blocksize = 1024 ∧ Padder.blakeW c.size = 64) := by
  rcases hc with rfl | rfl | rfl | rfl <;> decide

theorem valid_blakeP (c : Blake.Cfg) (hc : blakeCfg c) : Valid (Padder.blakeP c.size) :=
  valid_blake (blakeP_word c hc) rfl

theorem blake_update_nil (c : Blake.Cfg) (s : Blake.State) (h : s.pad.padflag = false) :
    (Blake.update c s [] none false).1 = s := by
  have hpos : 0 < (Padder.blakeP c.size).blocksize := by
    unfold Padder.blakeP
    split <;> exact Nat.zero_lt_succ _
  simp [Blake.update, unpadded_nil _ hpos s.pad h]

theorem blake_update_nonfinal_pad (c : Blake.Cfg) (hc : blakeCfg c) (s : Blake.State) (hpf : s.pad.padflag = false)
    (a : List Nat) (hal : a.length % (c.blocksize / 8) = 0) :
    (Blake.update c s a none false).1.pad = { s.pad with bitcnt := s.pad.bitcnt + 8 * a.length } ∧
    (Blake.update c s a none false).1.salt = s.salt := by
  obtain ⟨hfin, herr⟩ := nonfinal_piece _ (valid_blakeP c hc) s.pad hpf a ((blakeP_blocklen c hc) ▸ hal)
  simp only [Blake.update, herr, hfin, and_self]

theorem blake_update_append (c : Blake.Cfg) (hc : blakeCfg c) (s : Blake.State) (hpf : s.pad.padflag = false)
    (a b : List Nat) (hal : a.length % (c.blocksize / 8) = 0) (hb : b ≠ []) :
    Blake.update c s (a ++ b) none true = Blake.update c (Blake.update c s a none false).1 b none true := by
  have hal := blakeP_blocklen c hc ▸ hal
  obtain ⟨h2, h3, h4⟩ := piece_then_rest _ (valid_blakeP c hc) s.pad hpf a b hal hb
  simp only [Blake.update, (nonfinal_piece _ (valid_blakeP c hc) s.pad hpf a hal).2, h2, h3, h4, List.foldl_append]

theorem blake_feed (c : Blake.Cfg) (hc : blakeCfg c) (pieces : List (List Nat))
    (hal : ∀ p ∈ pieces, p.length % (c.blocksize / 8) = 0) (final : List Nat) (hf : final ≠ []) :
    ∀ (s : Blake.State), s.pad.padflag = false →
      Blake.update c (Blake.feed c s pieces) final none true = Blake.update c s (pieces.flatten ++ final) none true ∧
      (Blake.feed c s pieces).pad = { s.pad with bitcnt := s.pad.bitcnt + 8 * pieces.flatten.length } :=
  feed_fold (·.pad) (fun s p => (Blake.update c s p none false).1) (fun s m => Blake.update c s m none true)
    (fun a => a.length % (c.blocksize / 8) = 0) (· ≠ []) (fun a b hb => by simp [hb]) (blake_update_nil c)
    (fun s a hpf _ hal => ⟨(blake_update_nonfinal_pad c hc s hpf a hal).1, fun b hb => blake_update_append c hc s hpf a b hal hb⟩)
    pieces hal final hf

def blake2Cfg (c : Blake.Cfg) : Prop := c = Blake2.blake2b ∨ c = Blake2.blake2s

theorem valid_null (c : Blake.Cfg) (hc : blake2Cfg c) : Valid ⟨.null, c.blocksize⟩ := by
  rcases hc with rfl | rfl <;> exact ⟨by decide, by decide, trivial⟩

theorem trace_nonfinal (c : Blake.Cfg) (pad : PadState) (M : List Nat) :
    Blake2.trace c pad M false =
      ((Padder.mk .null c.blocksize).iterblocks pad M none false).yields.map fun y => (y.1, y.2.bitcnt / 8, false) := by
  unfold Blake2.trace
  simp only [Bool.false_and]
  rw [← List.zipIdx_map_fst 0 ((Padder.mk .null c.blocksize).iterblocks pad M none false).yields, List.map_map,
    List.zipIdx_map_fst]
  rfl

theorem trace_append (c : Blake.Cfg) (hc : blake2Cfg c) (pad : PadState) (hpf : pad.padflag = false)
    (a b : List Nat) (hal : a.length % (c.blocksize / 8) = 0) (hb : b ≠ []) :
    Blake2.trace c pad (a ++ b) true =
      Blake2.trace c pad a false ++
        Blake2.trace c ((Padder.mk .null c.blocksize).iterblocks pad a none false).final b true := by
  have hv := valid_null c hc
  have hpf1 : ((Padder.mk .null c.blocksize).iterblocks pad a none false).final.padflag = false := by
    rw [(nonfinal_piece _ hv pad hpf a hal).1]
    exact hpf
  have hpos := padded_yields_pos _ hv trivial _ hpf1 b none (Nat.le_refl _)
  rw [trace_nonfinal]
  unfold Blake2.trace
  simp only []
  rw [(piece_then_rest _ hv pad hpf a b hal hb).1]
  rcases List.eq_nil_or_concat
    ((Padder.mk .null c.blocksize).iterblocks ((Padder.mk .null c.blocksize).iterblocks pad a none false).final b none true).yields
    with h | ⟨L, y, h⟩
  · rw [h] at hpos
    exact absurd hpos (Nat.lt_irrefl _)
  · rw [h, List.concat_eq_append, ← List.append_assoc, trace_shape, trace_shape, List.map_append, List.append_assoc]

theorem blake2_update_nil (c : Blake.Cfg) (s : Blake2.State) (h : s.pad.padflag = false) :
    (Blake2.update c s [] false).1 = s := by
  have hpos : 0 < (Padder.mk .null c.blocksize).blocksize := by
    unfold Blake.Cfg.blocksize
    split <;> decide
  simp [Blake2.update, Blake2.trace, unpadded_nil _ hpos s.pad h]

theorem blake2_update_nonfinal_pad (c : Blake.Cfg) (hc : blake2Cfg c) (s : Blake2.State) (hpf : s.pad.padflag = false)
    (a : List Nat) (hal : a.length % (c.blocksize / 8) = 0) :
    (Blake2.update c s a false).1.pad = { s.pad with bitcnt := s.pad.bitcnt + 8 * a.length } := by
  obtain ⟨hfin, herr⟩ := nonfinal_piece _ (valid_null c hc) s.pad hpf a hal
  simp only [Blake2.update, herr, hfin]

theorem blake2_update_append (c : Blake.Cfg) (hc : blake2Cfg c) (s : Blake2.State) (hpf : s.pad.padflag = false)
    (a b : List Nat) (hal : a.length % (c.blocksize / 8) = 0) (hb : b ≠ []) :
    Blake2.update c s (a ++ b) true = Blake2.update c (Blake2.update c s a false).1 b true := by
  have hv := valid_null c hc
  obtain ⟨hfin, herr⟩ := nonfinal_piece _ hv s.pad hpf a hal
  obtain ⟨_, h3, h4⟩ := piece_then_rest _ hv s.pad hpf a b hal hb
  -- the final call yields at least one block, so the byte counter left behind is its last one
  have hpos := padded_yields_pos _ hv trivial _ (hfin ▸ hpf :
    ((Padder.mk .null c.blocksize).iterblocks s.pad a none false).final.padflag = false) b none (Nat.le_refl _)
  rw [← trace_length] at hpos
  obtain ⟨z, hz⟩ := Option.isSome_iff_exists.mp (List.getLast?_isSome.mpr (List.ne_nil_of_length_pos hpos))
  simp only [Blake2.update, herr, h3, h4, trace_append c hc s.pad hpf a b hal hb, List.foldl_append, List.getLast?_append, hz,
    Option.some_or]

theorem blake2_feed (c : Blake.Cfg) (hc : blake2Cfg c) (pieces : List (List Nat))
    (hal : ∀ p ∈ pieces, p.length % (c.blocksize / 8) = 0) (final : List Nat) (hf : final ≠ []) :
    ∀ (s : Blake2.State), s.pad.padflag = false →
      Blake2.update c (Blake2.feed c s pieces) final true = Blake2.update c s (pieces.flatten ++ final) true ∧
      (Blake2.feed c s pieces).pad = { s.pad with bitcnt := s.pad.bitcnt + 8 * pieces.flatten.length } :=
  feed_fold (·.pad) (fun s p => (Blake2.update c s p false).1) (fun s m => Blake2.update c s m true)
    (fun a => a.length % (c.blocksize / 8) = 0) (· ≠ []) (fun a b hb => by simp [hb]) (blake2_update_nil c)
    (fun s a hpf _ hal => ⟨blake2_update_nonfinal_pad c hc s hpf a hal, fun b hb => blake2_update_append c hc s hpf a b hal hb⟩)
    pieces hal final hf

end Proofs.Lemmas.BlakeStream
