/-
  End-to-end pieces for BLAKE: a final update of the model as the submission's compression function folded over the blocks
  the padder yields, with the submission's output transformation.
-/
import Proofs.Lemmas.BlakeRefine
import Proofs.Lemmas.BlakeBytes
import Proofs.Lemmas.BlakeStream
namespace Proofs.Lemmas.BlakeEnd
open Model Model.Py Proofs.Lemmas.BlakeWords Proofs.Lemmas.BlakeBytes Proofs.Lemmas.BlakeRefine

/-- a block of bytes read as big-endian words (`struct.unpack('>16L'/'>16Q')` on the specification's word type) -/
def beWords (V : Spec.Blake.Variant) (B : List Nat) : List (BitVec V.w) :=
  (Spec.Blake.chunk (V.w / 8) B).map fun g => BitVec.ofNat V.w (Py.beInt g)

def Pair (c : Blake.Cfg) (V : Spec.Blake.Variant) : Prop :=
  (c = Blake.blake224 ∧ V = Spec.Blake.blake224) ∨ (c = Blake.blake256 ∧ V = Spec.Blake.blake256) ∨
  (c = Blake.blake384 ∧ V = Spec.Blake.blake384) ∨ (c = Blake.blake512 ∧ V = Spec.Blake.blake512)

theorem pair_match {c V} (h : Pair c V) : Match c V := by
  rcases h with ⟨rfl, rfl⟩ | ⟨rfl, rfl⟩ | ⟨rfl, rfl⟩ | ⟨rfl, rfl⟩ <;> constructor <;> decide +kernel

/-- the sizes a pair fixes: of the variant, of the padder `Blake(n)` builds, of the `blake` scheme of Spec.Padding, and
    of the block HMAC reads -/
structure Geo (c : Blake.Cfg) (V : Spec.Blake.Variant) : Prop where
  word : V.w = 32 ∨ V.w = 64
  block : (V.block = 512 ∧ V.w = 32) ∨ (V.block = 1024 ∧ V.w = 64)
  out : V.out ≤ 8 * (V.w / 8)
  marker : V.marker = decide (c.size = 256 ∨ c.size = 512)
  padder : Padder.blakeP c.size = ⟨.blake c.size, V.block⟩
  padW : Padder.blakeW c.size = V.w
  pblockBytes : (Padder.blakeP c.size).blocksize / 8 = 16 * (V.w / 8)
  specB : Spec.Padding.blakeB c.size = V.block
  specW : Spec.Padding.blakeW c.size = V.w
  whole : c.blocksize = 8 * (c.blocksize / 8)
  pos : 0 < c.blocksize / 8
  outBlock : V.out ≤ c.blocksize / 8

theorem pair_cfg {c V} (h : Pair c V) : BlakeStream.blakeCfg c :=
  h.imp And.left (Or.imp And.left (Or.imp And.left And.left))

theorem pair_geo {c V} (h : Pair c V) : Geo c V := by
  rcases h with ⟨rfl, rfl⟩ | ⟨rfl, rfl⟩ | ⟨rfl, rfl⟩ | ⟨rfl, rfl⟩ <;> constructor <;> decide

theorem wordsBE_eq (V : Spec.Blake.Variant) (hw : V.w = 32 ∨ V.w = 64) (bs : List Nat) :
    Blake.wordsBE V.w bs = (beWords V bs).map ofBV := by
  have hn : V.w / 8 ≠ 0 := by rcases hw with h | h <;> rw [h] <;> simp
  simp only [Blake.wordsBE, beWords, chunks_eq_blake _ hn, List.map_map]
  apply List.map_congr_left
  intro g _
  simp [wd_eq]

theorem beWords_length (V : Spec.Blake.Variant) (hw : V.w = 32 ∨ V.w = 64) (k : Nat) (bs : List Nat)
    (hb : bs.length = k * (V.w / 8)) : (beWords V bs).length = k := by
  have hn : 0 < V.w / 8 := by rcases hw with h | h <;> rw [h] <;> decide
  rw [beWords, List.length_map, ← chunks_eq_blake _ (Nat.ne_of_gt hn), Bytes.chunks_length_whole _ hn k bs hb]

theorem salt_eq (V : Spec.Blake.Variant) (salt : Nat) :
    Blake.saltWords V.w salt = (Spec.Blake.saltWords V salt).map ofBV := by
  simp only [Blake.saltWords, Spec.Blake.saltWords, List.map_cons, List.map_nil, List.range_succ, List.range_zero,
    List.nil_append, List.cons_append, wd_eq]
  have key : ∀ j, j ≤ 3 → BitVec.ofNat V.w ((salt % 2 ^ (4 * V.w)) >>> (V.w * j)) = BitVec.ofNat V.w (salt / 2 ^ (V.w * j)) := by
    intro j hj
    apply BitVec.eq_of_toNat_eq
    simp only [BitVec.toNat_ofNat, Nat.shiftRight_eq_div_pow]
    obtain ⟨d, hd⟩ : ∃ d, 4 * V.w = V.w * j + (V.w + d) := ⟨(3 - j) * V.w, by
      have : V.w * j + (V.w + (3 - j) * V.w) = (j + 1 + (3 - j)) * V.w := by
        rw [Nat.add_mul, Nat.add_mul, Nat.mul_comm V.w j]; omega
      rw [this, show j + 1 + (3 - j) = 4 by omega]⟩
    rw [hd, Nat.pow_add, Nat.mod_mul_right_div_self, Nat.pow_add, Nat.mod_mul_right_mod]
  rw [key 3 (by omega), key 2 (by omega), key 1 (by omega), key 0 (by omega)]

theorem digest_eq {c V} (hm : Match c V) (hw8 : V.w % 8 = 0) (h : List (BitVec V.w)) :
    Blake.digest c (h.map ofBV) = Spec.Blake.output V h := by
  simp only [Blake.digest, Spec.Blake.output, List.flatMap_map, hm.out]
  congr 2
  funext x
  exact pack_be x hw8

theorem fold_refines {c V} (hp : Pair c V) (salt : List (BitVec V.w)) (hs : salt.length = 4)
    (ys : List (List Nat × PadState)) (hblk : ∀ y ∈ ys, y.1.length = 16 * (V.w / 8))
    (H : List (BitVec V.w)) (hH : H.length = 8) :
    ys.foldl (fun H (y : List Nat × PadState) => Blake.compress c H (salt.map ofBV) (Blake.wordsBE V.w y.1) y.2.bitcnt) (H.map ofBV) =
      (ys.foldl (fun h (y : List Nat × PadState) => Spec.Blake.compress V h (beWords V y.1) salt y.2.bitcnt) H).map ofBV ∧
    (ys.foldl (fun h (y : List Nat × PadState) => Spec.Blake.compress V h (beWords V y.1) salt y.2.bitcnt) H).length = 8 := by
  have hw := (pair_geo hp).word
  refine foldl_ofBV 8 _ _ ys (fun y hy H hH => ?_) H hH
  rw [wordsBE_eq V hw]
  exact compress_refines (pair_match hp) H salt _ hH hs (beWords_length V hw 16 _ (hblk y hy)) y.2.bitcnt

theorem blake_update_eq {c V} (hp : Pair c V) (H sw : List (BitVec V.w)) (hH : H.length = 8) (hs : sw.length = 4)
    (st : PadState) (hpf : st.padflag = false) (M : List Nat) (bitlen : Option Nat)
    (hL : bitlen.getD (8 * M.length) ≤ 8 * M.length) :
    (Blake.update c ⟨H.map ofBV, sw.map ofBV, st⟩ M bitlen true).2 = .ok (Spec.Blake.output V
      (((Padder.blakeP c.size).iterblocks st M bitlen true).yields.foldl
        (fun h (y : List Nat × PadState) => Spec.Blake.compress V h (beWords V y.1) sw y.2.bitcnt) H)) ∧
    (((Padder.blakeP c.size).iterblocks st M bitlen true).yields.foldl
        (fun h (y : List Nat × PadState) => Spec.Blake.compress V h (beWords V y.1) sw y.2.bitcnt) H).length = 8 := by
  have hm := pair_match hp
  have g := pair_geo hp
  have hw8 : V.w % 8 = 0 := by rcases g.word with h | h <;> rw [h]
  obtain ⟨herr, _, hlen⟩ := Padding.padded_yields _ (BlakeStream.valid_blakeP c (pair_cfg hp)) trivial st hpf M bitlen hL
  obtain ⟨hf, hfl⟩ := fold_refines hp sw hs ((Padder.blakeP c.size).iterblocks st M bitlen true).yields
    (fun y hy => g.pblockBytes ▸ hlen y hy) H hH
  refine ⟨?_, hfl⟩
  have herr : ((Padder.blakeP c.size).iterblocks st M bitlen true).err = none := herr
  simp only [Blake.update, herr, hm.w]
  rw [hf, digest_eq hm hw8]

theorem blake_call_eq {c V} (hp : Pair c V) (M : List Nat) (salt : Nat) (bitlen : Option Nat)
    (hL : bitlen.getD (8 * M.length) ≤ 8 * M.length) :
    Blake.call c M salt bitlen = .ok (Spec.Blake.output V
      (((Padder.blakeP c.size).iterblocks {} M bitlen true).yields.foldl
        (fun h (y : List Nat × PadState) => Spec.Blake.compress V h (beWords V y.1) (Spec.Blake.saltWords V salt) y.2.bitcnt) V.iv)) := by
  have hm := pair_match hp
  rw [← (blake_update_eq hp V.iv (Spec.Blake.saltWords V salt) hm.ivlen (by simp [Spec.Blake.saltWords]) {} rfl M bitlen hL).1,
    ← salt_eq, ← map_wd_toNat, ← hm.iv, ← hm.w]
  rfl

theorem output_length (V : Spec.Blake.Variant) (h : List (BitVec V.w)) (hh : h.length = 8) (hout : V.out ≤ 8 * (V.w / 8)) :
    (Spec.Blake.output V h).length = V.out := by
  rw [Spec.Blake.output, List.length_take, Fold.length_flatMap_const (Spec.Blake.wordBytes V) (V.w / 8) _ (by
    intro x _; simp [Spec.Blake.wordBytes]), hh]
  omega

theorem blake_call_length {c V} (hp : Pair c V) (M : List Nat) (salt : Nat) (bitlen : Option Nat)
    (hL : bitlen.getD (8 * M.length) ≤ 8 * M.length) (d : List Nat) (hd : Blake.call c M salt bitlen = .ok d) :
    d.length = c.size / 8 := by
  have hm := pair_match hp
  rw [blake_call_eq hp M salt bitlen hL] at hd
  cases hd
  rw [output_length V _ (blake_update_eq hp V.iv (Spec.Blake.saltWords V salt) hm.ivlen (by simp [Spec.Blake.saltWords]) {} rfl
    M bitlen hL).2 (pair_geo hp).out, ← hm.out]
  rfl

end Proofs.Lemmas.BlakeEnd
