/-
  The test vector of the BLAKE submission for BLAKE-256 (SHA-3 proposal BLAKE, version 1.3, appendix: one-byte message
  00), for `Spec.Blake`.  It stands below Proofs/C11 and Proofs/C11_Kat so that the `example` of the one and `spec_kat` of the
  other share one evaluation; the other three members are evaluated in C11_Kat alone.
-/
import Spec.Blake
namespace Proofs.Lemmas.BlakeKat

theorem blake256_zero_byte : Spec.Blake.hash Spec.Blake.blake256 [0] 8 0 =
    [0x0C, 0xE8, 0xD4, 0xEF, 0x4D, 0xD7, 0xCD, 0x8D, 0x62, 0xDF, 0xDE, 0xD9, 0xD4, 0xED, 0xB0, 0xA7,
     0x74, 0xAE, 0x6A, 0x41, 0x92, 0x9A, 0x74, 0xDA, 0x23, 0x10, 0x9E, 0x8F, 0x11, 0x13, 0x9C, 0x87] := by decide +kernel

end Proofs.Lemmas.BlakeKat
