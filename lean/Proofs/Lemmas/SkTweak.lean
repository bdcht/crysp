/-
  The Tweak class.  A 128-bit tweak is handled as the record `Tw` of its seven fields (Table 5): `Tw.val` is the
  specification's `Spec.Skein.tweak` of them, each getter returns one field and each setter updates one (`Tw.Ok`), `Tw.of`
  cuts a number into its fields.  Every later proof computes with record updates and compares values by linear arithmetic.
-/
import Model.Skein
import Spec.Skein
import Proofs.Lemmas.BitsIndex
import Proofs.Lemmas.Fold
namespace Proofs.Lemmas.SkTweak
open Model
open Proofs.Lemmas.Bits (testBit_of_lt)

/-- `self[a:b].int()` -/
theorem getField_eq (iv n a b : Nat) (hab : a ≤ b) (hb : b ≤ n) :
    Skein.getField ⟨iv, n⟩ a b = .ok (iv / 2 ^ a % 2 ^ (b - a)) := by
  unfold Skein.getField
  rw [Bits.getSlice_nat _ a b hab hb, Fold.ok_bind, Bits.mask, Nat.and_two_pow_sub_one_eq_mod,
    Nat.mod_eq_of_lt (Bits.sliceFast_wf _ _ _), Bits.sliceFast_ival]
  rfl

theorem setField_frame (T n v a b : Nat) (hab : a < b) (hb : b ≤ n) (hT : T < 2 ^ n) (hv : v < 2 ^ (b - a)) :
    ∃ T', Skein.setField ⟨T, n⟩ a b v = .ok ⟨T', n⟩ ∧ T' < 2 ^ n ∧ Skein.getField ⟨T', n⟩ a b = .ok v ∧
      ∀ j, (j < a ∨ b ≤ j) → T'.testBit j = T.testBit j := by
  have hbit := Bits.setSlice_fast_testBit ⟨T, n⟩ a b (Nat.le_of_lt hab) hb (Bits.ofNat v) hv
  refine ⟨_, Bits.setSlice_nat ⟨T, n⟩ a b hab hb (Bits.ofNat v), Nat.lt_pow_two_of_testBit _ fun j hj => ?_, ?_, fun j hj => ?_⟩
  · rw [hbit, if_neg (by omega), testBit_of_lt hT hj, Bool.and_false]
  · rw [getField_eq _ n a b (Nat.le_of_lt hab) hb]
    refine congrArg Except.ok (Nat.eq_of_testBit_eq fun j => ?_)
    rw [Nat.testBit_mod_two_pow, Nat.testBit_div_two_pow, hbit]
    by_cases hj : j < b - a
    · simp [hj, show j + a < b by omega, Bits.ofNat]
    · simp [hj, testBit_of_lt hv (Nat.le_of_not_lt hj)]
  · rw [hbit, if_neg (by omega)]
    by_cases hn : j < n
    · simp [hn]
    · simp [hn, testBit_of_lt hT (Nat.le_of_not_lt hn)]

theorem getField_field {x lo mid hi s w n : Nat} (hx : x = lo + mid * 2 ^ s + hi * 2 ^ (s + w)) (hlo : lo < 2 ^ s)
    (hmid : mid < 2 ^ w) (hsw : s + w ≤ n) : Skein.getField ⟨x, n⟩ s (s + w) = .ok mid := by
  rw [getField_eq x n s (s + w) (Nat.le_add_right _ _) hsw, Nat.add_sub_cancel_left, hx, Nat.pow_add, Nat.add_assoc,
    ← Nat.mul_assoc, Nat.mul_comm hi, Nat.mul_assoc, Nat.mul_comm mid, ← Nat.mul_add,
    Nat.add_mul_div_left _ _ (Nat.two_pow_pos s), Nat.div_eq_of_lt hlo, Nat.zero_add, Nat.add_mul_mod_self_right,
    Nat.mod_eq_of_lt hmid]

/-! A word laid out as consecutive fields `(content, width)`, lowest first: the slice getter and setter at a field's
    bit range read and replace that field's content.  Nothing here computes with a power of two. -/

def cat : List (Nat × Nat) → Nat
  | [] => 0
  | (x, w) :: r => x + cat r * 2 ^ w

def widths : List (Nat × Nat) → Nat
  | [] => 0
  | (_, w) :: r => w + widths r

def Fits : List (Nat × Nat) → Prop
  | [] => True
  | (x, w) :: r => x < 2 ^ w ∧ Fits r

theorem cat_lt : ∀ {l : List (Nat × Nat)}, Fits l → cat l < 2 ^ widths l
  | [], _ => Nat.one_pos
  | (x, w) :: r, ⟨hx, hr⟩ => by
    show x + cat r * 2 ^ w < 2 ^ (w + widths r)
    rw [Nat.pow_add, Nat.mul_comm (2 ^ w)]
    calc x + cat r * 2 ^ w < (cat r + 1) * 2 ^ w := by rw [Nat.add_mul, Nat.one_mul]; omega
      _ ≤ 2 ^ widths r * 2 ^ w := Nat.mul_le_mul_right _ (cat_lt hr)

theorem Fits.append {l : List (Nat × Nat)} : ∀ {a : List (Nat × Nat)}, Fits (a ++ l) → Fits a ∧ Fits l
  | [], h => ⟨trivial, h⟩
  | _ :: _, ⟨hx, h⟩ => ⟨⟨hx, h.append.1⟩, h.append.2⟩

theorem cat_field (b : List (Nat × Nat)) (x w : Nat) : ∀ a : List (Nat × Nat),
    cat (a ++ (x, w) :: b) = cat a + x * 2 ^ widths a + cat b * 2 ^ (widths a + w)
  | [] => by simp [cat, widths]
  | (y, u) :: a => by
    show y + cat (a ++ (x, w) :: b) * 2 ^ u = y + cat a * 2 ^ u + x * 2 ^ (u + widths a) + cat b * 2 ^ (u + widths a + w)
    rw [cat_field b x w a, Nat.add_mul, Nat.add_mul, Nat.mul_assoc, Nat.mul_assoc, ← Nat.pow_add, ← Nat.pow_add,
      Nat.add_comm u, Nat.add_right_comm _ w u]
    omega

theorem widths_field (b : List (Nat × Nat)) (x w : Nat) : ∀ a : List (Nat × Nat),
    widths (a ++ (x, w) :: b) = widths a + w + widths b
  | [] => by simp [widths]
  | (_, u) :: a => by
    show u + widths (a ++ (x, w) :: b) = u + widths a + w + widths b
    rw [widths_field b x w a]
    omega

def cut : Nat → List Nat → List (Nat × Nat)
  | _, [] => []
  | T, w :: ws => (T % 2 ^ w, w) :: cut (T / 2 ^ w) ws

theorem cat_cut : ∀ (ws : List Nat) (T : Nat), T < 2 ^ ws.sum → cat (cut T ws) = T
  | [], T, h => (Nat.lt_one_iff.1 h).symm
  | w :: ws, T, h => by
    show T % 2 ^ w + cat (cut (T / 2 ^ w) ws) * 2 ^ w = T
    rw [cat_cut ws _ (Nat.div_lt_of_lt_mul (by rwa [List.sum_cons, Nat.pow_add] at h)), Nat.mul_comm]
    exact Nat.mod_add_div T _

theorem getField_cat {a b : List (Nat × Nat)} {x w n : Nat} (h : Fits (a ++ (x, w) :: b)) (hn : widths (a ++ (x, w) :: b) ≤ n) :
    Skein.getField ⟨cat (a ++ (x, w) :: b), n⟩ (widths a) (widths a + w) = .ok x :=
  getField_field (cat_field b x w a) (cat_lt h.append.1) h.append.2.1 (by rw [widths_field] at hn; omega)

theorem setField_cat {a b : List (Nat × Nat)} {x w v n : Nat} (h : Fits (a ++ (x, w) :: b)) (hv : v < 2 ^ w) (hw : 0 < w)
    (hn : widths (a ++ (x, w) :: b) ≤ n) :
    Skein.setField ⟨cat (a ++ (x, w) :: b), n⟩ (widths a) (widths a + w) v = .ok ⟨cat (a ++ (v, w) :: b), n⟩ := by
  rw [widths_field] at hn
  exact Bits.setSlice_field (cat_field b x w a) (cat_field b v w a) (cat_lt h.append.1) h.append.2.1 hv
    (Nat.lt_of_lt_of_le (cat_lt h.append.2.2) (Nat.pow_le_pow_right (by decide) (by omega))) (by omega) hw

/-- the fields of Table 5 (bits 96–111 are reserved; the code carries them along) -/
structure Tw where
  pos : Nat
  rsv : Nat
  lv : Nat
  bp : Nat
  ty : Nat
  fi : Nat
  fn : Nat

namespace Tw

def val (f : Tw) : Nat := Spec.Skein.tweak f.pos f.lv f.bp f.ty f.fi f.fn + f.rsv * 2 ^ 96

def bits (f : Tw) : Bits := ⟨f.val, 128⟩

/-- every field fits its bit range.  The flags are bounded by `≤ 1`: inside `{ h with fi := … }` a bound with free variables
    is not closed by `decide`, `Nat.le_refl 1` and `Nat.zero_le 1` are -/
structure Ok (f : Tw) : Prop where
  pos : f.pos < 2 ^ 96
  rsv : f.rsv < 2 ^ 16
  lv : f.lv < 2 ^ 7
  bp : f.bp ≤ 1
  ty : f.ty < 2 ^ 6
  fi : f.fi ≤ 1
  fn : f.fn ≤ 1

/-- Table 5 as a layout -/
def fields (f : Tw) : List (Nat × Nat) := [(f.pos, 96), (f.rsv, 16), (f.lv, 7), (f.bp, 1), (f.ty, 6), (f.fi, 1), (f.fn, 1)]

theorem val_cat (f : Tw) : f.val = cat f.fields := by
  simp only [val, Spec.Skein.tweak, fields, cat]
  omega

theorem width (f : Tw) : widths f.fields ≤ 128 := Nat.le_refl 128

namespace Ok
variable {f : Tw} (h : f.Ok)
include h

theorem fits : Fits f.fields :=
  ⟨h.pos, h.rsv, h.lv, Nat.lt_succ_of_le h.bp, h.ty, Nat.lt_succ_of_le h.fi, Nat.lt_succ_of_le h.fn, trivial⟩

/-! In each lemma `a` is the part of the layout below the field; the bit range of the getter or setter is then
    `widths a`, `widths a + w` by evaluation, and what the setter returns is the layout of the updated record. -/

theorem getPosition : Skein.getPosition f.bits = .ok f.pos := by
  rw [bits, val_cat]
  exact getField_cat (a := []) h.fits f.width

theorem getTreeLevel : Skein.getTreeLevel f.bits = .ok f.lv := by
  rw [bits, val_cat]
  exact getField_cat (a := [(f.pos, 96), (f.rsv, 16)]) h.fits f.width

theorem getBitPad : Skein.getBitPad f.bits = .ok f.bp := by
  rw [bits, val_cat]
  exact getField_cat (a := [(f.pos, 96), (f.rsv, 16), (f.lv, 7)]) h.fits f.width

theorem getFirst : Skein.getFirst f.bits = .ok f.fi := by
  rw [bits, val_cat]
  exact getField_cat (a := [(f.pos, 96), (f.rsv, 16), (f.lv, 7), (f.bp, 1), (f.ty, 6)]) h.fits f.width

theorem getFinal : Skein.getFinal f.bits = .ok f.fn := by
  rw [bits, val_cat]
  exact getField_cat (a := [(f.pos, 96), (f.rsv, 16), (f.lv, 7), (f.bp, 1), (f.ty, 6), (f.fi, 1)]) h.fits f.width

theorem setPosition {v : Nat} (hv : v < 2 ^ 96) : Skein.setPosition f.bits v = .ok { f with pos := v }.bits := by
  rw [bits, bits, val_cat, val_cat]
  exact setField_cat (a := []) h.fits hv (by decide) f.width

theorem setTreeLevel {v : Nat} (hv : v < 2 ^ 7) : Skein.setTreeLevel f.bits v = .ok { f with lv := v }.bits := by
  rw [bits, bits, val_cat, val_cat]
  exact setField_cat (a := [(f.pos, 96), (f.rsv, 16)]) h.fits hv (by decide) f.width

theorem setBitPad {v : Nat} (hv : v ≤ 1) : Skein.setBitPad f.bits v = .ok { f with bp := v }.bits := by
  rw [bits, bits, val_cat, val_cat]
  exact setField_cat (a := [(f.pos, 96), (f.rsv, 16), (f.lv, 7)]) h.fits (Nat.lt_succ_of_le hv) (by decide) f.width

/-- the slice assignment of `Type = ty`, after the dictionary lookup -/
theorem setTypeCode {v : Nat} (hv : v < 2 ^ 6) : Skein.setField f.bits 120 126 v = .ok { f with ty := v }.bits := by
  rw [bits, bits, val_cat, val_cat]
  exact setField_cat (a := [(f.pos, 96), (f.rsv, 16), (f.lv, 7), (f.bp, 1)]) h.fits hv (by decide) f.width

theorem setFirst {v : Nat} (hv : v ≤ 1) : Skein.setFirst f.bits v = .ok { f with fi := v }.bits := by
  rw [bits, bits, val_cat, val_cat]
  exact setField_cat (a := [(f.pos, 96), (f.rsv, 16), (f.lv, 7), (f.bp, 1), (f.ty, 6)]) h.fits (Nat.lt_succ_of_le hv)
    (by decide) f.width

theorem setFinal {v : Nat} (hv : v ≤ 1) : Skein.setFinal f.bits v = .ok { f with fn := v }.bits := by
  rw [bits, bits, val_cat, val_cat]
  exact setField_cat (a := [(f.pos, 96), (f.rsv, 16), (f.lv, 7), (f.bp, 1), (f.ty, 6), (f.fi, 1)]) h.fits
    (Nat.lt_succ_of_le hv) (by decide) f.width

end Ok

/-- the fields of a 128-bit value, each the expression `Spec.Skein.ubiPre` reads it by; the one place where fields are cut
    out by division -/
def of (T : Nat) : Tw :=
  ⟨T % 2 ^ 96, T / 2 ^ 96 % 2 ^ 16, T / 2 ^ 112 % 2 ^ 7, T / 2 ^ 119 % 2, T / 2 ^ 120 % 2 ^ 6, T / 2 ^ 126 % 2, T / 2 ^ 127 % 2⟩

theorem of_val {T : Nat} (hT : T < 2 ^ 128) : (of T).val = T := by
  have e : (of T).fields = cut T [96, 16, 7, 1, 6, 1, 1] := by
    simp only [of, fields, cut, Nat.div_div_eq_div_mul, ← Nat.pow_add, Nat.reduceAdd, Nat.pow_one]
  rw [val_cat, e]
  exact cat_cut _ T hT

theorem of_ok (T : Nat) : (of T).Ok :=
  ⟨Nat.mod_lt _ (by decide), Nat.mod_lt _ (by decide), Nat.mod_lt _ (by decide), Nat.le_of_lt_succ (Nat.mod_lt _ (by decide)),
    Nat.mod_lt _ (by decide), Nat.le_of_lt_succ (Nat.mod_lt _ (by decide)), Nat.le_of_lt_succ (Nat.mod_lt _ (by decide))⟩

theorem bits_of {T : Nat} (hT : T < 2 ^ 128) : (of T).bits = ⟨T, 128⟩ := by rw [bits, of_val hT]

/-- what one UBI call does to its start tweak (flags clear): advance the position, set flags -/
theorem val_ubi {f : Tw} (h0 : f.bp = 0) (h1 : f.fi = 0) (h2 : f.fn = 0) (p x y z : Nat) :
    { f with pos := f.pos + p, bp := x, fi := y, fn := z }.val = f.val + p + x * 2 ^ 119 + y * 2 ^ 126 + z * 2 ^ 127 := by
  simp only [val, Spec.Skein.tweak, h0, h1, h2]
  omega

end Tw

/-- the tweak `Tweak(Type=…)`, `Tweak(TreeLevel=…,Type=…)` build and the tree loop moves along: type, position, level, every
    other field clear -/
def typeTw (ty pos lv : Nat) : Tw := ⟨pos, 0, lv, 0, ty, 0, 0⟩

/-- not by `rfl`, nor by a `simp` that ends in one: the kernel would evaluate the powers of two -/
theorem typeTw_val (ty pos lv : Nat) : (typeTw ty pos lv).val = Spec.Skein.tweak pos lv 0 ty 0 0 := by
  show Spec.Skein.tweak pos lv 0 ty 0 0 + 0 * 2 ^ 96 = _
  omega

theorem typeTw_val0 (ty : Nat) : (typeTw ty 0 0).val = ty * 2 ^ 120 := by
  show Spec.Skein.tweak 0 0 0 ty 0 0 + 0 * 2 ^ 96 = _
  unfold Spec.Skein.tweak
  omega

theorem typeTw_ok {ty pos lv : Nat} (ht : ty < 2 ^ 6) (hp : pos < 2 ^ 96) (hl : lv < 2 ^ 7) : (typeTw ty pos lv).Ok :=
  ⟨hp, Nat.two_pow_pos _, hl, Nat.zero_le _, ht, Nat.zero_le _, Nat.zero_le _⟩

theorem typeTw_pos (ty pos lv q : Nat) : { typeTw ty pos lv with pos := q } = typeTw ty q lv := rfl

theorem zero_bits : (⟨0, 128⟩ : Bits) = (typeTw 0 0 0).bits := by
  rw [Tw.bits, typeTw_val0]

theorem typeCode_lt {ty : String} {c : Nat} (h : Skein.typeCode ty = .ok c) : c < 2 ^ 6 := by
  unfold Skein.typeCode at h
  split at h <;> cases h <;> decide

/-- `Tweak(Type=ty)`.  The two sides of the last step are the same record, not the same number: compare the records
    (`rfl` on their `.bits` would have the kernel compute with 2^120) -/
theorem tweakOfType_eq (ty : String) (c : Nat) (hc : Skein.typeCode ty = .ok c) :
    Skein.tweakOfType ty = .ok (typeTw c 0 0).bits := by
  unfold Skein.tweakOfType Skein.setType
  rw [hc, Fold.ok_bind, zero_bits]
  exact ((typeTw_ok (by decide) (by decide) (by decide)).setTypeCode (typeCode_lt hc)).trans
    (congrArg (fun t : Tw => Except.ok t.bits) rfl)

/-- `Tweak(TreeLevel=lv,Type=ty)` -/
theorem tweakOfLevelType_eq (lv : Nat) (hl : lv < 2 ^ 7) (ty : String) (c : Nat) (hc : Skein.typeCode ty = .ok c) :
    Skein.tweakOfLevelType lv ty = .ok (typeTw c 0 lv).bits := by
  unfold Skein.tweakOfLevelType Skein.setType
  rw [hc, zero_bits, Fold.bind_eq_of_ok ((typeTw_ok (by decide) (by decide) (by decide)).setTreeLevel hl), Fold.ok_bind]
  exact ((typeTw_ok (ty := 0) (pos := 0) (by decide) (by decide) hl).setTypeCode (typeCode_lt hc)).trans
    (congrArg (fun t : Tw => Except.ok t.bits) rfl)

end Proofs.Lemmas.SkTweak
