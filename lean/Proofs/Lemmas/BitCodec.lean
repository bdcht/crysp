/-
  The most-significant-bit-first codec between byte strings and bit strings, in its reference form the four functions
  of Spec.Padding (`byteBits`, `bytesToBits`, `byteOfBits`, `bitsToBytes`: bytes are `Nat`s, a last partial byte is
  zero-filled): their round trips, what `bytes(b)` and `Bits(bytes)` are in them, and the copies of the codec that
  Spec.Des and Spec.Bytes carry.
  The codec's own lemmas are in namespace `Proofs.Lemmas.Padding`: the padding files and their statements call them so.
-/
import Spec.Padding
import Spec.Des
import Spec.Bytes
import Proofs.Lemmas.BitsConv
import Proofs.Lemmas.BitsView
namespace Proofs.Lemmas.Padding
open Model Model.Py Spec.Padding Proofs.Lemmas.Bytes

/-! ### a byte as the value of eight bits, most significant first -/

theorem byteOfBits_eq_bitsVal (l : List Bool) :
    byteOfBits l = Spec.bitsVal ((List.range 8).map fun j => l.getD j false) := by
  rw [byteOfBits, Spec.bitsVal, List.foldl_map]

theorem byteOfBits_testBit (l : List Bool) (i : Nat) :
    (byteOfBits l).testBit i = (decide (i < 8) && l.getD (7 - i) false) := by
  rw [byteOfBits_eq_bitsVal]
  exact Bits.bitsVal_map_range_testBit 8 _ i

theorem byteOfBits_bit (l : List Bool) (j : Nat) (hj : j < 8) : (byteOfBits l).testBit (7 - j) = l.getD j false := by
  rw [byteOfBits_testBit, decide_eq_true (by omega), Bool.true_and, show 7 - (7 - j) = j by omega]

theorem byteOfBits_lt (l : List Bool) : byteOfBits l < 256 := by
  rw [byteOfBits_eq_bitsVal]
  simpa using Bits.bitsVal_lt ((List.range 8).map fun j => l.getD j false)

theorem byteOfBits_eq (x : Nat) (hx : x < 256) (l : List Bool)
    (h : ∀ j < 8, l.getD j false = x.testBit (7 - j)) : byteOfBits l = x := by
  apply Nat.eq_of_testBit_eq
  intro i
  rw [byteOfBits_testBit]
  by_cases hi : i < 8
  · rw [h (7 - i) (by omega), show 7 - (7 - i) = i by omega]
    simp [hi]
  · rw [Bits.testBit_of_lt (n := 8) hx (by omega)]
    simp [hi]

theorem byteOfBits_zeros (l : List Bool) (h : ∀ j < 8, l.getD j false = false) : byteOfBits l = 0 :=
  byteOfBits_eq 0 (by decide) l fun j hj => by rw [h j hj, Nat.zero_testBit]

theorem byteOfBits_ne_zero (l : List Bool) (i : Nat) (hi8 : i < 8) (hi : l.getD i false = true) :
    byteOfBits l ≠ 0 := by
  intro h0
  have := byteOfBits_bit l i hi8
  rw [h0, Nat.zero_testBit, hi] at this
  cases this

theorem byteOfBits_flag (Zl : List Bool) (h7 : Zl.length = 7) (f : Bool) :
    byteOfBits (Zl ++ [f]) = byteOfBits (Zl ++ [false]) + f.toNat ∧ byteOfBits (Zl ++ [false]) % 2 = 0 := by
  match Zl, h7 with
  | [b0, b1, b2, b3, b4, b5, b6], _ =>
    simp only [byteOfBits, List.range, List.range.loop, List.foldl, List.cons_append, List.nil_append,
      List.getD_cons_zero, List.getD_cons_succ, Bool.toNat_false]
    omega

theorem byteBits_length (b : Nat) : (byteBits b).length = 8 := by simp [byteBits]

theorem byteOfBits_byteBits (x : Nat) (hx : x < 256) : byteOfBits (byteBits x) = x :=
  byteOfBits_eq x hx _ fun j hj => by simp [byteBits, hj]

theorem byteBits_byteOfBits (l : List Bool) (h : l.length = 8) : byteBits (byteOfBits l) = l := by
  apply List.ext_getElem
  · simp [byteBits, h]
  · intro j h1 h2
    simp only [byteBits, List.getElem_map, List.getElem_range]
    rw [byteOfBits_bit l j (by omega), List.getD_eq_getElem?_getD, List.getElem?_eq_getElem h2, Option.getD_some]

theorem bytesToBits_nil : bytesToBits [] = [] := rfl
theorem bytesToBits_cons (b : Nat) (m : List Nat) : bytesToBits (b :: m) = byteBits b ++ bytesToBits m := by
  simp [bytesToBits]
theorem bytesToBits_append (a b : List Nat) : bytesToBits (a ++ b) = bytesToBits a ++ bytesToBits b := by
  simp [bytesToBits]

theorem bytesToBits_flatten (Y : List (List Nat)) : bytesToBits Y.flatten = (Y.map bytesToBits).flatten := by
  induction Y with
  | nil => rfl
  | cons a t ih => rw [List.flatten_cons, bytesToBits_append, ih, List.map_cons, List.flatten_cons]

@[simp] theorem bytesToBits_length (m : List Nat) : (bytesToBits m).length = 8 * m.length := by
  rw [bytesToBits, Fold.length_flatMap_const _ 8 m fun b _ => byteBits_length b, Nat.mul_comm]

theorem bytesToBits_take_drop (m : List Nat) (n : Nat) :
    bytesToBits (m.take n) = (bytesToBits m).take (8 * n) ∧ bytesToBits (m.drop n) = (bytesToBits m).drop (8 * n) := by
  by_cases h : n ≤ m.length
  · have e := bytesToBits_append (m.take n) (m.drop n)
    rw [List.take_append_drop] at e
    have hl : (bytesToBits (m.take n)).length = 8 * n := by rw [bytesToBits_length, List.length_take, Nat.min_eq_left h]
    rw [e, List.take_left' hl, List.drop_left' hl]
    exact ⟨rfl, rfl⟩
  · have h' : m.length ≤ n := by omega
    rw [List.take_of_length_le h', List.drop_of_length_le h', List.take_of_length_le (by rw [bytesToBits_length]; omega),
      List.drop_of_length_le (by rw [bytesToBits_length]; omega)]
    exact ⟨rfl, rfl⟩

theorem bytesToBits_take (m : List Nat) (n : Nat) : bytesToBits (m.take n) = (bytesToBits m).take (8 * n) :=
  (bytesToBits_take_drop m n).1

theorem bytesToBits_drop (m : List Nat) (n : Nat) : bytesToBits (m.drop n) = (bytesToBits m).drop (8 * n) :=
  (bytesToBits_take_drop m n).2

theorem bytesToBits_getD (m : List Nat) (i : Nat) :
    (bytesToBits m).getD i false = (m.getD (i / 8) 0).testBit (7 - i % 8) := by
  rw [List.getD_eq_getElem?_getD, bytesToBits,
    Fold.getElem?_flatMap_uniform byteBits 8 (by decide) m (fun b _ => byteBits_length b), List.getD_eq_getElem?_getD]
  cases m[i / 8]? with
  | none => simp
  | some x => simp [byteBits, Nat.mod_lt]

theorem bitsToBytes_nil : bitsToBytes [] = [] := rfl

theorem bitsToBytes_length (l : List Bool) : (bitsToBytes l).length = (l.length + 7) / 8 := by
  simp [bitsToBytes]

theorem bitsToBytes_getElem (l : List Bool) (k : Nat) (h : k < (bitsToBytes l).length) :
    (bitsToBytes l)[k] = byteOfBits ((l.drop (8 * k)).take 8) := by
  simp [bitsToBytes]

theorem bitsToBytes_append (A C : List Bool) (h : A.length % 8 = 0) :
    bitsToBytes (A ++ C) = bitsToBytes A ++ bitsToBytes C := by
  apply List.ext_getElem
  · simp only [bitsToBytes_length, List.length_append]
    omega
  · intro i h1 h2
    rw [bitsToBytes_getElem, List.getElem_append]
    simp only [bitsToBytes_length, List.length_append] at h1 h2 ⊢
    by_cases hi : i < (A.length + 7) / 8
    · rw [dif_pos hi, bitsToBytes_getElem]
      have hd : 8 * i - A.length = 0 := by omega
      have hl : 8 - (A.drop (8 * i)).length = 0 := by
        rw [List.length_drop]
        omega
      rw [List.drop_append, hd, List.drop_zero, List.take_append, hl, List.take_zero, List.append_nil]
    · rw [dif_neg hi, bitsToBytes_getElem]
      have hd : A.drop (8 * i) = [] := List.drop_of_length_le (by omega)
      have he : 8 * i - A.length = 8 * (i - (A.length + 7) / 8) := by omega
      rw [List.drop_append, hd, List.nil_append, he]

theorem take_bitsToBytes_append (Z F : List Bool) (c : Nat) (hZ : Z.length % 8 = 0) (hF : F.length = 8 * c) :
    (bitsToBytes (Z ++ F)).take ((bitsToBytes (Z ++ F)).length - c) = bitsToBytes Z := by
  rw [bitsToBytes_append _ _ hZ]
  have : (bitsToBytes Z ++ bitsToBytes F).length - c = (bitsToBytes Z).length := by
    rw [List.length_append, bitsToBytes_length F, hF]
    omega
  rw [this, List.take_left]

theorem bitsToBytes_take_aligned (W : List Bool) (j : Nat) (h : 8 * j ≤ W.length) :
    (bitsToBytes W).take j = bitsToBytes (W.take (8 * j)) ∧ (bitsToBytes W).drop j = bitsToBytes (W.drop (8 * j)) := by
  have hW : W = W.take (8 * j) ++ W.drop (8 * j) := (List.take_append_drop _ W).symm
  have hl : (W.take (8 * j)).length = 8 * j := by
    rw [List.length_take]
    omega
  have hj : (bitsToBytes (W.take (8 * j))).length = j := by
    rw [bitsToBytes_length, hl]
    omega
  have : bitsToBytes W = bitsToBytes (W.take (8 * j)) ++ bitsToBytes (W.drop (8 * j)) := by
    conv =>
      lhs
      rw [hW]
    rw [bitsToBytes_append _ _ (by omega)]
  rw [this]
  constructor
  · rw [List.take_append_of_le_length (by omega), List.take_of_length_le (by omega)]
  · rw [List.drop_append_of_le_length (by omega), List.drop_of_length_le (by omega), List.nil_append]

theorem bitsToBytes_eight (l : List Bool) (h : l.length = 8) : bitsToBytes l = [byteOfBits l] := by
  simp [bitsToBytes, h, List.range_succ, List.take_of_length_le (Nat.le_of_eq h)]

theorem bitsToBytes_byteBits (b : Nat) (hb : b < 256) : bitsToBytes (byteBits b) = [b] := by
  rw [bitsToBytes_eight _ (byteBits_length b), byteOfBits_byteBits b hb]

theorem bitsToBytes_bytesToBits (m : List Nat) (hm : AllBytes m) : bitsToBytes (bytesToBits m) = m := by
  induction m with
  | nil => rfl
  | cons b m ih =>
    rw [bytesToBits_cons, bitsToBytes_append _ _ (by rw [byteBits_length]),
      bitsToBytes_byteBits b (hm b (by simp)), ih (fun x hx => hm x (by simp [hx]))]
    rfl

theorem bitsToBytes_bytesToBits_append (m : List Nat) (hm : AllBytes m) (C : List Bool) :
    bitsToBytes (bytesToBits m ++ C) = m ++ bitsToBytes C := by
  rw [bitsToBytes_append _ _ (by rw [bytesToBits_length]; omega), bitsToBytes_bytesToBits m hm]

theorem bitsToBytes_Bytes (l : List Bool) : AllBytes (bitsToBytes l) := by
  intro x hx
  simp only [bitsToBytes, List.mem_map] at hx
  obtain ⟨k, _, rfl⟩ := hx
  exact byteOfBits_lt _

theorem bitsToBytes_zeros (t : Nat) : bitsToBytes (zeros (8 * t)) = List.replicate t 0 := by
  apply List.ext_getElem
  · simp [bitsToBytes_length, zeros]
    omega
  · intro i h1 h2
    rw [bitsToBytes_getElem, List.getElem_replicate]
    apply byteOfBits_zeros
    intro j hj
    rw [Fold.getD_drop_take]
    simp only [zeros, List.getD_eq_getElem?_getD, List.getElem?_replicate]
    split <;> simp

theorem bytesToBits_bitsToBytes (X : List Bool) (h : X.length % 8 = 0) : bytesToBits (bitsToBytes X) = X := by
  obtain ⟨n, hn⟩ : ∃ n, X.length = 8 * n := ⟨X.length / 8, by omega⟩
  induction n generalizing X with
  | zero =>
    have : X = [] := List.eq_nil_of_length_eq_zero (by omega)
    subst this
    rfl
  | succ n ih =>
    have hX : X = X.take 8 ++ X.drop 8 := (List.take_append_drop 8 X).symm
    have h8 : (X.take 8).length = 8 := by
      rw [List.length_take]
      omega
    have hd : (X.drop 8).length = 8 * n := by
      rw [List.length_drop]
      omega
    rw [hX, bitsToBytes_append _ _ (by omega), bitsToBytes_eight _ h8, List.singleton_append, bytesToBits_cons,
      byteBits_byteOfBits _ h8, ih _ (by omega) hd]

end Proofs.Lemmas.Padding

namespace Proofs.Lemmas.BitCodec
open Model Model.Py Spec.Padding Proofs.Lemmas.Bytes Proofs.Lemmas.Padding

/-! ### `bytes(b)` and `Bits(bytes)` in the codec -/

theorem toBytes_eq (b : Bits) : b.toBytes = bitsToBytes (Bits.bools b) := by
  apply List.ext_getElem
  · simp [bitsToBytes_length]
  · intro k h1 h2
    rw [bitsToBytes_getElem]
    symm
    apply byteOfBits_eq _ (Bits.toBytes_allBytes b _ (List.getElem_mem h1))
    intro j hj
    rw [Fold.getD_drop_take, Bits.getD_bools', Bits.toBytes_testBit b k h1 j hj]
    simp [hj]

/-- `Bits(s)` (bit-stream order) -/
theorem bools_ofBytes (s : List Nat) (hs : AllBytes s) :
    Bits.bools ⟨leInt (s.map Bits.reverseByte), 8 * s.length⟩ = bytesToBits s := by
  have := testBits_leInt _ (Bits.byteMap_reverseByte.map hs)
  rw [List.length_map, List.flatMap_map] at this
  rw [Bits.bools, this, bytesToBits]
  exact Fold.flatMap_congr_mem fun b hb =>
    List.map_congr_left fun j hj => Bits.reverseByte_testBit b (hs b hb) j (List.mem_range.1 hj)

/-! ### the specifications' own copies of the codec

  Spec.Bytes's `bitsVal` and Spec.Des's `natOfBits` unfold to the same fold, so `bitsVal_eq_byteOfBits` applies to a
  `natOfBits` term as it stands (`des_bitsToBytes`); on eight bits that fold is `byteOfBits`. -/

theorem bitsVal_eq_byteOfBits (l : List Bool) (h : l.length = 8) : Spec.bitsVal l = byteOfBits l := by
  rw [byteOfBits_eq_bitsVal]
  congr 1
  exact List.ext_getElem (by simp [h]) fun i h1 _ => by simp [List.getD_eq_getElem?_getD, h1]

theorem des_bytesToBits (s : List Nat) : Spec.Des.bytesToBits s = bytesToBits s := rfl

theorem des_bitsToBytes (l : List Bool) (h : l.length % 8 = 0) : Spec.Des.bitsToBytes l = bitsToBytes l := by
  rw [Spec.Des.bitsToBytes, bitsToBytes, show (l.length + 7) / 8 = l.length / 8 by omega]
  refine List.map_congr_left fun i hi => bitsVal_eq_byteOfBits _ ?_
  have := List.mem_range.1 hi
  rw [List.length_take, List.length_drop]
  omega

end Proofs.Lemmas.BitCodec
