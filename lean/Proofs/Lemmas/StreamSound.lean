/-
  `History.Sound` for the Salsa20 / ChaCha object machine.  The input block `p` is part configuration (constants, key
  words), part scratch (nonce and counter words, overwritten in place by `keystream`); the invariant is
  `StreamEnc.SameKey` with the constructor's block.  `ref c P0 op` is what an operation returns, written from the
  configuration alone; `step_spec`: under the invariant the machine returns it and keeps the key.
-/
import Proofs.Lemmas.History
import Proofs.Lemmas.StreamEnc
namespace Proofs.Lemmas.StreamSound
open Model Model.Objects Proofs.Lemmas.History Proofs.Lemmas.StreamEnc Proofs.Lemmas.StreamPoly Proofs.Lemmas.SalsaRounds

def coreOf (c : StreamO.Cfg) : Nat → List Word → List Word :=
  if c.chacha then Spec.Chacha.coreWords else Spec.Salsa20.coreWords

theorem vspec (c : StreamO.Cfg) : VariantSpec (StreamO.variant c) (coreOf c) := by
  unfold StreamO.variant coreOf
  split
  · exact chachaSpec
  · exact salsaSpec

/-- admissible configurations: the constructor left 16 words of 32 bits in `p` (true of every object the library builds) -/
def StreamAdm (c : StreamO.Cfg) : Prop := ∃ P0 : List Word, P0.length = 16 ∧ c.p0 = ofBV P0

def StreamInv (s : StreamO.State) : Prop :=
  ∃ P0 P : List Word, P0.length = 16 ∧ s.cfg.p0 = ofBV P0 ∧ s.p = ofBV P ∧
    SameKey (StreamO.variant s.cfg).nonceAt (StreamO.variant s.cfg).ctrAt P0 P

/-- well-formed operations: messages are byte strings of at most 2^70 bytes -/
def StreamValid : StreamO.Op → Prop
  | .enc _ m => (∀ b ∈ m, b < 256) ∧ (m.length + 63) / 64 ≤ 2 ^ 64
  | .dec _ m => (∀ b ∈ m, b < 256) ∧ (m.length + 63) / 64 ≤ 2 ^ 64
  | .keystream _ _ => True
  | .hash _ => True

theorem StreamInv.adm {s : StreamO.State} : StreamInv s → StreamAdm s.cfg
  | ⟨P0, _, hP0, hc, _⟩ => ⟨P0, hP0, hc⟩

/-- the argument checks of `keystream(v)`, then `r` -/
def guarded (c : StreamO.Cfg) (v : Bits) (r : Val) : Res :=
  if c.K = none ∨ v.size ≠ 64 then .error "AssertionError" else .ok r

/-- `enc`/`dec`: `M xor KS[0:|M|]` of the blocks 0, 1, … for the nonce `v`, whatever was called before -/
def ref (c : StreamO.Cfg) (P0 : List Word) : StreamO.Op → Res
  | .enc v m | .dec v m => guarded c v (.bytes ((encW (ksBlock (coreOf c) c.dround (StreamO.variant c).ctrAt
      (nonceSet (StreamO.variant c).nonceAt P0 v.ival)) 0 (m.map (BitVec.ofNat 8))).map (·.toNat)))
  | .keystream v n => guarded c v (.nat n)
  | .hash m => bytesRes (Salsa.hash (StreamO.variant c) m)

theorem blocks_sameKey (c : StreamO.Cfg) (n : Nat) : ∀ (i : Nat) (K : Option (List Bits)) (Q : List Word), Q.length = 16 →
    ∃ Q', SameKey (StreamO.variant c).nonceAt (StreamO.variant c).ctrAt Q Q' ∧
      StreamO.blocks (StreamO.variant c) n i ⟨K, ofBV Q, c.dround⟩ = .ok ⟨K, ofBV Q', c.dround⟩ := by
  induction n with
  | zero => intro i K Q _; exact ⟨Q, SameKey.refl _ _ Q, rfl⟩
  | succ n ih =>
    intro i K Q hQ
    unfold StreamO.blocks
    rw [block_words (vspec c) K Q hQ]
    simp only
    obtain ⟨Q', hk, h⟩ := ih (i + 1) K (ctrSet (StreamO.variant c).ctrAt Q i) (by rw [ctrSet_length]; exact hQ)
    exact ⟨Q', (SameKey.ctrSet _ _ Q i).trans hk, h⟩

section
variable (s : StreamO.State) (P0 P : List Word) (hp : s.p = ofBV P)
include hp

/-- an operation that writes nothing leaves `s`, in the form `step_spec` states the new state in -/
theorem state_unchanged : s = { s with p := ofBV P } := by
  cases s
  simp only at hp
  subst hp
  rfl

variable (hP0 : P0.length = 16) (hk : SameKey (StreamO.variant s.cfg).nonceAt (StreamO.variant s.cfg).ctrAt P0 P)
include hP0 hk

theorem enc_spec (v : Bits) (m : List Nat) (hm : (∀ b ∈ m, b < 256) ∧ (m.length + 63) / 64 ≤ 2 ^ 64) :
    ∃ P', SameKey (StreamO.variant s.cfg).nonceAt (StreamO.variant s.cfg).ctrAt P0 P' ∧
      StreamO.step s (.enc v m) = ({ s with p := ofBV P' }, ref s.cfg P0 (.enc v m)) := by
  by_cases h : s.cfg.K = none ∨ v.size ≠ 64
  · refine ⟨P, hk, ?_⟩
    simp only [StreamO.step, Salsa.enc, Salsa.encFrom, setNonce_rejects _ (StreamO.obj s) v h, ref, guarded, if_pos h]
    exact congrArg (·, _) (state_unchanged s P hp)
  · obtain ⟨K, hK⟩ := Option.ne_none_iff_exists'.mp fun hn => h (Or.inl hn)
    have ev : v = ⟨v.ival, 64⟩ := by
      cases v
      simp only [ne_eq, not_or, Decidable.not_not] at h
      rw [← h.2]
    obtain ⟨P', hk', he⟩ := encFrom_words (vspec s.cfg) K P (hk.1.trans hP0) s.cfg.dround v.ival 0 (m.map (BitVec.ofNat 8))
      (by simpa using hm.2)
    rw [Bytes.map_toNat_ofNat hm.1, ← ev, ← hK, ← hp] at he
    refine ⟨P', hk.trans hk', ?_⟩
    -- the keystream of `P` is that of `P0`: same key
    simp only [StreamO.step, Salsa.enc, StreamO.obj, he, ref, guarded, if_neg h, ksBlock_sameKey _ _ hk]

theorem keystream_spec (v : Bits) (n : Nat) :
    ∃ P', SameKey (StreamO.variant s.cfg).nonceAt (StreamO.variant s.cfg).ctrAt P0 P' ∧
      StreamO.step s (.keystream v n) = ({ s with p := ofBV P' }, ref s.cfg P0 (.keystream v n)) := by
  by_cases h : s.cfg.K = none ∨ v.size ≠ 64
  · refine ⟨P, hk, ?_⟩
    simp only [StreamO.step, setNonce_rejects _ (StreamO.obj s) v h, ref, guarded, if_pos h]
    exact congrArg (·, _) (state_unchanged s P hp)
  · obtain ⟨K, hK⟩ := Option.ne_none_iff_exists'.mp fun hn => h (Or.inl hn)
    have ev : v = ⟨v.ival, 64⟩ := by
      cases v
      simp only [ne_eq, not_or, Decidable.not_not] at h
      rw [← h.2]
    have hP : P.length = 16 := hk.1.trans hP0
    obtain ⟨Q', hkq, hb⟩ := blocks_sameKey s.cfg n 0 s.cfg.K (nonceSet (StreamO.variant s.cfg).nonceAt P v.ival)
      (by rw [nonceSet_length]; exact hP)
    refine ⟨Q', hk.trans ((SameKey.nonceSet _ _ P v.ival).trans hkq), ?_⟩
    have hn := setNonce_words (vspec s.cfg) K P hP s.cfg.dround v.ival
    rw [← ev, ← hK, ← hp] at hn
    simp only [StreamO.step, StreamO.obj, hn, hb, ref, guarded, if_neg h]

theorem step_spec (op : StreamO.Op) (hv : StreamValid op) :
    ∃ P', SameKey (StreamO.variant s.cfg).nonceAt (StreamO.variant s.cfg).ctrAt P0 P' ∧
      StreamO.step s op = ({ s with p := ofBV P' }, ref s.cfg P0 op) := by
  cases op with
  | enc v m => exact enc_spec s P0 P hp hP0 hk v m hv
  | dec v m => exact enc_spec s P0 P hp hP0 hk v m hv
  | keystream v n => exact keystream_spec s P0 P hp hP0 hk v n
  | hash m => exact ⟨P, hk, congrArg (·, _) (state_unchanged s P hp)⟩

end

theorem stream_cfg (s : StreamO.State) (op : StreamO.Op) : (StreamO.step s op).1.cfg = s.cfg := by
  cases op with
  | enc v m => unfold StreamO.step; simp only; split <;> rfl
  | dec v m => unfold StreamO.step; simp only; split <;> rfl
  | keystream v n =>
    unfold StreamO.step; simp only
    split
    · rfl
    · split <;> rfl
  | hash m => rfl

theorem stream_inv (s : StreamO.State) (op : StreamO.Op) (hv : StreamValid op) (h : StreamInv s) :
    StreamInv ((StreamO.step s op).1) := by
  obtain ⟨P0, P, hP0, hc, hp, hk⟩ := h
  obtain ⟨P', hk', hn⟩ := step_spec s P0 P hp hP0 hk op hv
  rw [hn]
  exact ⟨P0, P', hP0, hc, rfl, hk'⟩

/-- both sides are `ref s.cfg P0 op` for the same `P0`: the new object's block is `P0` itself -/
theorem stream_reinit (s : StreamO.State) (op : StreamO.Op) (hv : StreamValid op) (h : StreamInv s) :
    (StreamO.step s op).2 = (StreamO.step (StreamO.init s.cfg) op).2 := by
  obtain ⟨P0, P, hP0, hc, hp, hk⟩ := h
  obtain ⟨_, _, e⟩ := step_spec s P0 P hp hP0 hk op hv
  obtain ⟨_, _, e'⟩ := step_spec (StreamO.init s.cfg) P0 P0 hc hP0 (SameKey.refl _ _ P0) op hv
  exact (congrArg Prod.snd e).trans (congrArg Prod.snd e').symm

theorem stream_sound : Sound StreamO.machine StreamAdm StreamValid StreamInv :=
  .of_reinit (fun _ => rfl) stream_cfg (fun _ _ h => h)
    (fun _ ⟨P0, hP0, hp⟩ => ⟨P0, P0, hP0, hp, hp, SameKey.refl _ _ P0⟩) stream_inv
    fun s op _ hv _ h => stream_reinit s op hv h

end Proofs.Lemmas.StreamSound
