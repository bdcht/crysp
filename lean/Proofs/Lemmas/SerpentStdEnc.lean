/-
  Lemmas for Spec.SerpentStd: a map of standard vectors is the IP-conjugate (`Conj`) of a map of bitslice states.  The
  three components of a round are conjugates; conjugates compose and fold, hence every round, and the standard cipher
  (IP, 32 rounds, FP), computes the same 128-bit function as the bitslice cipher of Spec.Serpent.
-/
import Proofs.Lemmas.SerpentStdSbox
import Proofs.Lemmas.SerpentStdLin
import Proofs.Lemmas.SerpentEnc
namespace Proofs.Lemmas.SerpentStdEnc
open Spec.Serpent Proofs.Lemmas.SerpentBits Proofs.Lemmas.SerpentSpec Proofs.Lemmas.SerpentEnc
open Proofs.Lemmas.SerpentStdPerm Proofs.Lemmas.SerpentStdSbox Proofs.Lemmas.SerpentStdLin

def Conj (F : Nat → Nat) (f : State → State) : Prop := ∀ s, WS s → F (T s) = T (f s) ∧ WS (f s)

theorem Conj.comp {F F' : Nat → Nat} {f f' : State → State} (h : Conj F f) (h' : Conj F' f') :
    Conj (fun x => F' (F x)) (fun s => f' (f s)) := fun s hs =>
  ⟨(congrArg F' (h s hs).1).trans (h' _ (h s hs).2).1, (h' _ (h s hs).2).2⟩

theorem Conj.foldl {F : Nat → Nat → Nat} {f : State → Nat → State} (h : ∀ i, Conj (F · i) (f · i)) (is : List Nat) :
    Conj (fun x => is.foldl F x) (fun s => is.foldl f s) := fun _ hs =>
  Fold.foldl_sim_inv WS T F f is (fun i _ => h i) hs

/-- for any `x`: both sides look at the low 128 bits only -/
theorem Conj.nat {F : Nat → Nat} {f : State → State} (h : Conj F f) (x : Nat) :
    F (Spec.SerpentStd.IP x) = Spec.SerpentStd.IP (natOfState (f (stateOfNat x))) := by
  rw [← T_stateOfNat]
  exact (h _ (stateOfNat_ws x)).1

theorem Conj.natFP {F : Nat → Nat} {f : State → State} (h : Conj F f) (x : Nat) :
    Spec.SerpentStd.FP (F (Spec.SerpentStd.IP x)) = natOfState (f (stateOfNat x)) := by
  rw [h.nat, FP_IP _ (natOfState_lt _ (h _ (stateOfNat_ws x)).2)]

theorem Conj.inv {F G : Nat → Nat} {f g : State → State} (hF : Conj F f) (hG : Conj G g) (h : Inv f g) (x : Nat)
    (hx : x < 2 ^ 128) : G (F x) = x := by
  rw [← IP_FP x hx, hF.nat, ← T, (hG _ (hF _ (stateOfNat_ws _)).2).1, (h.undo (stateOfNat_ws _)).1, T_stateOfNat]

theorem conj_box (f : Nat → Nat) : Conj (Spec.SerpentStd.sHat f) (applyBox f) := fun s hs =>
  ⟨sHat_T f s hs, applyBox_ws f s⟩

theorem conj_lt : Conj Spec.SerpentStd.L lt := fun s hs => ⟨L_T s hs, (inv_lt.st hs).1⟩

theorem conj_ltInv : Conj Spec.SerpentStd.LInv ltInv := fun s hs => ⟨LInv_T s hs, (inv_lt.st hs).2⟩

/-- K̂_i = IP(K_i) for a whole list of bitslice subkeys -/
def hat (ks : List State) : List Nat := ks.map T

theorem kHat_hat (ks : List State) (i : Nat) : Spec.SerpentStd.kHat (hat ks) i = T (rk ks i) := by
  have h := Fold.getD_map T ks i ⟨0, 0, 0, 0⟩
  rwa [T_zero] at h

theorem conj_key (ks : List State) (hks : WSL ks) (i : Nat) :
    Conj (· ^^^ Spec.SerpentStd.kHat (hat ks) i) (·.xor (rk ks i)) := fun s hs => by
  rw [kHat_hat]
  exact ⟨(T_xor s _ hs (rk_ws ks hks i)).symm, xor_ws s _ hs (rk_ws ks hks i)⟩

theorem conj_round (ks : List State) (hks : WSL ks) (i : Nat) :
    Conj (Spec.SerpentStd.round (hat ks) · i) (round ks · i) :=
  ((conj_key ks hks i).comp (conj_box (sbox (i % 8)))).comp conj_lt

theorem conj_roundInv (ks : List State) (hks : WSL ks) (i : Nat) :
    Conj (Spec.SerpentStd.roundInv (hat ks) · i) (roundInv ks · i) :=
  (conj_ltInv.comp (conj_box (sboxInv (i % 8)))).comp (conj_key ks hks i)

theorem encBlock_hat (ks : List State) (hks : WSL ks) (P : Nat) :
    Spec.SerpentStd.encBlock (hat ks) P = natOfState (encState ks (stateOfNat P)) :=
  ((Conj.foldl (conj_round ks hks) (List.range 31)).comp
    (((conj_key ks hks 31).comp (conj_box (sbox 7))).comp (conj_key ks hks 32))).natFP P

theorem decBlock_hat (ks : List State) (hks : WSL ks) (C : Nat) :
    Spec.SerpentStd.decBlock (hat ks) C = natOfState (decState ks (stateOfNat C)) :=
  ((((conj_key ks hks 32).comp (conj_box (sboxInv 7))).comp (conj_key ks hks 31)).comp
    (Conj.foldl (conj_roundInv ks hks) (List.range 31).reverse)).natFP C

theorem encNat_eq (klen K P : Nat) : Spec.SerpentStd.encNat klen K P = Spec.Serpent.encNat klen K P :=
  encBlock_hat _ (roundKeys_ws klen K) P

theorem decNat_eq (klen K C : Nat) : Spec.SerpentStd.decNat klen K C = Spec.Serpent.decNat klen K C :=
  decBlock_hat _ (roundKeys_ws klen K) C

end Proofs.Lemmas.SerpentStdEnc
