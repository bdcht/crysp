/-
  The `Bits` plumbing of crysp/padding.py (`Bits(m,size=n)`, `//`, `bytes()`, `pack`) read as operations on the
  plain bit lists and byte lists of Spec.Padding.  `Padding.bools b` unfolds to the same term as `Model.Bits.bools b`
  (Lemmas/BitsView) and `Padding.Bytes m` to `Bytes.AllBytes m`, so the lemmas of BitsView, BitCodec and BitsList apply as they
  are; the ones the padding proofs use are repeated here under the names of this namespace.
-/
import Spec.Padding
import Proofs.Lemmas.BitsList
namespace Proofs.Lemmas.Padding
open Model Model.Py Spec.Padding

def Bytes (m : List Nat) : Prop := ∀ x ∈ m, x < 256

def bools (b : Model.Bits) : List Bool := (List.range b.size).map b.ival.testBit

@[simp] theorem bools_length (b : Model.Bits) : (bools b).length = b.size := Bits.length_bools b

theorem bools_getD (b : Model.Bits) (i : Nat) :
    (bools b).getD i false = (decide (i < b.size) && b.ival.testBit i) :=
  Bits.getD_bools' b i

theorem toBytes_eq (b : Model.Bits) : b.toBytes = bitsToBytes (bools b) := BitCodec.toBytes_eq b

theorem bools_bitsOfBytes (m : List Nat) (hm : Bytes m) (n : Nat) (hn : n ≤ 8 * m.length) :
    bools (Padder.bitsOfBytes m n) = (bytesToBits m).take n :=
  BitsList.bitsOf_bitsOfBytes m hm n hn

theorem takeBits_whole (m : List Nat) : takeBits (8 * m.length) m = bytesToBits m :=
  List.take_of_length_le (by simp)

@[simp] theorem bitsOfBytes_size (m : List Nat) (n : Nat) : (Padder.bitsOfBytes m n).size = n :=
  (BitsList.bitsOfBytes_wf m n).2

theorem bitsOfBytes_WF (m : List Nat) (n : Nat) : (Padder.bitsOfBytes m n).WF :=
  (BitsList.bitsOfBytes_wf m n).1

theorem ofNatSz_WF (v n : Nat) : (Bits.ofNatSz v n).WF := Bits.ofNatSz_wf v n

@[simp] theorem ofNatSz_size (v n : Nat) : (Bits.ofNatSz v n).size = n := rfl

theorem bools_concat (a o : Model.Bits) (ha : a.WF) : bools (a.concat o) = bools a ++ bools o :=
  Bits.bools_concat a o ha

theorem bools_setSize (b : Model.Bits) (n : Nat) (h : n ≤ b.size) : bools (b.setSize n) = (bools b).take n :=
  Bits.bools_setSize b n h

theorem bools_ofNatSz_zero (n : Nat) : bools (Bits.ofNatSz 0 n) = zeros n := Bits.bools_zero n

theorem bools_ofNatSz_one (n : Nat) : bools (Bits.ofNatSz 1 (n + 1)) = true :: zeros n := by
  apply Bits.bools_eq_of_testBit
  · simp [zeros]
  · intro i hi
    have hi' : i < n + 1 := by simpa [zeros] using hi
    simp only [Bits.ofNatSz, Nat.testBit_mod_two_pow, hi', decide_true, Bool.true_and]
    cases i with
    | zero => simp
    | succ i =>
      have : (1 : Nat).testBit (i + 1) = false := Nat.testBit_lt_two_pow (by
        have := Nat.one_lt_two_pow (n := i + 1) (by omega); omega)
      simp [this, zeros]

theorem bools_ofNatSz_one_zero : bools (Bits.ofNatSz 1 0) = [] := by simp [bools]

theorem bools_ofNatSz_bit (v : Nat) : bools (Bits.ofNatSz v 1) = [v.testBit 0] := by
  simp [bools, Bits.ofNatSz, List.range_succ]

@[simp] theorem lenLE_length (n v : Nat) : (lenLE n v).length = n := by simp [lenLE]
@[simp] theorem lenBE_length (n v : Nat) : (lenBE n v).length = n := by simp [lenBE]

/-! The length fields of Spec.Padding are the codec's bits of the byte strings `int.to_bytes` gives, so that `pack`
    of a whole number of bytes is a round trip of the codec. -/

theorem lenLE_eq (c v : Nat) : lenLE (8 * c) v = bytesToBits (leBytes c v) := by
  apply List.ext_getElem (by simp)
  intro i h1 h2
  have hi : i < 8 * c := by simpa using h1
  have := bytesToBits_getD (leBytes c v) i
  rw [List.getD_eq_getElem?_getD, List.getElem?_eq_getElem h2, Option.getD_some] at this
  rw [this, Bytes.leBytes_getD_testBit _ _ _ _ (by omega), decide_eq_true (by omega), Bool.true_and]
  simp [lenLE]

theorem lenBE_eq (c v : Nat) : lenBE (8 * c) v = bytesToBits (beBytes c v) := by
  apply List.ext_getElem (by simp [beBytes])
  intro i h1 h2
  have hi : i < 8 * c := by simpa using h1
  have := bytesToBits_getD (beBytes c v) i
  rw [List.getD_eq_getElem?_getD, List.getElem?_eq_getElem h2, Option.getD_some] at this
  have hr : (beBytes c v).getD (i / 8) 0 = (leBytes c v).getD (c - 1 - i / 8) 0 := by
    simp only [beBytes, List.getD_eq_getElem?_getD]
    rw [List.getElem?_reverse (by simp; omega)]
    simp
  rw [this, hr, Bytes.leBytes_getD_testBit _ _ _ _ (by omega), decide_eq_true (by omega), Bool.true_and]
  simp only [lenBE, List.getElem_map, List.getElem_range]
  congr 1
  omega

theorem pack_le (v c : Nat) : (Bits.ofNatSz v (8 * c)).pack false = bitsToBytes (lenLE (8 * c) v) := by
  rw [lenLE_eq, bitsToBytes_bytesToBits _ (Bytes.leBytes_allBytes c v), Bits.pack_le_eq _ (Bits.ofNatSz_wf _ _)]
  show leBytes ((8 * c + 7) / 8) (v % 2 ^ (8 * c)) = _
  rw [show (8 * c + 7) / 8 = c by omega, ← Bytes.pow256, Bytes.leBytes_mod]

theorem pack_be (v c : Nat) : (Bits.ofNatSz v (8 * c)).pack true = bitsToBytes (lenBE (8 * c) v) := by
  rw [lenBE_eq, bitsToBytes_bytesToBits (beBytes c v) (Bytes.leBytes_allBytes c v).reverse,
    Bits.pack_be_eq _ (Bits.ofNatSz_wf _ _)]
  show beBytes ((8 * c + 7) / 8) (v % 2 ^ (8 * c)) = _
  rw [show (8 * c + 7) / 8 = c by omega, ← Bytes.pow256, beBytes, Bytes.leBytes_mod, beBytes]

theorem pack_length (v c : Nat) (be : Bool) : ((Bits.ofNatSz v (8 * c)).pack be).length = c := by
  rw [Bits.pack_length]
  show (8 * c + 7) / 8 = c
  omega

end Proofs.Lemmas.Padding
