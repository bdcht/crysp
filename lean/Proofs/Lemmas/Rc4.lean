/-
  RC4: Model.Rc4 (Poly of ring 2^8, Python-int indices) refines Spec.Rc4 (bytes), step by step.
-/
import Proofs.Lemmas.StreamBytes
import Model.Rc4
import Spec.Rc4
namespace Proofs.Lemmas.Rc4
open Model Model.Poly Proofs.Lemmas.StreamPoly Proofs.Lemmas.StreamEnc

abbrev Byte := BitVec 8

theorem swap_length (S : List Byte) (i j : Byte) : (Spec.Rc4.swap S i j).length = S.length := by
  simp [Spec.Rc4.swap]

/-- `S[i,j] = S[j,i]` -/
theorem swap_ofBV (S : List Byte) (hS : S.length = 256) (i j : Byte) :
    Rc4.swap (ofBV S) (i.toNat : Int) (j.toNat : Int) = .ok (ofBV (Spec.Rc4.swap S i j)) := by
  have hi : i.toNat < S.length := by rw [hS]; exact i.isLt
  have hj : j.toNat < S.length := by rw [hS]; exact j.isLt
  unfold Rc4.swap
  have hg := getList_ofBV S [j.toNat, i.toNat] (by intro k hk; simp at hk; rcases hk with rfl | rfl <;> assumption)
  simp only [Salsa.ints, gather, List.map_cons, List.map_nil, Int.ofNat_eq_natCast] at hg
  rw [hg, Fold.ok_bind]
  refine (setMany_ofBV (by decide) S [i.toNat, j.toNat] [(S.getD j.toNat 0).toNat, (S.getD i.toNat 0).toNat]
    (by intro k hk; simp at hk; rcases hk with rfl | rfl <;> assumption)).trans ?_
  simp [setW, Spec.Rc4.swap, Spec.Rc4.at']

structure Rel (S : Poly) (i j : Int) (sp : Spec.Rc4.St) : Prop where
  hS : S = ofBV sp.S
  hi : i = (sp.i.toNat : Int)
  hj : j = (sp.j.toNat : Int)
  hlen : sp.S.length = 256

/-- `S.ival[i]` for a byte `i` of a 256-entry table: never out of range -/
theorem get_byte (S : List Byte) (hS : S.length = 256) (i : Byte) :
    pyGet (ofBV S).ival (i.toNat : Int) = .ok ((Spec.Rc4.at' S i).toNat : Int) :=
  pyGet_ofBV S i.toNat (hS ▸ i.isLt)

/-- `(a+b)&0xff` on Python ints that hold bytes is the addition of `BitVec 8` -/
theorem add_byte (a b : Byte) : ((a.toNat : Int) + (b.toNat : Int)) % 256 = (((a + b).toNat : Nat) : Int) := by
  simp only [BitVec.toNat_add]
  omega

theorem add_byte3 (a b c : Byte) :
    ((a.toNat : Int) + (b.toNat : Int) + (c.toNat : Int)) % 256 = (((a + b + c).toNat : Nat) : Int) := by
  simp only [BitVec.toNat_add]
  omega

def stateOf (K : Poly) (sp : Spec.Rc4.St) : Rc4.State := ⟨K, ofBV sp.S, (sp.i.toNat : Int), (sp.j.toNat : Int)⟩

theorem ksaStep_length (key : List Byte) (st : List Byte × Byte) (i : Nat) :
    (Spec.Rc4.ksaStep key st i).1.length = st.1.length := by
  simp [Spec.Rc4.ksaStep, swap_length]

theorem ksaStep_refines (key : List Byte) (hk : 0 < key.length) (S : List Byte) (hS : S.length = 256) (j : Byte)
    (i : Nat) (hi : i < 256) :
    Rc4.ksaStep (ofBV key) (ofBV S, (j.toNat : Int)) i =
      .ok (ofBV (Spec.Rc4.ksaStep key (S, j) i).1, ((Spec.Rc4.ksaStep key (S, j) i).2.toNat : Int)) := by
  unfold Rc4.ksaStep
  dsimp only
  have ei : (i : Int) = (((BitVec.ofNat 8 i).toNat : Nat) : Int) := by
    simp only [BitVec.toNat_ofNat]; congr 1; omega
  rw [pyGet_ofBV S i (by omega), Fold.ok_bind, Int.ofNat_eq_natCast, ofBV_dim,
    pyGet_ofBV key _ (Nat.mod_lt _ hk), Fold.ok_bind, add_byte3, ei, swap_ofBV S hS, Fold.ok_bind]
  rfl

theorem ksaLoop_refines (key : List Byte) (hk : 0 < key.length) (is : List Nat) (his : ∀ i ∈ is, i < 256)
    (S : List Byte) (hS : S.length = 256) (j : Byte) :
    Rc4.ksaLoop (ofBV key) is (ofBV S, (j.toNat : Int)) =
      .ok (ofBV (is.foldl (Spec.Rc4.ksaStep key) (S, j)).1, (((is.foldl (Spec.Rc4.ksaStep key) (S, j)).2.toNat : Nat) : Int)) := by
  induction is generalizing S j with
  | nil => rfl
  | cons i rest ih =>
    simp only [Rc4.ksaLoop, List.foldl_cons]
    rw [ksaStep_refines key hk S hS j i (his i (by simp)), Fold.ok_bind]
    have := ih (fun k hk' => his k (by simp [hk'])) (Spec.Rc4.ksaStep key (S, j) i).1
      (by rw [ksaStep_length]; exact hS) (Spec.Rc4.ksaStep key (S, j) i).2
    exact this

theorem identity_poly : Poly.ofList ((List.range 256).map Int.ofNat) 8 = ofBV Spec.Rc4.identity := by
  unfold Poly.ofList ofBV Spec.Rc4.identity
  simp only [↓reduceIte, List.map_map, Poly.mk.injEq, and_true]
  apply List.map_congr_left
  intro n _
  simp only [Function.comp, Int.ofNat_eq_natCast]
  exact red_natCast (by decide) n

theorem ksa_length (key : List Byte) : (Spec.Rc4.ksa key).length = 256 :=
  Fold.foldl_inv (·.1.length = 256) _ _ (fun i _ s h => (ksaStep_length key s i).trans h) (by simp [Spec.Rc4.identity])

theorem start_length (key : List Byte) : (Spec.Rc4.start key).S.length = 256 := by
  simp only [Spec.Rc4.start, ksa_length]

theorem init_refines (key : List Byte) (h0 : 0 < key.length) (h1 : key.length ≤ 256) :
    Rc4.init (key.map (·.toNat)) = .ok (stateOf (ofBV key) (Spec.Rc4.start key)) := by
  unfold Rc4.init
  rw [ofBytes_ofBV]
  have hd : (ofBV key).dim = key.length := ofBV_dim key
  have c0 : ¬ ((ofBV key).dim = 0) := by rw [hd]; omega
  have c1 : ¬ ((ofBV key).dim > 256) := by rw [hd]; omega
  simp only [c0, c1, ↓reduceIte, pure, Except.pure]
  rw [identity_poly]
  have := ksaLoop_refines key h0 (List.range 256) (by intro i hi; simpa using hi) Spec.Rc4.identity
    (by simp [Spec.Rc4.identity]) 0
  have h0' : (((0 : Byte).toNat : Nat) : Int) = 0 := rfl
  rw [h0'] at this
  rw [this, Fold.ok_bind]
  simp only [stateOf, Spec.Rc4.start, Spec.Rc4.ksa]
  congr 1

theorem prgaStep_refines (sp : Spec.Rc4.St) (hlen : sp.S.length = 256) :
    Rc4.prgaStep (ofBV sp.S) (sp.i.toNat : Int) (sp.j.toNat : Int) =
      .ok (((Spec.Rc4.prgaStep sp).1.toNat : Int), ofBV (Spec.Rc4.prgaStep sp).2.S,
           ((Spec.Rc4.prgaStep sp).2.i.toNat : Int), ((Spec.Rc4.prgaStep sp).2.j.toNat : Int)) := by
  unfold Rc4.prgaStep
  dsimp only
  have hl2 := (swap_length sp.S (sp.i + 1) (sp.j + Spec.Rc4.at' sp.S (sp.i + 1))).trans hlen
  rw [show (1 : Int) = (((1 : Byte).toNat : Nat) : Int) from rfl, add_byte, get_byte _ hlen, Fold.ok_bind, add_byte,
    swap_ofBV _ hlen, Fold.ok_bind, get_byte _ hl2, Fold.ok_bind, get_byte _ hl2, Fold.ok_bind, add_byte, get_byte _ hl2,
    Fold.ok_bind]
  rfl

theorem prgaStep_length (sp : Spec.Rc4.St) : (Spec.Rc4.prgaStep sp).2.S.length = sp.S.length := by
  simp [Spec.Rc4.prgaStep, swap_length]

theorem prga_S_length (n : Nat) (sp : Spec.Rc4.St) : (Spec.Rc4.prga n sp).2.S.length = sp.S.length := by
  induction n generalizing sp with
  | zero => rfl
  | succ n ih => simp only [Spec.Rc4.prga]; rw [ih, prgaStep_length]

theorem prga_ks_length (n : Nat) (sp : Spec.Rc4.St) : (Spec.Rc4.prga n sp).1.length = n := by
  induction n generalizing sp with
  | zero => rfl
  | succ n ih => simp only [Spec.Rc4.prga, List.length_cons, ih]

theorem prga_refines (n : Nat) (sp : Spec.Rc4.St) (hlen : sp.S.length = 256) :
    Rc4.prga n (ofBV sp.S) (sp.i.toNat : Int) (sp.j.toNat : Int) =
      .ok ((Spec.Rc4.prga n sp).1.map (fun b => (b.toNat : Int)), ofBV (Spec.Rc4.prga n sp).2.S,
           ((Spec.Rc4.prga n sp).2.i.toNat : Int), ((Spec.Rc4.prga n sp).2.j.toNat : Int)) := by
  induction n generalizing sp with
  | zero => rfl
  | succ n ih =>
    unfold Rc4.prga
    rw [prgaStep_refines sp hlen, Fold.ok_bind]
    dsimp only
    rw [ih _ (by rw [prgaStep_length]; exact hlen), Fold.ok_bind]
    rfl

theorem pack_ofBV (c : List Byte) : (ofBV c).pack = .ok (c.map (·.toNat)) := by
  unfold Poly.pack Poly.split
  simp only [ofBV_size, ↓reduceIte, Fold.ok_bind, ofBV_ival, List.map_map, Bool.false_eq_true, pure, Except.pure]
  congr 1
  apply List.map_congr_left
  intro b _
  simp only [Function.comp, Int.toNat_natCast, Int.ofNat_eq_natCast]
  exact (Nat.and_two_pow_sub_one_eq_mod b.toNat 8).trans (Nat.mod_eq_of_lt b.isLt)

/-- `keystream(n)`: the next `n` bytes of the specified PRGA as a byte Poly; `S`, `i`, `j` persist in the object -/
theorem keystream_refines (K : Poly) (sp : Spec.Rc4.St) (hlen : sp.S.length = 256) (n : Nat) :
    Rc4.keystream (stateOf K sp) n = .ok (ofBV (Spec.Rc4.prga n sp).1, stateOf K (Spec.Rc4.prga n sp).2) := by
  unfold Rc4.keystream stateOf
  rw [prga_refines n sp hlen, Fold.ok_bind]
  exact congrArg (fun p => Except.ok (p, _)) (ofList_ofBV _)

theorem enc_refines (K : Poly) (sp : Spec.Rc4.St) (hlen : sp.S.length = 256) (M : List Byte) :
    Rc4.enc (stateOf K sp) (M.map (·.toNat)) =
      .ok ((Spec.Rc4.enc sp M).1.map (·.toNat), stateOf K (Spec.Rc4.enc sp M).2) := by
  unfold Rc4.enc
  rw [List.length_map, keystream_refines K sp hlen, Fold.ok_bind]
  dsimp only
  rw [ofBytes_ofBV, xor_ofBV (by decide) _ _ (by rw [prga_ks_length]), Fold.ok_bind, pack_ofBV, Fold.ok_bind]
  rfl

theorem enc_S_length (sp : Spec.Rc4.St) (M : List Byte) : (Spec.Rc4.enc sp M).2.S.length = sp.S.length := by
  simp only [Spec.Rc4.enc]; exact prga_S_length _ _

theorem enc_length (sp : Spec.Rc4.St) (M : List Byte) : (Spec.Rc4.enc sp M).1.length = M.length := by
  simp only [Spec.Rc4.enc, List.length_zipWith, prga_ks_length, Nat.min_self]

/-- decryption is encryption from the same generator state -/
theorem enc_enc (sp : Spec.Rc4.St) (M : List Byte) : (Spec.Rc4.enc sp (Spec.Rc4.enc sp M).1).1 = M := by
  rw [Spec.Rc4.enc, enc_length]
  exact xorB_xorB M (Spec.Rc4.prga M.length sp).1 (by rw [prga_ks_length]; exact Nat.le_refl _)

theorem prga_add (n m : Nat) (sp : Spec.Rc4.St) :
    Spec.Rc4.prga (n + m) sp =
      ((Spec.Rc4.prga n sp).1 ++ (Spec.Rc4.prga m (Spec.Rc4.prga n sp).2).1, (Spec.Rc4.prga m (Spec.Rc4.prga n sp).2).2) := by
  induction n generalizing sp with
  | zero => simp [Spec.Rc4.prga]
  | succ n ih =>
    have : n + 1 + m = (n + m) + 1 := by omega
    rw [this]
    simp only [Spec.Rc4.prga, ih, List.cons_append]

theorem spec_enc_append (sp : Spec.Rc4.St) (M1 M2 : List Byte) :
    Spec.Rc4.enc sp (M1 ++ M2) =
      ((Spec.Rc4.enc sp M1).1 ++ (Spec.Rc4.enc (Spec.Rc4.enc sp M1).2 M2).1, (Spec.Rc4.enc (Spec.Rc4.enc sp M1).2 M2).2) := by
  simp only [Spec.Rc4.enc, List.length_append, prga_add]
  congr 1
  rw [List.zipWith_append (by rw [prga_ks_length])]

/-- the specification stream consumed piece by piece -/
def specSeq : Spec.Rc4.St → List (List Byte) → List (List Byte) × Spec.Rc4.St
  | sp, [] => ([], sp)
  | sp, m :: ms => ((Spec.Rc4.enc sp m).1 :: (specSeq (Spec.Rc4.enc sp m).2 ms).1, (specSeq (Spec.Rc4.enc sp m).2 ms).2)

theorem spec_enc_nil (sp : Spec.Rc4.St) : Spec.Rc4.enc sp [] = ([], sp) := rfl

theorem specSeq_flatten (sp : Spec.Rc4.St) (Ms : List (List Byte)) :
    ((specSeq sp Ms).1.flatten, (specSeq sp Ms).2) = Spec.Rc4.enc sp Ms.flatten := by
  induction Ms generalizing sp with
  | nil => rfl
  | cons m ms ih =>
    simp only [specSeq, List.flatten_cons, spec_enc_append]
    have := ih (Spec.Rc4.enc sp m).2
    rw [← this]

theorem encSeq_refines (K : Poly) (sp : Spec.Rc4.St) (hlen : sp.S.length = 256) (Ms : List (List Byte)) :
    Rc4.encSeq (stateOf K sp) (Ms.map (List.map (·.toNat))) =
      .ok ((specSeq sp Ms).1.map (List.map (·.toNat)), stateOf K (specSeq sp Ms).2) := by
  induction Ms generalizing sp with
  | nil => rfl
  | cons m ms ih =>
    simp only [List.map_cons, Rc4.encSeq]
    rw [enc_refines K sp hlen m, Fold.ok_bind]
    dsimp only
    rw [ih _ (by rw [enc_S_length]; exact hlen), Fold.ok_bind]
    rfl

end Proofs.Lemmas.Rc4
