/-
  Byte strings in and out of a `Bits`, each conversion as the bytes read as ONE integer (`Py.leInt` / `Py.beInt`):
  `load` under every bit order (`load_eq_leInt`, with the byte order of the groups in `loadBytes`), the words of a loaded
  string (`split_leInt`), `toBytes` bit by bit, `pack` as `Py.leBytes` / `Py.beBytes`, `unpack` for every byte count.
-/
import Model.Bits
import Proofs.Lemmas.BitsBasic
import Proofs.Lemmas.BitsOps
import Proofs.Lemmas.Bytes
import Proofs.Lemmas.BitsBitVec
namespace Proofs.Lemmas.Bits
open Model Model.Bits Model.Py Proofs.Lemmas.Bytes

theorem groupVal_eq (f : Nat → Nat) (e : List Nat) (hf : ∀ b ∈ e, f b < 256) : groupVal f e = beInt (e.map f) := by
  rw [groupVal, beInt, List.foldl_map]
  exact Fold.foldl_congr_mem (fun b hb x => by
    rw [← Nat.shiftLeft_add_eq_or_of_lt (show f b < 2 ^ 8 from hf b hb), Nat.shiftLeft_eq]) 0

def ByteMap (f : Nat → Nat) : Prop := ∀ b, b < 256 → f b < 256

theorem ByteMap.map {f : Nat → Nat} (hf : ByteMap f) {e : List Nat} (he : AllBytes e) : AllBytes (e.map f) :=
  he.map hf

/-- the bytes of the integer `load` builds, least significant first -/
def loadBytes (f : Nat → Nat) (cs : List (List Nat)) : List Nat := cs.flatMap fun e => (e.map f).reverse

theorem loadBytes_cons (f : Nat → Nat) (e : List Nat) (cs : List (List Nat)) :
    loadBytes f (e :: cs) = (e.map f).reverse ++ loadBytes f cs := rfl

/-- the four are proved together: they go by the same induction along the chunks and use the same two facts about the
    head group, its length `k` and its byte bound -/
theorem groupsVal_chunks (f : Nat → Nat) (hf : ByteMap f) (k : Nat) (hk : 0 < k) (l : List Nat)
    (hdvd : k ∣ l.length) (hl : AllBytes l) :
    groupsVal f k (chunks k l) = leInt (loadBytes f (chunks k l)) ∧
    (loadBytes f (chunks k l)).length = l.length ∧ AllBytes (loadBytes f (chunks k l)) ∧
    ∀ g u, u < k → k * g + u < l.length → (loadBytes f (chunks k l))[k * g + u]? = l[k * g + (k - 1 - u)]?.map f := by
  refine chunks_induction k hk
    (fun (l : List Nat) cs => AllBytes l →
      groupsVal f k cs = leInt (loadBytes f cs) ∧ (loadBytes f cs).length = l.length ∧ AllBytes (loadBytes f cs) ∧
      ∀ g u, u < k → k * g + u < l.length → (loadBytes f cs)[k * g + u]? = l[k * g + (k - 1 - u)]?.map f)
    (fun _ => ⟨rfl, rfl, fun _ h => absurd h List.not_mem_nil, fun g u _ h => absurd h (Nat.not_lt_zero _)⟩) ?_ l hdvd hl
  intro l hne hd cs ih hl
  have hkl : k ≤ l.length := Nat.le_of_dvd (List.length_pos_iff.2 hne) hd
  obtain ⟨ihv, ihlen, ihb, ihidx⟩ := ih (hl.drop k)
  have htl : ((l.take k).map f).reverse.length = k := by simp; omega
  have hbe : AllBytes ((l.take k).map f).reverse := (hf.map (hl.take k)).reverse
  refine ⟨?_, ?_, hbe.append ihb, ?_⟩
  · have hG := leInt_lt _ hbe
    rw [htl] at hG
    rw [groupsVal, loadBytes_cons, leInt_append, htl, ihv, groupVal_eq f _ (fun b hb => hf b (hl.take k b hb)), beInt_eq,
      ← Nat.shiftLeft_add_eq_or_of_lt hG, Nat.shiftLeft_eq, pow256, Nat.add_comm, Nat.mul_comm]
  · rw [loadBytes_cons, List.length_append, htl, ihlen, List.length_drop]
    omega
  · intro g u hu hlt
    rw [loadBytes_cons]
    cases g with
    | zero =>
      rw [List.getElem?_append_left (by omega), List.getElem?_reverse (by simp; omega), List.getElem?_map,
        List.getElem?_take_of_lt (by simp; omega)]
      simp [Nat.min_eq_left hkl]
    | succ g =>
      have e0 : k * (g + 1) = k * g + k := Nat.mul_succ k g
      rw [List.getElem?_append_right (by omega), htl, show k * (g + 1) + u - k = k * g + u by omega,
        ihidx g u hu (by simp only [List.length_drop]; omega), List.getElem?_drop]
      congr 2
      omega

theorem loadBytes_singletons (f : Nat → Nat) (s : List Nat) : loadBytes f (s.map fun x => [x]) = s.map f := by
  induction s with
  | nil => rfl
  | cons x xs ih => simp [loadBytes_cons, ih]

/-- the group size `load` uses -/
def loadK (s : List Nat) (bitorder : Int) : Nat :=
  if bitorder = 0 then (if s.length = 0 then 1 else s.length) else bitorder.natAbs

theorem loadK_pos (s : List Nat) (bo : Int) : 0 < loadK s bo := by
  unfold loadK; split
  · split <;> omega
  · omega

theorem loadK_one (s : List Nat) : loadK s 1 = 1 := rfl
theorem loadK_neg_one (s : List Nat) : loadK s (-1) = 1 := rfl

theorem load_eq (s : List Nat) (bo : Int) :
    load s bo = if s.length % loadK s bo ≠ 0 then .error "ValueError:v length must be a multiple of bitorder"
      else .ok ⟨groupsVal (if bo < 0 then reverseByte else id) (loadK s bo) (chunks (loadK s bo) s), 8 * s.length⟩ := rfl

theorem byteMap_id : ByteMap id := fun _ h => h
theorem byteMap_reverseByte : ByteMap reverseByte := reverseByte_lt

theorem byteMap_bitorder (bo : Int) : ByteMap (if bo < 0 then reverseByte else id) := by
  split
  · exact byteMap_reverseByte
  · exact byteMap_id

theorem load_eq_leInt (s : List Nat) (hs : AllBytes s) (bo : Int) (hd : loadK s bo ∣ s.length) :
    load s bo = .ok ⟨leInt (loadBytes (if bo < 0 then reverseByte else id) (chunks (loadK s bo) s)), 8 * s.length⟩ := by
  rw [load_eq, if_neg (by rw [Nat.mod_eq_zero_of_dvd hd]; exact fun h => h rfl),
    (groupsVal_chunks _ (byteMap_bitorder bo) _ (loadK_pos s bo) s hd hs).1]

theorem load_le_eq (s : List Nat) (hs : AllBytes s) : load s 1 = .ok ⟨leInt s, 8 * s.length⟩ := by
  rw [load_eq_leInt s hs 1 (Nat.one_dvd _), loadK_one, chunks_one, loadBytes_singletons]
  simp

theorem load_rev_eq (s : List Nat) (hs : AllBytes s) : load s (-1) = .ok ⟨leInt (s.map reverseByte), 8 * s.length⟩ := by
  rw [load_eq_leInt s hs (-1) (Nat.one_dvd _), loadK_neg_one, chunks_one, loadBytes_singletons]
  rfl

theorem load_be_eq (s : List Nat) (hs : AllBytes s) : load s 0 = .ok ⟨beInt s, 8 * s.length⟩ := by
  by_cases h0 : s = []
  · subst h0; rfl
  · have hk : loadK s 0 = s.length := by simp [loadK, h0]
    rw [load_eq_leInt s hs 0 (by rw [hk]; exact Nat.dvd_refl _), hk, chunks_self s h0, beInt_eq]
    simp [loadBytes]

theorem ofBytes_le_eq (s : List Nat) (hs : AllBytes s) : ofBytes s none 1 = .ok ⟨leInt s, 8 * s.length⟩ := by
  rw [ofBytes, load_le_eq s hs]
  rfl

theorem ofBytes_le_size_eq (s : List Nat) (hs : AllBytes s) (n : Nat) : ofBytes s (some n) 1 = .ok ⟨leInt s % 2 ^ n, n⟩ := by
  rw [ofBytes, load_le_eq s hs]
  rfl

theorem ofBytes_rev_eq (s : List Nat) (hs : AllBytes s) :
    ofBytes s none (-1) = .ok ⟨leInt (s.map reverseByte), 8 * s.length⟩ := by
  rw [ofBytes, load_rev_eq s hs]
  rfl

theorem ofBytes_rev_size_eq (s : List Nat) (hs : AllBytes s) (n : Nat) :
    ofBytes s (some n) (-1) = .ok ⟨leInt (s.map reverseByte) % 2 ^ n, n⟩ := by
  rw [ofBytes, load_rev_eq s hs]
  rfl

/-! ### bit order −1 without a byte bound (the DES files call these `Model.Bits.…`) -/

def _root_.Model.Bits.bsVal : List Nat → Nat
  | [] => 0
  | b :: bs => (bsVal bs <<< 8) ||| reverseByte b

theorem _root_.Model.Bits.groupVal_single (f : Nat → Nat) (b : Nat) : groupVal f [b] = f b := by
  simp only [groupVal, List.foldl_cons, List.foldl_nil, Nat.zero_shiftLeft, Nat.zero_or]

theorem _root_.Model.Bits.groupsVal_bsVal (s : List Nat) : groupsVal reverseByte 1 (s.map fun b => [b]) = bsVal s := by
  induction s with
  | nil => simp only [List.map_nil, groupsVal, bsVal]
  | cons b bs ih =>
    simp only [List.map_cons, groupsVal, groupVal_single, bsVal, ih, Nat.mul_one]

/-- `Bits(bytes)` (bitorder -1) -/
def _root_.Model.Bits.ofByteStr (s : List Nat) : Bits := ⟨bsVal s, 8 * s.length⟩

theorem _root_.Model.Bits.load_bitstream (s : List Nat) : load s (-1) = .ok (ofByteStr s) := by
  rw [load_eq, loadK_neg_one, Nat.mod_one, if_neg (fun h => h rfl), if_pos (by decide), chunks_one, groupsVal_bsVal]
  rfl

theorem load_bitstream_size (s : List Nat) : ∃ v, load s (-1) = .ok ⟨v, 8 * s.length⟩ := ⟨_, load_bitstream s⟩

theorem ofBytes_size (s : List Nat) : ∃ v, ofBytes s = .ok ⟨v, 8 * s.length⟩ := by
  obtain ⟨v, hv⟩ := load_bitstream_size s
  rw [ofBytes, hv]
  exact ⟨v, rfl⟩

theorem load_spec (s : List Nat) (hs : AllBytes s) (bo : Int) (hd : loadK s bo ∣ s.length) :
    ∃ r, load s bo = .ok r ∧ r.size = 8 * s.length ∧ r.WF ∧
      ∀ g u j, u < loadK s bo → j < 8 → loadK s bo * g + u < s.length →
        r.ival.testBit (8 * (loadK s bo * g + u) + j) =
          ((if bo < 0 then reverseByte else id) (s.getD (loadK s bo * g + (loadK s bo - 1 - u)) 0)).testBit j := by
  obtain ⟨_, hlen, hb, hidx⟩ := groupsVal_chunks _ (byteMap_bitorder bo) _ (loadK_pos s bo) s hd hs
  refine ⟨_, load_eq_leInt s hs bo hd, rfl, ?_, ?_⟩
  · have := leInt_lt _ hb
    rwa [hlen] at this
  · intro g u j hu hj hlt
    have h2 : loadK s bo * g + (loadK s bo - 1 - u) < s.length := by
      have := dvd_bound hd hlt
      rw [Nat.mul_succ] at this
      omega
    show (leInt _).testBit _ = _
    rw [leInt_testBit _ hb _ _ hj, List.getD_eq_getElem?_getD, hidx g u hu hlt, List.getD_eq_getElem?_getD,
      List.getElem?_eq_getElem h2]
    rfl

theorem load_error_iff' (s : List Nat) (bo : Int) :
    (∃ e, load s bo = .error e) ↔ ¬ (loadK s bo ∣ s.length) := by
  rw [load_eq]
  constructor
  · rintro ⟨e, h⟩
    split at h
    · rename_i hm
      intro hd
      exact hm (Nat.mod_eq_zero_of_dvd hd)
    · cases h
  · intro hnd
    have : s.length % loadK s bo ≠ 0 := fun h => hnd (Nat.dvd_of_mod_eq_zero h)
    rw [if_pos this]
    exact ⟨_, rfl⟩

theorem sliceFast_leInt (s : List Nat) (hs : AllBytes s) (sz m j : Nat) :
    (⟨leInt s, sz⟩ : Bits).sliceFast (8 * m * j) (8 * m * j + 8 * m) =
      BitsBitVec.ofBV (BitVec.ofNat (8 * m) (leInt ((s.drop (m * j)).take m))) := by
  rw [sliceFast_digit, leInt_word s hs, ← BitsBitVec.ofNatSz_eq, ofNatSz, ← leInt_word s hs, Nat.mod_mod]

/-- `Bits(s,bitorder=1).split(8m)`: the words of the m-byte groups of s -/
theorem split_leInt (s : List Nat) (hs : AllBytes s) (m n : Nat) (hm : 0 < m) (hl : s.length = m * n) :
    (⟨leInt s, 8 * s.length⟩ : Bits).split (8 * m) false =
      .ok ((List.range n).map fun j => BitsBitVec.ofBV (BitVec.ofNat (8 * m) (leInt ((s.drop (m * j)).take m)))) := by
  rw [split_uniform _ n (8 * m) (by omega) (by rw [hl, Nat.mul_assoc])]
  congr 1
  apply List.map_congr_left
  intro j _
  rw [← sliceFast_leInt s hs (8 * s.length), sliceFast_digit]

-- the two length lemmas are global simp lemmas: byte-level proofs of other primitives normalise lengths with them
@[simp] theorem toBytes_length (b : Bits) : b.toBytes.length = (b.size + 7) / 8 := by simp [toBytes]

theorem toBytes_eq_map (b : Bits) :
    b.toBytes = (List.range ((b.size + 7) / 8)).map fun k => reverseByte (byteAt (b.ival % 2 ^ b.size) k) := by
  simp only [toBytes, and_mask, Nat.shiftRight_eq_div_pow]
  apply List.map_congr_left
  intro k _
  congr 1
  exact Nat.and_two_pow_sub_one_eq_mod _ 8

theorem toBytes_mk (X sz : Nat) (hX : X < 2 ^ sz) :
    toBytes ⟨X, sz⟩ = (List.range ((sz + 7) / 8)).map fun k => reverseByte (byteAt X k) := by
  rw [toBytes_eq_map]
  simp only [Nat.mod_eq_of_lt hX]

theorem toBytes_getElem (b : Bits) (k : Nat) (h : k < b.toBytes.length) :
    b.toBytes[k] = reverseByte (byteAt (b.ival % 2 ^ b.size) k) := by
  simp only [toBytes_eq_map, List.getElem_map, List.getElem_range]

theorem toBytes_allBytes (b : Bits) : AllBytes b.toBytes := by
  intro x hx
  obtain ⟨k, hk, rfl⟩ := List.mem_iff_getElem.1 hx
  rw [toBytes_getElem]
  exact reverseByte_lt _ (byteAt_lt _ k)

theorem toBytes_testBit (b : Bits) (k : Nat) (h : k < b.toBytes.length) (j : Nat) (hj : j < 8) :
    b.toBytes[k].testBit (7 - j) = (decide (8 * k + j < b.size) && b.ival.testBit (8 * k + j)) := by
  rw [toBytes_getElem, reverseByte_testBit _ (byteAt_lt _ k) _ (by omega), show 7 - (7 - j) = j by omega,
    byteAt_testBit _ _ _ hj, Nat.testBit_mod_two_pow]

@[simp] theorem pack_length (b : Bits) (be : Bool) : (b.pack be).length = (b.size + 7) / 8 := by
  unfold pack; cases be <;> simp

/-- the primed forms need no `WF`: the slices `pack` takes end at the size, so what lies above it is not read -/
theorem pack_le_eq' (b : Bits) : b.pack false = leBytes ((b.size + 7) / 8) (b.ival % 2 ^ b.size) := by
  apply List.ext_getElem (by simp)
  intro j h1 h2
  rw [leBytes_getElem]
  simp only [pack, Bool.false_eq_true, ↓reduceIte, List.getElem_map, List.getElem_range]
  have hj : j < (b.size + 7) / 8 := by simpa using h1
  have e255 : (255 : Nat) = 2 ^ 8 - 1 := by decide
  have e256 : (256 : Nat) = 2 ^ 8 := by decide
  rw [e255, Nat.and_two_pow_sub_one_eq_mod, e256, ← Nat.pow_mul]
  apply Nat.eq_of_testBit_eq
  intro t
  rw [Nat.testBit_mod_two_pow, Nat.testBit_mod_two_pow, sliceFast_testBit, Nat.testBit_div_two_pow, Nat.testBit_mod_two_pow]
  by_cases ht : t < 8
  · have e : t + 8 * j = j * 8 + t := by omega
    simp only [ht, decide_true, Bool.true_and, e]
    by_cases hlt : t < min (j * 8 + 8) b.size - j * 8
    · simp [hlt, show j * 8 + t < b.size by omega]
    · simp [hlt, show ¬ j * 8 + t < b.size by omega]
  · simp [ht]

theorem pack_be_eq' (b : Bits) : b.pack true = beBytes ((b.size + 7) / 8) (b.ival % 2 ^ b.size) := by
  have h := pack_le_eq' b
  unfold pack at h ⊢
  unfold beBytes
  simp only [Bool.false_eq_true, ↓reduceIte] at h ⊢
  rw [h]

theorem pack_le_eq (b : Bits) (hb : b.WF) : b.pack false = leBytes ((b.size + 7) / 8) b.ival := by
  rw [pack_le_eq', mod_of_wf hb]

theorem pack_be_eq (b : Bits) (hb : b.WF) : b.pack true = beBytes ((b.size + 7) / 8) b.ival := by
  rw [pack_be_eq', mod_of_wf hb]

theorem pack_ofBV_le {w : Nat} (x : BitVec w) : (BitsBitVec.ofBV x).pack false = leBytes ((w + 7) / 8) x.toNat :=
  pack_le_eq _ (BitsBitVec.ofBV_wf x)
theorem pack_ofBV_be {w : Nat} (x : BitVec w) : (BitsBitVec.ofBV x).pack true = beBytes ((w + 7) / 8) x.toNat :=
  pack_be_eq _ (BitsBitVec.ofBV_wf x)

theorem pack_le_bytes (b : Bits) (n : Nat) (h : b.size = 8 * n) : b.pack false = leBytes n b.ival := by
  rw [pack_le_eq', h, show (8 * n + 7) / 8 = n by omega, ← pow256, leBytes_mod]

theorem pack_be_bytes (b : Bits) (n : Nat) (h : b.size = 8 * n) : b.pack true = beBytes n b.ival := by
  rw [pack_be_eq', h, show (8 * n + 7) / 8 = n by omega, ← pow256, beBytes, beBytes, leBytes_mod]

/-! ### `unpack`: the greedy Q/L/H/B decomposition reads the whole string as ONE integer -/

def bytesVal (bigend : Bool) (s : List Nat) : Nat := if bigend then beInt s else leInt s

theorem unpack_item (bigend : Bool) (c g : List Nat) (hc : AllBytes c) (hg : AllBytes g) :
    (if bigend then ((bytesVal bigend c <<< (8 * g.length)) ||| beInt g, 8 * c.length + 8 * g.length)
      else (bytesVal bigend c ||| (leInt g <<< (8 * c.length)), 8 * c.length + 8 * g.length))
      = (bytesVal bigend (c ++ g), 8 * (c ++ g).length) := by
  rw [List.length_append, Nat.mul_add]
  cases bigend
  · simp only [Bool.false_eq_true, ↓reduceIte, bytesVal]
    rw [Nat.or_comm, ← Nat.shiftLeft_add_eq_or_of_lt (leInt_lt c hc), Nat.shiftLeft_eq, leInt_append, pow256, Nat.add_comm,
      Nat.mul_comm]
  · simp only [↓reduceIte, bytesVal]
    rw [← Nat.shiftLeft_add_eq_or_of_lt (beInt_lt g hg), Nat.shiftLeft_eq, beInt_append, pow256]

theorem unpackStage_eq (bigend : Bool) (q : Nat) (hq : 0 < q) (l : List Nat) (hd : q ∣ l.length) (hl : AllBytes l)
    (c : List Nat) (hc : AllBytes c) :
    unpackStage bigend q (bytesVal bigend c, 8 * c.length) l = (bytesVal bigend (c ++ l), 8 * (c ++ l).length) := by
  -- the fold in the motive is the body of `Model.Bits.unpackStage` with the chunks `cs` in place of `chunks q l`
  refine chunks_induction q hq
    (fun (l : List Nat) cs => AllBytes l → ∀ c, AllBytes c →
      cs.foldl (fun (st : Nat × Nat) g =>
        let (b, i) := st
        if bigend then ((b <<< (8 * q)) ||| beInt g, i + 8 * q) else (b ||| (leInt g <<< i), i + 8 * q))
        (bytesVal bigend c, 8 * c.length)
      = (bytesVal bigend (c ++ l), 8 * (c ++ l).length))
    (fun _ c _ => by rw [List.append_nil]; rfl) ?_ l hd hl c hc
  intro l hne hd cs ih hl c hc
  have htl : (l.take q).length = q := by
    rw [List.length_take]
    exact Nat.min_eq_left (Nat.le_of_dvd (List.length_pos_iff.2 hne) hd)
  have := unpack_item bigend c (l.take q) hc (hl.take q)
  rw [htl] at this
  rw [List.foldl_cons]
  simp only []
  rw [this, ih (hl.drop q) _ (hc.append (hl.take q)), List.append_assoc, List.take_append_drop]

/-- one `(q,f)` iteration of `unpack`'s loop: consume the largest multiple of q bytes -/
def unpackStep (bigend : Bool) (st : (Nat × Nat) × List Nat) (q : Nat) : (Nat × Nat) × List Nat :=
  (unpackStage bigend q st.1 (st.2.take (st.2.length / q * q)), st.2.drop (st.2.length / q * q))

theorem unpack_eq (istr : List Nat) (be : Bool) :
    unpack istr be = (([8, 4, 2, 1].foldl (unpackStep be) ((0, 0), istr)).1.1, 8 * istr.length) := rfl

def UnpackInv (bigend : Bool) (istr : List Nat) (st : (Nat × Nat) × List Nat) : Prop :=
  ∃ consumed, st.1 = (bytesVal bigend consumed, 8 * consumed.length) ∧ consumed ++ st.2 = istr

theorem unpackStep_inv (bigend : Bool) (istr : List Nat) (hs : AllBytes istr) (st : (Nat × Nat) × List Nat) (q : Nat)
    (hq : 0 < q) (h : UnpackInv bigend istr st) : UnpackInv bigend istr (unpackStep bigend st q) := by
  obtain ⟨consumed, h1, h2⟩ := h
  have hrest : AllBytes st.2 := fun x hx => hs x (h2 ▸ List.mem_append_right _ hx)
  have hcons : AllBytes consumed := fun x hx => hs x (h2 ▸ List.mem_append_left _ hx)
  refine ⟨consumed ++ st.2.take (st.2.length / q * q), ?_, ?_⟩
  · have hlen : (st.2.take (st.2.length / q * q)).length = st.2.length / q * q := by
      rw [List.length_take]
      exact Nat.min_eq_left (Nat.div_mul_le_self _ _)
    simp only [unpackStep, h1]
    exact unpackStage_eq bigend q hq _ (by rw [hlen]; exact Nat.dvd_mul_left _ _) (hrest.take _) consumed hcons
  · simp only [unpackStep]
    rw [List.append_assoc, List.take_append_drop, h2]

/-- for every byte count: the last stage (single bytes) leaves nothing unread -/
theorem unpack_val (s : List Nat) (hs : AllBytes s) (bigend : Bool) : unpack s bigend = (bytesVal bigend s, 8 * s.length) := by
  obtain ⟨consumed, e1, e2⟩ := Fold.foldl_inv (UnpackInv bigend s) (unpackStep bigend) [8, 4, 2, 1]
    (fun q hq st => unpackStep_inv bigend s hs st q (by simp at hq; omega))
    (a := ((0, 0), s)) ⟨[], by cases bigend <;> rfl, rfl⟩
  have hrest : ∀ st, (unpackStep bigend st 1).2 = [] := fun st => by simp [unpackStep]
  rw [List.foldl_cons, List.foldl_cons, List.foldl_cons, List.foldl_cons, List.foldl_nil, hrest, List.append_nil] at e2
  rw [unpack_eq, e1, e2]

theorem unpack_le (s : List Nat) (hs : AllBytes s) : unpack s false = (leInt s, 8 * s.length) := unpack_val s hs false

theorem unpack_be (s : List Nat) (hs : AllBytes s) : unpack s true = (beInt s, 8 * s.length) := unpack_val s hs true

end Proofs.Lemmas.Bits
