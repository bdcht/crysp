/- the specifications' bytes (`BitVec 8`) as the byte values the model works on, with their integers and the bytes of a
   number; block parsing: the model's `struct.unpack('>16L'|'>16Q')` gives the standards' big-endian words -/
import Proofs.Lemmas.BitsBitVec
import Proofs.Lemmas.Bytes
import Proofs.Lemmas.Fold
import Model.Sha
import Spec.Hash
namespace Proofs.Lemmas.Parse
open Model Model.Py Proofs.Lemmas.BitsBitVec Proofs.Lemmas.Bytes Proofs.Lemmas.Fold

def toNatBytes (b : List Spec.Byte) : List Nat := b.map (·.toNat)

@[simp] theorem toNatBytes_length (b : List Spec.Byte) : (toNatBytes b).length = b.length := by simp [toNatBytes]

theorem toNatBytes_append (a b : List Spec.Byte) : toNatBytes (a ++ b) = toNatBytes a ++ toNatBytes b :=
  List.map_append

theorem toNatBytes_lt (b : List Spec.Byte) : ∀ x ∈ toNatBytes b, x < 256 := allBytes_toNat b

theorem toNatBytes_ofNat (m : List Nat) (h : ∀ x ∈ m, x < 256) : toNatBytes (m.map (BitVec.ofNat 8)) = m :=
  map_toNat_ofNat h

theorem beInt_toNatBytes (g : List Spec.Byte) : beInt (toNatBytes g) = Spec.beVal g := by
  rw [beInt, toNatBytes, List.foldl_map]
  exact congrArg (fun f => g.foldl f 0) (funext fun acc => funext fun b => congrArg (· + b.toNat) (Nat.mul_comm acc 256))

theorem leInt_toNatBytes (g : List Spec.Byte) : leInt (toNatBytes g) = Spec.leVal g := by
  induction g with
  | nil => rfl
  | cons x xs ih => simp only [toNatBytes, List.map_cons, leInt, Spec.leVal] at ih ⊢; rw [ih]

theorem toNatBytes_leBytes (n x : Nat) : toNatBytes (Spec.leBytes n x) = leBytes n x := by
  rw [leBytes_eq_map, toNatBytes, Spec.leBytes, List.map_map]
  refine List.map_congr_left fun i _ => ?_
  simp only [Function.comp, BitVec.toNat_ofNat, Nat.shiftRight_eq_div_pow, pow256]

theorem toNatBytes_beBytes (n x : Nat) : toNatBytes (Spec.beBytes n x) = beBytes n x := by
  rw [beBytes, ← toNatBytes_leBytes, toNatBytes, toNatBytes, ← List.map_reverse, Spec.leBytes, reverse_map_range]
  rfl

theorem parseBE_refines (w : Nat) (hw : 8 ≤ w) (blk : List Spec.Byte) (h : blk.length = 16 * (w / 8)) :
    Sha.parseBE w (toNatBytes blk) = .ok ((Spec.wordsBE w blk).map ofBV) := by
  have hpos : 0 < w / 8 := Nat.div_pos hw (by decide)
  have hg : 16 * (w / 8) / (w / 8) = 16 := Nat.mul_div_cancel _ hpos
  simp only [Sha.parseBE, toNatBytes_length, h, ne_eq, not_true_eq_false, if_false, Spec.wordsBE, Spec.groups, hg,
    List.map_map]
  congr 1
  apply List.map_congr_left
  intro i _
  simp only [Function.comp, toNatBytes, drop_take_map]
  rw [← toNatBytes, beInt_toNatBytes, ofNatSz_eq]

theorem wordsBE_length (w : Nat) (blk : List Spec.Byte) : (Spec.wordsBE w blk).length = blk.length / (w / 8) := by
  simp [Spec.wordsBE, Spec.groups]

theorem wordsLE_length (w : Nat) (blk : List Spec.Byte) : (Spec.wordsLE w blk).length = blk.length / (w / 8) := by
  simp [Spec.wordsLE, Spec.groups]

end Proofs.Lemmas.Parse
