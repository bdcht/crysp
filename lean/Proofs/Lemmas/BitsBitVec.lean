/-
  Bits ↔ BitVec w at a fixed width: a `Bits` of size w whose ival is below 2^w is a `BitVec w`, and on such values every
  operator of Model.Bits that the hash code uses (+ - ^ & | ~ << >>, `Bits + int`, the translated `rol`/`ror` of
  operators.py) is the corresponding `BitVec w` operation, stated as `op (ofBV x) … = ofBV (…)` so that it rewrites a model
  computation on embedded words into the embedding of a BitVec computation.
-/
import Model.Bits
import Model.Gen.Hashes
import Proofs.Lemmas.BitsOps
import Proofs.Lemmas.Fold
namespace Proofs.Lemmas.BitsBitVec
open Model Model.Py

def ofBV {w : Nat} (v : BitVec w) : Bits := ⟨v.toNat, w⟩
def toBV (w : Nat) (b : Bits) : BitVec w := BitVec.ofNat w b.ival

@[simp] theorem ofBV_size {w} (v : BitVec w) : (ofBV v).size = w := rfl
@[simp] theorem ofBV_ival {w} (v : BitVec w) : (ofBV v).ival = v.toNat := rfl
theorem ofBV_wf {w} (v : BitVec w) : (ofBV v).WF := v.isLt

theorem ofBV_toBV {w} (b : Bits) (hs : b.size = w) (hwf : b.WF) : ofBV (toBV w b) = b := by
  cases b with
  | mk ival size =>
    simp only at hs; subst hs
    simp only [ofBV, toBV, BitVec.toNat_ofNat, Bits.mk.injEq, and_true]
    exact Nat.mod_eq_of_lt hwf

theorem toBV_ofBV {w} (v : BitVec w) : toBV w (ofBV v) = v := by
  simp [toBV, ofBV]

theorem ofBV_inj {w} {x y : BitVec w} (h : ofBV x = ofBV y) : x = y := by
  have := congrArg Bits.ival h
  exact BitVec.eq_of_toNat_eq this

theorem ofNatSz_eq {w} (n : Nat) : Bits.ofNatSz n w = ofBV (BitVec.ofNat w n) := by
  simp [Bits.ofNatSz, ofBV]

private theorem wsize_self (a o : Bits) (h : a.size = o.size) : Bits.wsize a o = a.size :=
  Bits.wsize_of_le (Nat.le_of_eq h.symm)

theorem add_ofBV {w} (x y : BitVec w) : (ofBV x).add (ofBV y) = ofBV (x + y) := by
  simp [Bits.add, wsize_self, ofBV, BitVec.toNat_add]

theorem sub_ofBV {w} (x y : BitVec w) : (ofBV x).sub (ofBV y) = ofBV (x - y) := by
  simp only [ofBV, Bits.sub, Bits.wsize, BitVec.toNat_sub, Nat.lt_irrefl, ite_false]
  rw [Nat.mod_eq_of_lt y.isLt, Nat.add_comm]

theorem xor_ofBV {w} (x y : BitVec w) : (ofBV x).xor (ofBV y) = ofBV (x ^^^ y) :=
  Bits.xor_mk x.toNat w y.toNat w (Nat.le_refl w)

theorem and_ofBV {w} (x y : BitVec w) : (ofBV x).and (ofBV y) = ofBV (x &&& y) := by
  simp [Bits.and, wsize_self, ofBV]

theorem or_ofBV {w} (x y : BitVec w) : (ofBV x).or (ofBV y) = ofBV (x ||| y) :=
  Bits.or_mk x.toNat w y.toNat w (Nat.le_refl w)

theorem inv_ofBV {w} (x : BitVec w) : (ofBV x).inv = ofBV (~~~x) := by
  simp only [Bits.inv, Bits.mask, ofBV, BitVec.toNat_not, Bits.mk.injEq, and_true]
  exact Bits.xor_two_pow_pred x.isLt

theorem shl_ofBV {w} (x : BitVec w) (n : Nat) : (ofBV x).shl n = ofBV (x <<< n) :=
  (Bits.shl_mk x.toNat w n).trans (by rw [ofBV, BitVec.toNat_shiftLeft])

theorem shr_ofBV {w} (x : BitVec w) (n : Nat) : (ofBV x).shr n = ofBV (x >>> n) :=
  Bits.shr_mk x.toNat w n x.isLt

/-- `Bits(k)` has size `bit_length(k) ≤ w`, so the sum is taken at width w -/
theorem addNat_ofBV {w} (x : BitVec w) (k : Nat) (h : k < 2 ^ w) :
    (ofBV x).add (Bits.ofNat k) = ofBV (x + BitVec.ofNat w k) := by
  have e : (ofBV x).add (Bits.ofNat k) = ⟨(x.toNat + k) % 2 ^ w, w⟩ := by
    unfold Bits.add; rw [Bits.wsize_ofNat (ofBV x) h]; rfl
  rw [e]
  simp only [ofBV, BitVec.toNat_add, BitVec.toNat_ofNat, Bits.mk.injEq, and_true]
  rw [Nat.add_mod_mod]

theorem addConst_ofBV {w} (x K : BitVec w) : (ofBV x).add (Bits.ofNat K.toNat) = ofBV (x + K) := by
  rw [addNat_ofBV x K.toNat K.isLt]; simp

theorem andConst_ofBV {w} (x K : BitVec w) : (ofBV x).and (Bits.ofNat K.toNat) = ofBV (x &&& K) := by
  unfold Bits.and
  rw [Bits.wsize_ofNat (ofBV x) K.isLt]
  rfl

/-- at n = w one shift clears the word and the other leaves it as it is -/
theorem rol!_ofBV {w} (x : BitVec w) (n : Nat) (h : n ≤ w) : (ofBV x).rol! n = ofBV (x.rotateLeft n) := by
  unfold Bits.rol!
  rw [shl_ofBV, ofBV_size, shr_ofBV, or_ofBV, BitVec.rotateLeft_def]
  rcases Nat.lt_or_eq_of_le h with h | rfl
  · rw [Nat.mod_eq_of_lt h]
  · simp [BitVec.shiftLeft_eq_zero, BitVec.ushiftRight_eq_zero]

theorem ror!_ofBV {w} (x : BitVec w) (n : Nat) (h : n ≤ w) : (ofBV x).ror! n = ofBV (x.rotateRight n) := by
  unfold Bits.ror!
  rw [shr_ofBV, ofBV_size, shl_ofBV, or_ofBV, BitVec.rotateRight_def]
  rcases Nat.lt_or_eq_of_le h with h | rfl
  · rw [Nat.mod_eq_of_lt h]
  · simp [BitVec.shiftLeft_eq_zero, BitVec.ushiftRight_eq_zero]

theorem rol_ofBV {w} (x : BitVec w) (n : Nat) (h : n ≤ w) : Model.Gen.Hashes.rol (ofBV x) n = ofBV (x.rotateLeft n) :=
  rol!_ofBV x n h
theorem ror_ofBV {w} (x : BitVec w) (n : Nat) (h : n ≤ w) : Model.Gen.Hashes.ror (ofBV x) n = ofBV (x.rotateRight n) :=
  ror!_ofBV x n h

/-- through the embedding this is `ror!_rol!` / `rol!_ror!` -/
theorem rotr_rotl {w} (x : BitVec w) (r : Nat) : (x.rotateLeft r).rotateRight r = x := by
  rcases Nat.eq_zero_or_pos w with rfl | hw
  · exact Subsingleton.elim _ _
  · have hr : r % w ≤ w := Nat.le_of_lt (Nat.mod_lt _ hw)
    rw [← BitVec.rotateLeft_mod_eq_rotateLeft, ← BitVec.rotateRight_mod_eq_rotateRight]
    apply ofBV_inj
    rw [← ror!_ofBV _ _ hr, ← rol!_ofBV _ _ hr]
    exact Bits.ror!_rol! _ (ofBV_wf x) _ hr

theorem rotl_rotr {w} (x : BitVec w) (r : Nat) : (x.rotateRight r).rotateLeft r = x := by
  rcases Nat.eq_zero_or_pos w with rfl | hw
  · exact Subsingleton.elim _ _
  · have hr : r % w ≤ w := Nat.le_of_lt (Nat.mod_lt _ hw)
    rw [← BitVec.rotateRight_mod_eq_rotateRight, ← BitVec.rotateLeft_mod_eq_rotateLeft]
    apply ofBV_inj
    rw [← rol!_ofBV _ _ hr, ← ror!_ofBV _ _ hr]
    exact Bits.rol!_ror! _ (ofBV_wf x) _ hr

theorem getD_map_ofBV {w} (l : List (BitVec w)) (i : Nat) :
    (l.map ofBV).getD i ⟨0, w⟩ = ofBV (l.getD i 0) :=
  Fold.getD_map ofBV l i 0

theorem foldl_xor_ofBV {w} (l : List (BitVec w)) (a : BitVec w) :
    (l.map ofBV).foldl Bits.xor (ofBV a) = ofBV (l.foldl (· ^^^ ·) a) := by
  rw [List.foldl_map]
  exact Fold.foldl_sim ofBV _ _ l (fun w _ b => xor_ofBV b w) a

end Proofs.Lemmas.BitsBitVec
