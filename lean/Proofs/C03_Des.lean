/-
  C03 (DES / TDEA part) — DES and triple-DES are permutations of the 64-bit blocks, IP / IPinv are mutual inverses.

  Everything here is about Model.Des (the mirror of crysp/des.py, tied to the source by the regenerated tables and
  the correspondence stream).  No theorem below uses any fact about the S-boxes, E, P, PC1, PC2 beyond their sizes, and of
  the rotation schedule only that the shifts sum to at most 28 (`cumShift_le`: past 28 `subkey` raises on a negative shift
  count): invertibility comes from the Feistel structure and from `IPinv ∘ IP = id`.
-/
import Proofs.Lemmas.DesLemmas
namespace Proofs.C03_Des
open Model Model.Bits Model.Des

/-- for any half-block type, any "xor" that cancels on an invariant `P`, and ANY (even failing) round functions
    preserving `P` -/
theorem feistel_inverse {β ι ε : Type} (x : β → β → β) (f : ι → β → Except ε β) (P : β → Prop)
    (hx : ∀ a b, P a → P b → x (x a b) b = a) (hP : ∀ a b, P a → P b → P (x a b))
    (hf : ∀ r a b, P a → f r a = .ok b → P b)
    (rs : List ι) (L R L' R' : β) (hL : P L) (hR : P R) (h : Feistel.run x f rs L R = .ok (L', R')) :
    Feistel.run x f rs.reverse R' L' = .ok (R, L) :=
  (Feistel.run_reverse x f P hx hP hf rs L R L' R' hL hR h).1

/-- the DES round loop of the code IS that network (round function `R ↦ F(R,k,r)`, xor = `Bits.__xor__`) -/
theorem rounds_is_feistel (k : Bits) (order : List Nat) (L R : Bits) :
    Des.rounds k order L R = Feistel.run Bits.xor (fun r R => Des.F R k r) order L R :=
  rounds_eq_run k order L R

/-- `IPinv ∘ IP = id` on every 64-bit value (from the regenerated tables, enumerated in the kernel) -/
theorem ipinv_ip (b : Bits) (hb : b.WF) (hs : b.size = 64) : (Des.IP b >>= Des.IPinv) = .ok b := by
  simp only [Des.IP, Des.IPinv, hs, ne_eq, not_true_eq_false, if_false, bind, Except.bind, size_pick, len_ip]
  rw [pick_pick_id b hb _ _ (by rw [hs]; exact ipinv_after_ip)]

theorem ip_ipinv (b : Bits) (hb : b.WF) (hs : b.size = 64) : (Des.IPinv b >>= Des.IP) = .ok b := by
  simp only [Des.IP, Des.IPinv, hs, ne_eq, not_true_eq_false, if_false, bind, Except.bind, size_pick, len_ipinv]
  rw [pick_pick_id b hb _ _ (by rw [hs]; exact ip_after_ipinv)]

/-- IP and IPinv refuse everything that is not 64 bits wide -/
theorem ip_size_rejected (b : Bits) (hs : b.size ≠ 64) : Des.IP b = .error assertErr ∧ Des.IPinv b = .error assertErr := by
  simp [Des.IP, Des.IPinv, hs]

/-- DES: for EVERY 8-byte key string (also weak keys, any parity) and every 8-byte block, `enc` succeeds, returns 8
    bytes, and `dec` maps the result back to the block. -/
theorem des_dec_enc (K M : List Nat) (hK : K.length = 8) (hM : M.length = 8) (hb : IsBytes M) :
    ∃ C, Des.enc K M = .ok C ∧ C.length = 8 ∧ IsBytes C ∧ Des.dec K C = .ok M :=
  des_roundtrip K M hK hM hb encOrder

theorem des_enc_dec (K C : List Nat) (hK : K.length = 8) (hC : C.length = 8) (hb : IsBytes C) :
    ∃ M, Des.dec K C = .ok M ∧ M.length = 8 ∧ IsBytes M ∧ Des.enc K M = .ok C :=
  des_roundtrip K C hK hC hb decOrder

/-- length law: whatever `enc`/`dec` return has the length of the block (and the block was 8 bytes) -/
theorem des_length (K M C : List Nat) (h : Des.enc K M = .ok C ∨ Des.dec K M = .ok C) :
    C.length = M.length ∧ M.length = 8 := by
  have key : ∀ order, (DES.new K >>= fun d => d.crypt order M) = .ok C → C.length = M.length ∧ M.length = 8 := by
    intro order hc
    rw [new_crypt_eq] at hc
    split at hc
    · next hl =>
      cases hc
      rw [length_toBytes, size_cryptP, hl.2]
      exact ⟨rfl, rfl⟩
    · cases hc
  exact h.elim (key _) (key _)

/-- TDEA: for EVERY constructed object (hence every keying option and every accepted way of passing the keys) and every
    8-byte block, `enc` succeeds, returns 8 bytes, and `dec` maps the result back to the block. -/
theorem tdea_dec_enc (t : TDEA) (M : List Nat) (hM : M.length = 8) (hb : IsBytes M) :
    ∃ C, t.enc M = .ok C ∧ C.length = 8 ∧ IsBytes C ∧ t.dec C = .ok M :=
  crypt3_inverse t.E1 t.E2 t.E3 encOrder decOrder encOrder M hM hb

theorem tdea_enc_dec (t : TDEA) (C : List Nat) (hC : C.length = 8) (hb : IsBytes C) :
    ∃ M, t.dec C = .ok M ∧ M.length = 8 ∧ IsBytes M ∧ t.enc M = .ok C :=
  crypt3_inverse t.E3 t.E2 t.E1 decOrder encOrder decOrder C hC hb

/-- the same through the constructor: whatever way the keys were passed, if `TDEA(K1,K2,K3)` was accepted then
    `dec(enc(M)) = M` and `enc(dec(M)) = M` -/
theorem tdea_roundtrip_call (K1 : List Nat) (K2 K3 : Option (List Nat)) (t : TDEA) (ht : TDEA.new K1 K2 K3 = .ok t)
    (M : List Nat) (hM : M.length = 8) (hb : IsBytes M) :
    (Des.tdeaEnc K1 K2 K3 M >>= Des.tdeaDec K1 K2 K3) = .ok M ∧ (Des.tdeaDec K1 K2 K3 M >>= Des.tdeaEnc K1 K2 K3) = .ok M := by
  obtain ⟨C, c1, _, _, c4⟩ := tdea_dec_enc t M hM hb
  obtain ⟨P, p1, _, _, p4⟩ := tdea_enc_dec t M hM hb
  simp [Des.tdeaEnc, Des.tdeaDec, ht, c1, c4, p1, p4, bind, Except.bind]

/-- non-vacuity: a weak key with the zero block, and a 24-byte key string, satisfy the hypotheses of the round-trip
    theorems above (deliberately no ciphertext value here: C03 must not depend on any S-box entry) -/
example : (Des.enc [1,1,1,1,1,1,1,1] [0,0,0,0,0,0,0,0] >>= Des.dec [1,1,1,1,1,1,1,1]).toOption = some [0,0,0,0,0,0,0,0]
    ∧ (Des.tdeaDec [1,2,3,4,5,6,7,8,9,10,11,12,13,14,15,16,17,18,19,20,21,22,23,24] none none [255,0,1,2,3,4,5,6]
        >>= Des.tdeaEnc [1,2,3,4,5,6,7,8,9,10,11,12,13,14,15,16,17,18,19,20,21,22,23,24] none none).toOption
        = some [255,0,1,2,3,4,5,6] := by
  obtain ⟨C, e1, _, _, e2⟩ := des_dec_enc [1,1,1,1,1,1,1,1] [0,0,0,0,0,0,0,0] rfl rfl (by simp [IsBytes])
  have hnew : (TDEA.new [1,2,3,4,5,6,7,8,9,10,11,12,13,14,15,16,17,18,19,20,21,22,23,24] none none).toOption.isSome
      = true := by
    decide +kernel
  cases ht : TDEA.new [1,2,3,4,5,6,7,8,9,10,11,12,13,14,15,16,17,18,19,20,21,22,23,24] none none with
  | error e =>
    rw [ht] at hnew
    cases hnew
  | ok t =>
    rw [(tdea_roundtrip_call _ none none t ht _ rfl (by simp [IsBytes])).2, e1]
    simp only [bind, Except.bind, e2, Except.toOption, and_self]

end Proofs.C03_Des
