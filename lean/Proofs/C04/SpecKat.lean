/-
  C04 — supporting validation of the specification inside the kernel: Spec.Keccak evaluated by `decide +kernel`
  gives published answers (no dependence on the model or on anything regenerated from the library).  The kernel
  runs the permutation in the form of Proofs.Lemmas.KeccakEval (the state written down as one number), proved
  equal to Spec.Keccak's there.
-/
import Spec.Keccak
import Proofs.Lemmas.KeccakEval
namespace Proofs.C04.SpecKat
open Proofs.Lemmas.KeccakEval

/-- compact Keccak, b = 200, r = 40, Len = 43, Msg = F219BD629820 (NIST bit order),
    Squeezed = C8F9476DBF0B0FE01F80629FD5689097AAAC6732 (KeccakReferenceAndOptimized, also in the library's tests) -/
theorem kat_b200 : Spec.Keccak.bytesOfBits (Spec.Keccak.keccak 8 40
      (Spec.Keccak.msgBitsNIST [0xF2, 0x19, 0xBD, 0x62, 0x98, 0x20] 43) 160)
    = [0xC8, 0xF9, 0x47, 0x6D, 0xBF, 0x0B, 0x0F, 0xE0, 0x1F, 0x80, 0x62, 0x9F, 0xD5, 0x68, 0x90, 0x97, 0xAA, 0xAC,
       0x67, 0x32] := by
  rw [Spec.Keccak.keccak, fString_eval (by decide)]
  decide +kernel

/-- FIPS 202: SHA3-256("") = a7ffc6f8bf1ed76651c14756a061d662f580ff4de43b49fa82d80a4b80f8434a -/
theorem kat_sha3_256_empty : Spec.Keccak.sha3 256 []
    = [0xa7, 0xff, 0xc6, 0xf8, 0xbf, 0x1e, 0xd7, 0x66, 0x51, 0xc1, 0x47, 0x56, 0xa0, 0x61, 0xd6, 0x62, 0xf5, 0x80,
       0xff, 0x4d, 0xe4, 0x3b, 0x49, 0xfa, 0x82, 0xd8, 0x0a, 0x4b, 0x80, 0xf8, 0x43, 0x4a] := by
  rw [Spec.Keccak.sha3, Spec.Keccak.keccakC, Spec.Keccak.keccak, fString_eval (by decide)]
  decide +kernel

/-- the round constants generated by the LFSR rule, lane size 64: RC[0], RC[1], RC[23] of FIPS 202 / the Keccak reference -/
theorem kat_RC64 : (Spec.Keccak.RC 64 0).toNat = 0x0000000000000001 ∧ (Spec.Keccak.RC 64 1).toNat = 0x0000000000008082
    ∧ (Spec.Keccak.RC 64 23).toNat = 0x8000000080008008 := by
  rw [RC_eval, RC_eval, RC_eval]
  decide +kernel

end Proofs.C04.SpecKat
