/-
  C04 / FIPS 202 — known answers for the literal transcription Spec.Fips202, checked inside the kernel
  (`decide +kernel`); no statement mentions a model or anything regenerated from the library (the file does import
  them, through Proofs.C04_Fips202, for the equations between the two specifications).
  rc(t), pad10*1 and h2b are run as transcribed.  KECCAK-p[25, 2] (rounds ir = 10, 11) and KECCAK-p[200, 1] (round
  ir = 17) have their expected values from the independent Python reference (tools/props/C04.py); KECCAK-f[200] of the
  all-zero state is the first line of the published KeccakF-200 intermediate values.  The step mappings of Spec.Fips202
  are closures that re-read every bit at every use, so the kernel runs the permutation in the form of
  Proofs.Lemmas.KeccakEval (`KECCAK_p_evalN`) and reads the bytes of the result through `b2h_agrees`.
-/
import Spec.Fips202
import Spec.Fips202Eval
import Proofs.C04_Fips202
import Proofs.Lemmas.KeccakEval
namespace Proofs.C04.Fips202Kat
open Spec.Fips202

/-- Algorithm 7 through the state written down as one number -/
theorem KECCAK_p_evalN {w : Nat} (hw : 0 < w) (nr : Nat) (hnr : nr ≤ 12 + 2 * Nat.log2 w) (S : Str) :
    KECCAK_p (25 * w) nr S
      = (List.range (25 * w)).map (Proofs.Lemmas.KeccakEval.keccakPN w nr (Spec.Keccak.bitsToNat S)).testBit :=
  (Proofs.C04_Fips202.KECCAK_p_agrees hw nr hnr S).trans (Proofs.Lemmas.KeccakEval.pString_eval hw nr S)

/-- KECCAK-p[25, 2] on the 25-bit string 1110100001111000111001101 (= h2b(171E6701, 25)) -/
example : bytesOfHex (b2h (KECCAK_p 25 2 (h2b [1, 7, 1, 14, 6, 7, 0, 1] 25))) = [0xfd, 0xee, 0x84, 0x01] := by
  rw [Proofs.C04_Fips202.b2h_agrees, KECCAK_p_evalN (w := 1) (by decide) 2 (by decide)]
  decide +kernel

/-- KECCAK-p[200, 1] on the bytes 01 02 … 19 -/
example : bytesOfHex (b2h (KECCAK_p 200 1 (h2b (hexOfBytes
      [1, 2, 3, 4, 5, 6, 7, 8, 9, 10, 11, 12, 13, 14, 15, 16, 17, 18, 19, 20, 21, 22, 23, 24, 25]) 200)))
    = [0x88, 0xc1, 0x18, 0x51, 0x40, 0x01, 0x02, 0xf0, 0x13, 0x21, 0x30, 0x85, 0x3e, 0x04, 0x95, 0xf4, 0x73, 0x0d,
       0xfe, 0x00, 0xc5, 0x08, 0xee, 0x01, 0x6c] := by
  rw [Proofs.C04_Fips202.b2h_agrees, KECCAK_p_evalN (w := 8) (by decide) 1 (by decide)]
  decide +kernel

/-- rc(t) for t = 0 … 15 and two negative arguments (t mod 255 on the integers): rc(−255) = rc(0), rc(−254) = rc(1) -/
example : (List.range 16).map (fun (t : Nat) => rc (t : Int)) =
    [true, false, false, false, false, false, false, false, true, false, true, true, false, false, false, true]
    ∧ rc (-255) = true ∧ rc (-254) = false := by decide +kernel

/-- pad10*1(8, 5) = 1 0 1 (j = (−5−2) mod 8 = 1); pad10*1(8, 6) = 1 1 (j = 0); pad10*1(8, 7) = 1 0^7 1 (spills into
    an extra block) -/
example : pad10s1 8 5 = [true, false, true] ∧ pad10s1 8 6 = [true, true] ∧ pad10s1 8 7 = [true] ++ zeros 7 ++ [true]
    ∧ pad10s1 1 7 = [true, true] := by
  decide +kernel

theorem kat_f200_eval : bytesOfHex (b2h (Eval.KECCAK_p_eval 200 18 (zeros 200)))
    = [0x3C, 0x28, 0x26, 0x84, 0x1C, 0xB3, 0x5C, 0x17, 0x1E, 0xAA, 0xE9, 0xB8, 0x11, 0x13, 0x4C, 0xEA, 0xA3, 0x85,
       0x2C, 0x69, 0xD2, 0xC5, 0xAB, 0xAF, 0xEA] := by
  rw [Proofs.C04_Fips202.b2h_agrees, Proofs.C04_Fips202.KECCAK_p_eval_eq (w := 8) (by decide) 18 (by decide),
    KECCAK_p_evalN (w := 8) (by decide) 18 (by decide)]
  decide +kernel

/-- KECCAK-f[200] of the literal transcription on 0^200 = the published value -/
example : bytesOfHex (b2h (KECCAK_f 200 (zeros 200)))
    = [0x3C, 0x28, 0x26, 0x84, 0x1C, 0xB3, 0x5C, 0x17, 0x1E, 0xAA, 0xE9, 0xB8, 0x11, 0x13, 0x4C, 0xEA, 0xA3, 0x85,
       0x2C, 0x69, 0xD2, 0xC5, 0xAB, 0xAF, 0xEA] := by
  have h := Proofs.C04_Fips202.KECCAK_p_eval_eq (w := 8) (by decide) 18 (by decide) (zeros 200)
  have e : KECCAK_f 200 (zeros 200) = KECCAK_p (25 * 8) 18 (zeros 200) := rfl
  rw [e, ← h]
  exact kat_f200_eval

end Proofs.C04.Fips202Kat
