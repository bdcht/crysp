/-
  C03 (Serpent part, rol/ror) — Serpent.dec inverts Serpent.enc (both ways) and keeps the block length; the exposed
  component pairs _S/_Sinv (8 boxes), _IP/_FP, _L/_Linv are mutual inverses on every 128-bit block; rol/ror of
  crysp/utils/operators.py are mutual inverses for every width and every amount.
  Blocks/values are well-formed `Bits` (ival < 2^size), the only values the library hands out.
-/
import Proofs.Lemmas.SerpentBytes
namespace Proofs.C03_Serpent
open Model Model.Bits Spec.Serpent Proofs.Lemmas
open Proofs.Lemmas.SerpentBits Proofs.Lemmas.SerpentComp Proofs.Lemmas.SerpentSpec Proofs.Lemmas.SerpentKS
open Proofs.Lemmas.SerpentEnc Proofs.Lemmas.SerpentBytes Proofs.Lemmas.SerpentStdPerm
open Proofs.Lemmas.SerpentStdLin (inv_lt)

/-- Sinv_i(S_i(x)) = x = S_i(Sinv_i(x)) for the 8 probed boxes on all 16 values -/
theorem box_inverse : ∀ i < 8, ∀ x < 16,
    ((Model.Gen.Serpent.sboxInv.getD i []).getD ((Model.Gen.Serpent.sbox.getD i []).getD x 0) 16 = x) ∧
    ((Model.Gen.Serpent.sbox.getD i []).getD ((Model.Gen.Serpent.sboxInv.getD i []).getD x 0) 16 = x) := by
  decide +kernel

/-- the probed `_IP` and `_FP` index tables are inverse permutations of 0..127 -/
theorem ip_fp_inverse : ∀ j < 128,
    Model.Gen.Serpent.fpTable.getD j 0 < 128 ∧ Model.Gen.Serpent.ipTable.getD j 0 < 128 ∧
    Model.Gen.Serpent.ipTable.getD (Model.Gen.Serpent.fpTable.getD j 0) 0 = j ∧
    Model.Gen.Serpent.fpTable.getD (Model.Gen.Serpent.ipTable.getD j 0) 0 = j := by
  intro j hj
  rw [gen_ipTable, gen_fpTable, ipTable_getD j hj, fpTable_getD j hj,
    ipTable_getD _ (show 4 * (j % 32) + j / 32 < 128 by omega), fpTable_getD _ (show 32 * (j % 4) + j / 4 < 128 by omega)]
  omega

theorem FP_IP (X : Bits) (hs : X.size = 128) (hwf : X.WF) :
    (Model.Serpent.IP X >>= Model.Serpent.FP) = .ok X := by
  cases X with | mk v sz =>
  subst hs
  rw [Fold.bind_eq_of_ok (IP_eq _ rfl), FP_eq _ rfl, Proofs.Lemmas.SerpentStdPerm.FP_IP v hwf]

theorem IP_FP (X : Bits) (hs : X.size = 128) (hwf : X.WF) :
    (Model.Serpent.FP X >>= Model.Serpent.IP) = .ok X := by
  cases X with | mk v sz =>
  subst hs
  rw [Fold.bind_eq_of_ok (FP_eq _ rfl), IP_eq _ rfl, Proofs.Lemmas.SerpentStdPerm.IP_FP v hwf]

/-- `_Sinv(i,_S(i,X)) == X` for the 8 boxes and every block (every bit position, lifted from the 16 enumerated values) -/
theorem Sinv_S (i : Nat) (X : Bits) (hi : i < 8) (hs : X.size = 128) (hwf : X.WF) :
    (Model.Serpent.S i X >>= Model.Serpent.Sinv i) = .ok X :=
  round_trip_bind (inv_box i hi) (S_eq i hi) (Sinv_eq i hi) X hs hwf

theorem S_Sinv (i : Nat) (X : Bits) (hi : i < 8) (hs : X.size = 128) (hwf : X.WF) :
    (Model.Serpent.Sinv i X >>= Model.Serpent.S i) = .ok X :=
  round_trip_bind (inv_box i hi).symm (Sinv_eq i hi) (S_eq i hi) X hs hwf

/-- `_Linv(_L(X)) == X` for every block (xor cancellation and ror∘rol = id) -/
theorem Linv_L (X : Bits) (hs : X.size = 128) (hwf : X.WF) :
    (Model.Serpent.L X >>= Model.Serpent.Linv) = .ok X := round_trip_bind inv_lt L_eq Linv_eq X hs hwf

theorem L_Linv (X : Bits) (hs : X.size = 128) (hwf : X.WF) :
    (Model.Serpent.Linv X >>= Model.Serpent.L) = .ok X := round_trip_bind inv_lt.symm Linv_eq L_eq X hs hwf

/-- `ror(rol(x,n),n) == x` for every width `x.size`, every amount `0 ≤ n ≤ x.size` -/
theorem ror_rol (x : Bits) (n : Nat) (hwf : x.WF) (hn : n ≤ x.size) :
    (x.rol n >>= fun y => y.ror n) = .ok x := by
  rw [Fold.bind_eq_of_ok (Bits.rol_ok hn), Bits.ror_ok (by rw [Bits.rol!_size]; exact hn), Bits.ror!_rol! x hwf n hn]

theorem rol_ror (x : Bits) (n : Nat) (hwf : x.WF) (hn : n ≤ x.size) :
    (x.ror n >>= fun y => y.rol n) = .ok x := by
  rw [Fold.bind_eq_of_ok (Bits.ror_ok hn), Bits.rol_ok (by rw [Bits.ror!_size]; exact hn), Bits.rol!_ror! x hwf n hn]

/-- an amount beyond the width is an error (negative shift count), never a silent result -/
theorem rot_out_of_range (x : Bits) (n : Nat) (h : x.size < n) :
    (∃ e, x.rol n = .error e) ∧ (∃ e, x.ror n = .error e) := ⟨⟨_, Bits.rol_error h⟩, ⟨_, Bits.ror_error h⟩⟩

/-- `rol` is the rotation of the bit sequence: bit j moves to (j+n) mod width -/
theorem rol_refines (x : Bits) (n : Nat) (hwf : x.WF) (hn : n ≤ x.size) :
    x.rol n = .ok ⟨rolBits x.size x.ival n, x.size⟩ := by
  rw [Bits.rol_ok hn, rol!_eq x n hwf hn]

/-- `ror` is the rotation the other way: bit (j+n) mod width moves to j -/
theorem ror_refines (x : Bits) (n : Nat) (hwf : x.WF) (hn : n ≤ x.size) :
    x.ror n = .ok ⟨rorBits x.size x.ival n, x.size⟩ := by
  rw [Bits.ror_ok hn, ror!_eq x n hwf hn]

/-- `S.dec(S.enc(M)) == M` on the 128-bit values (before `pack`): for every key of at most 256 bits and every block -/
theorem dec_enc (K M : Bits) (hK : K.WF) (hKs : K.size ≤ 256) (hM : M.WF) (hMs : M.size = 128) :
    ∃ c C, Model.Serpent.init K = .ok c ∧ Model.Serpent.encBits c M = .ok C ∧ C.size = 128 ∧ C.WF ∧
      Model.Serpent.decBits c C = .ok M :=
  have hks := roundKeys_ws K.size K.ival
  let ⟨C, h⟩ := round_trip (inv_enc _ hks) (encBits_eq _ hks (roundKeys_length _ _)) (decBits_eq _ hks (roundKeys_length _ _))
    M hMs hM
  ⟨_, C, init_eq K hKs hK, h⟩

theorem enc_dec (K C : Bits) (hK : K.WF) (hKs : K.size ≤ 256) (hC : C.WF) (hCs : C.size = 128) :
    ∃ c M, Model.Serpent.init K = .ok c ∧ Model.Serpent.decBits c C = .ok M ∧ M.size = 128 ∧ M.WF ∧
      Model.Serpent.encBits c M = .ok C :=
  have hks := roundKeys_ws K.size K.ival
  let ⟨M, h⟩ := round_trip (inv_enc _ hks).symm (decBits_eq _ hks (roundKeys_length _ _))
    (encBits_eq _ hks (roundKeys_length _ _)) C hCs hC
  ⟨_, M, init_eq K hKs hK, h⟩

/-- the same for the submission's cipher itself (Spec): decryption inverts encryption and vice versa, every key length, key, block -/
theorem spec_dec_enc (klen K P : Nat) (hP : P < 2 ^ 128) :
    decNat klen K (encNat klen K P) = P ∧ encNat klen K (decNat klen K P) = P ∧
    encNat klen K P < 2 ^ 128 ∧ decNat klen K P < 2 ^ 128 := by
  have h := inv_enc _ (roundKeys_ws klen K)
  have hs := stateOfNat_ws P
  unfold decNat encNat
  refine ⟨?_, ?_, natOfState_lt _ (h.st hs).1, natOfState_lt _ (h.st hs).2⟩
  · rw [stateOfNat_natOfState _ (h.st hs).1, (h.undo hs).1, natOfState_stateOfNat _ hP]
  · rw [stateOfNat_natOfState _ (h.st hs).2, (h.undo hs).2, natOfState_stateOfNat _ hP]

/-- byte strings, as the user calls it: `Serpent(key).dec(Serpent(key).enc(block)) == block`, and the ciphertext has
    16 bytes, for every key of 0..32 bytes and every 16-byte block -/
theorem dec_enc_bytes (key block : List Nat) (hk : IsBytes key) (hb : IsBytes block)
    (hkl : key.length ≤ 32) (hbl : block.length = 16) :
    ∃ c, Model.Serpent.encBytes key block = .ok c ∧ c.length = block.length ∧ IsBytes c ∧
      Model.Serpent.decBytes key c = .ok block := by
  have hP : leNat block < 2 ^ 128 := by
    have := leNat_lt block
    rwa [hbl] at this
  obtain ⟨h1, _, h3, _⟩ := spec_dec_enc (8 * key.length) (leNat key) (leNat block) hP
  refine ⟨_, encBytes_eq key block hk hb hkl hbl, by rw [leBytes_length, hbl], leBytes_isBytes _ _, ?_⟩
  rw [decBytes_eq key _ hk (leBytes_isBytes _ _) hkl (leBytes_length _ _), leNat_leBytes 16 _ h3, h1, ← hbl,
    leBytes_leNat block hb]

theorem enc_dec_bytes (key block : List Nat) (hk : IsBytes key) (hb : IsBytes block)
    (hkl : key.length ≤ 32) (hbl : block.length = 16) :
    ∃ m, Model.Serpent.decBytes key block = .ok m ∧ m.length = block.length ∧ IsBytes m ∧
      Model.Serpent.encBytes key m = .ok block := by
  have hP : leNat block < 2 ^ 128 := by
    have := leNat_lt block
    rwa [hbl] at this
  obtain ⟨_, h2, _, h4⟩ := spec_dec_enc (8 * key.length) (leNat key) (leNat block) hP
  refine ⟨_, decBytes_eq key block hk hb hkl hbl, by rw [leBytes_length, hbl], leBytes_isBytes _ _, ?_⟩
  rw [encBytes_eq key _ hk (leBytes_isBytes _ _) hkl (leBytes_length _ _), leNat_leBytes 16 _ h4, h2, ← hbl,
    leBytes_leNat block hb]

/-- `|enc_K(B)| == |B|`: the result of enc (and dec) on any admissible input has 16 bytes -/
theorem enc_length (K M : Bits) (hK : K.WF) (hKs : K.size ≤ 256) (hM : M.WF) (hMs : M.size = 128) :
    (∃ c, Model.Serpent.enc K M = .ok c ∧ c.length = 16) ∧ (∃ m, Model.Serpent.dec K M = .ok m ∧ m.length = 16) :=
  ⟨⟨_, enc_eq K M hK hKs hM hMs, leBytes_length _ _⟩, ⟨_, dec_eq K M hK hKs hM hMs, leBytes_length _ _⟩⟩

/-! ### non-vacuity -/
example : (⟨0x1234, 13⟩ : Bits).WF ∧ 5 ≤ (⟨0x1234, 13⟩ : Bits).size := by decide
example : (⟨0, 0⟩ : Bits).WF ∧ 0 ≤ (⟨0, 0⟩ : Bits).size := by decide
example : IsBytes [0xde, 0xad] ∧ [0xde, 0xad].length ≤ 32 ∧ (List.replicate 16 0xff).length = 16 ∧ IsBytes (List.replicate 16 0xff) := by
  decide
example : (⟨2 ^ 127 + 1, 128⟩ : Bits).WF := by decide

end Proofs.C03_Serpent
