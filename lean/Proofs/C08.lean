/-
  C08 — Bits: operators are fixed-width modular algebra touching only addressed bits.
  Denotation of a vector: `b.size` and the bits `b.ival.testBit i` (bit 0 = first element of the sequence);
  `WF b : b.ival < 2 ^ b.size` is the invariant "the payload does not exceed the size".
-/
import Model.Bits
import Proofs.Lemmas.BitsBasic
import Proofs.Lemmas.BitsOps
import Proofs.Lemmas.BitsIndex
import Proofs.Lemmas.BitsExt
namespace Proofs.C08
open Model Model.Bits Model.Py Proofs.Lemmas.Bits

/-- `a + o`, also `a + int` and `int + a` through `ofNat` -/
theorem add_spec (a o : Bits) :
    (a.add o).size = max a.size o.size ∧ (a.add o).ival = (a.ival + o.ival) % 2 ^ max a.size o.size := by
  simp [add, wsize_eq_max]

theorem sub_spec (a o : Bits) :
    (a.sub o).size = max a.size o.size ∧
    ((a.sub o).ival : Int) = ((a.ival : Int) - (o.ival : Int)) % (2 ^ max a.size o.size : Nat) := by
  refine ⟨wsize_eq_max a o, ?_⟩
  simp only [sub, wsize_eq_max]
  exact Lemmas.Fold.sub_mod_int (Nat.two_pow_pos _) _ _

/-- `a - o` in ℕ: the unique `r < 2^w` with `r + o ≡ a (mod 2^w)` -/
theorem sub_add_cancel (a o : Bits) :
    ((a.sub o).ival + o.ival) % 2 ^ max a.size o.size = a.ival % 2 ^ max a.size o.size := by
  simp only [sub, wsize_eq_max]
  exact Lemmas.Fold.sub_mod_add_cancel (Nat.two_pow_pos _) _ _

theorem and_bit (a o : Bits) (i : Nat) :
    (a.and o).size = max a.size o.size ∧ (a.and o).ival.testBit i = (a.ival.testBit i && o.ival.testBit i) := by
  simp [Bits.and, wsize_eq_max]
theorem or_bit (a o : Bits) (i : Nat) :
    (a.or o).size = max a.size o.size ∧ (a.or o).ival.testBit i = (a.ival.testBit i || o.ival.testBit i) := by
  simp [Bits.or, wsize_eq_max]
theorem xor_bit (a o : Bits) (i : Nat) :
    (a.xor o).size = max a.size o.size ∧ (a.xor o).ival.testBit i = (a.ival.testBit i ^^ o.ival.testBit i) :=
  ⟨wsize_eq_max a o, xor_testBit a o i⟩

theorem inv_bit (b : Bits) (hb : b.WF) (i : Nat) :
    b.inv.size = b.size ∧ b.inv.ival.testBit i = (decide (i < b.size) && !b.ival.testBit i) := by
  refine ⟨rfl, ?_⟩
  simp only [inv, mask, Nat.testBit_xor, Nat.testBit_two_pow_sub_one]
  by_cases hi : i < b.size
  · simp [hi]
  · simp [hi, wf_testBit hb (Nat.le_of_not_lt hi)]

theorem inv_val (b : Bits) (hb : b.WF) : b.inv.ival = 2 ^ b.size - 1 - b.ival := xor_mask b hb

theorem add_comm (a o : Bits) : a.add o = o.add a := by
  simp only [add, wsize_eq_max, Nat.max_comm a.size, Nat.add_comm a.ival]
theorem and_comm (a o : Bits) : a.and o = o.and a := by
  simp only [Bits.and, wsize_eq_max, Nat.max_comm a.size, Nat.and_comm a.ival]
theorem or_comm (a o : Bits) : a.or o = o.or a := Proofs.Lemmas.Bits.or_comm a o
theorem xor_comm (a o : Bits) : a.xor o = o.xor a := by
  simp only [Bits.xor, wsize_eq_max, Nat.max_comm a.size, Nat.xor_comm a.ival]

theorem neg_spec (b : Bits) :
    b.neg.size = b.size ∧ ((b.neg.ival : Int) = (-(b.ival : Int)) % (2 ^ b.size : Nat)) := by
  refine ⟨rfl, ?_⟩
  have h := (sub_spec ⟨0, b.size⟩ b).2
  rw [← neg_eq_sub] at h
  simpa using h

theorem add_neg (a : Bits) : a.add a.neg = ⟨0, a.size⟩ := by
  have h := sub_add_cancel ⟨0, a.size⟩ a
  rw [← neg_eq_sub, Nat.max_self, Nat.zero_mod, Nat.add_comm] at h
  have hw : wsize a a.neg = a.size := by simp [wsize, neg]
  simp only [add, hw, h]
theorem neg_add (a : Bits) : a.neg.add a = ⟨0, a.size⟩ := by
  rw [add_comm, add_neg]

/-- `a * m`, `m` a `Bits` or an int: computed in the LEFT operand's size -/
theorem mul_spec (a : Bits) (m : Nat) : (a.mul m).size = a.size ∧ (a.mul m).ival = (a.ival * m) % 2 ^ a.size := by
  simp [mul]

/-- an int operand (either side) is first turned into `Bits(v)`, of size `bit_length` -/
theorem ofNat_spec (v : Nat) :
    (ofNat v).ival = v ∧ v < 2 ^ (ofNat v).size ∧ (∀ n, v < 2 ^ n → (ofNat v).size ≤ n) :=
  ⟨rfl, bitLength_lt v, fun _ h => bitLength_le_of_lt h⟩

/-- `int - a`: width max(bit_length, size), like `a + int` -/
theorem rsub_spec (a : Bits) (v : Nat) :
    (a.rsub v).size = max (bitLength v) a.size ∧
    ((a.rsub v).ival : Int) = ((v : Int) - (a.ival : Int)) % (2 ^ max (bitLength v) a.size : Nat) :=
  sub_spec (ofNat v) a

/-- `int + a` = `a + int` (the reflected operators delegate) -/
theorem radd_spec (a : Bits) (v : Nat) :
    (a.add (ofNat v)).size = max a.size (bitLength v) ∧
    (a.add (ofNat v)).ival = (a.ival + v) % 2 ^ max a.size (bitLength v) :=
  add_spec a (ofNat v)

theorem shl_bit (b : Bits) (k i : Nat) :
    (b.shl k).size = b.size ∧
    (b.shl k).ival.testBit i = (decide (i < b.size) && (decide (k ≤ i) && b.ival.testBit (i - k))) :=
  ⟨rfl, shl_testBit b k i⟩

theorem shr_bit (b : Bits) (k i : Nat) :
    (b.shr k).size = b.size ∧ (b.shr k).ival.testBit i = (decide (i < b.size) && b.ival.testBit (k + i)) :=
  ⟨rfl, shr_testBit b k i⟩

theorem shl_val (b : Bits) (k : Nat) : (b.shl k).ival = (b.ival * 2 ^ k) % 2 ^ b.size := by
  simp only [shl, and_mask, Nat.shiftLeft_eq]
theorem shr_val (b : Bits) (hb : b.WF) (k : Nat) : (b.shr k).ival = b.ival / 2 ^ k :=
  (congrArg Bits.ival (shr_mk b.ival b.size k hb)).trans (Nat.shiftRight_eq_div_pow ..)

/-- a larger k is a negative shift count in Python -/
theorem rol_ok_iff (x : Bits) (k : Nat) : (∃ r, x.rol k = .ok r) ↔ k ≤ x.size := by
  refine ⟨fun ⟨r, h⟩ => Nat.le_of_not_lt fun hk => ?_, fun hk => ⟨_, rol_ok hk⟩⟩
  rw [rol_error hk] at h
  cases h
theorem ror_ok_iff (x : Bits) (k : Nat) : (∃ r, x.ror k = .ok r) ↔ k ≤ x.size := by
  refine ⟨fun ⟨r, h⟩ => Nat.le_of_not_lt fun hk => ?_, fun hk => ⟨_, ror_ok hk⟩⟩
  rw [ror_error hk] at h
  cases h

theorem rol_bit (x : Bits) (hx : x.WF) (k : Nat) (hk : k ≤ x.size) :
    ∃ r, x.rol k = .ok r ∧ r.WF ∧ r.size = x.size ∧
      ∀ i, i < x.size → r.ival.testBit i = x.ival.testBit ((i + x.size - k) % x.size) :=
  ⟨x.rol! k, rol_ok hk, rol!_wf _ _, rol!_size _ _, fun i hi => rol!_testBit x hx k hk i hi⟩

theorem ror_bit (x : Bits) (hx : x.WF) (k : Nat) (hk : k ≤ x.size) :
    ∃ r, x.ror k = .ok r ∧ r.WF ∧ r.size = x.size ∧
      ∀ i, i < x.size → r.ival.testBit i = x.ival.testBit ((i + k) % x.size) :=
  ⟨x.ror! k, ror_ok hk, ror!_wf _ _, ror!_size _ _, fun i hi => ror!_testBit x hx k hk i hi⟩

theorem rol_ror (x : Bits) (hx : x.WF) (k : Nat) (hk : k ≤ x.size) : (x.ror k >>= fun r => r.rol k) = .ok x := by
  rw [ror_ok hk]
  show (x.ror! k).rol k = _
  rw [rol_ok (by simpa using hk), rol!_ror! x hx k hk]

theorem ror_rol (x : Bits) (hx : x.WF) (k : Nat) (hk : k ≤ x.size) : (x.rol k >>= fun r => r.ror k) = .ok x := by
  rw [rol_ok hk]
  show (x.rol! k).ror k = _
  rw [ror_ok (by simpa using hk), ror!_rol! x hx k hk]

/-- `a // o` -/
theorem concat_spec (a o : Bits) (ha : a.WF) :
    (a.concat o).size = a.size + o.size ∧
    ∀ i, (a.concat o).ival.testBit i =
      if i < a.size then a.ival.testBit i else (decide (i < a.size + o.size) && o.ival.testBit (i - a.size)) :=
  ⟨rfl, concat_testBit a o ha⟩

theorem concat_val (a o : Bits) (ha : a.WF) (ho : o.WF) : (a.concat o).ival = a.ival + 2 ^ a.size * o.ival := by
  rw [concat_eq_add a o ha ho, Nat.mul_comm]

theorem concat_toBitList (a o : Bits) (ha : a.WF) : (a.concat o).toBitList = a.toBitList ++ o.toBitList :=
  toBitList_concat a o ha

/-- operators.py `concat(L,bigend)` -/
theorem concatList_spec (l : List Bits) (hl : ∀ p ∈ l, p.WF) (hne : l ≠ []) (bigend : Bool) :
    ∃ r, concatList l bigend = .ok r ∧ r.toBitList = (if bigend then l.reverse else l).flatMap toBitList := by
  obtain ⟨r, h⟩ := concatList_isOk hne bigend
  exact ⟨r, h, (concatList_ok_spec l hl bigend r h).2⟩

/-- `concat(b.split(k))` gives `b` back.  An empty `b` is excluded: it splits into `[]`, and `concat([])` raises. -/
theorem split_concat (b : Bits) (hb : b.WF) (k : Nat) (hk : 1 ≤ k) (hs : 0 < b.size) (bigend : Bool) :
    (b.split k bigend >>= fun l => concatList l bigend) = .ok b :=
  concatList_split b hb k hk hs bigend

theorem split_spec (b : Bits) (k : Nat) (hk : 1 ≤ k) :
    ∃ l, b.split k false = .ok l ∧ l.length = (b.size + k - 1) / k ∧
      ∀ j (hj : j < l.length), l[j].WF ∧ l[j].size = min k (b.size - j * k) ∧
        ∀ i, l[j].ival.testBit i = (decide (i < min k (b.size - j * k)) && b.ival.testBit (j * k + i)) := by
  refine ⟨_, split_eq b k hk false, by simp [npieces], ?_⟩
  intro j hj
  simp only [Bool.false_eq_true, ↓reduceIte, List.getElem_map, List.getElem_range, piece]
  have hsz : min (j * k + k) b.size - j * k = min k (b.size - j * k) := by omega
  refine ⟨sliceFast_wf _ _ _, by simp only [sliceFast_size]; exact hsz, ?_⟩
  intro i
  rw [sliceFast_testBit, hsz]

theorem split_bigend (b : Bits) (k : Nat) (hk : 1 ≤ k) :
    ∃ l, b.split k false = .ok l ∧ b.split k true = .ok l.reverse :=
  ⟨_, split_eq b k hk false, split_eq b k hk true⟩

theorem concat_split (a o : Bits) (ha : a.WF) (ho : o.WF) (h1 : 0 < o.size) (h2 : o.size ≤ a.size) :
    (a.concat o).split a.size = .ok [a, o] := by
  have hk : 0 < a.size := by omega
  have hn : npieces (a.concat o) a.size = 2 := by
    unfold npieces
    rw [concat_size, show a.size + o.size + a.size - 1 = (o.size - 1) + 2 * a.size by omega,
      Nat.add_mul_div_right _ _ hk, Nat.div_eq_of_lt (by omega)]
  rw [split_eq _ _ hk false, hn]
  show Except.ok [piece (a.concat o) a.size 0, piece (a.concat o) a.size 1] = Except.ok [a, o]
  unfold piece
  rw [concat_size, Nat.zero_mul, Nat.zero_add, Nat.one_mul, Nat.min_eq_left (by omega), Nat.min_eq_right (by omega),
    sliceFast_concat_left a o ha, sliceFast_concat_right a o ha ho]

theorem concat_getslice (a o : Bits) (ha : a.WF) (ho : o.WF) :
    (a.concat o).getSlice none (some a.size) none = .ok a ∧
    (a.concat o).getSlice (some a.size) none none = .ok o := by
  constructor
  · have h : sliceIndices none (some (a.size : Int)) none (a.concat o).size = .ok (0, (a.size : Int), 1) := by
      simp [sliceIndices]
      omega
    rw [getSlice_fast _ _ _ _ h (by omega)]
    exact congrArg _ (sliceFast_concat_left a o ha)
  · have h : sliceIndices (some (a.size : Int)) none none (a.concat o).size
        = .ok ((a.size : Int), ((a.size + o.size : Nat) : Int), 1) := by
      simp [sliceIndices]
      omega
    rw [getSlice_fast _ _ _ _ h (by omega)]
    exact congrArg _ (sliceFast_concat_right a o ha ho)

theorem zeroextend_val (b : Bits) (hb : b.WF) (n : Nat) :
    (b.zeroextend n).size = max b.size n ∧ (b.zeroextend n).ival = b.ival :=
  zeroextend_spec b hb n

theorem signextend_bit (b : Bits) (hb : b.WF) (n : Nat) (r : Bits) (h : b.signextend n = .ok r) :
    r.size = max b.size n ∧
    ∀ q, r.ival.testBit q = if q < b.size then b.ival.testBit q else (decide (q < n) && b.ival.testBit (b.size - 1)) :=
  (signextend_spec b hb n r h).2

/-- the signed (two's-complement) value is preserved -/
theorem signextend_val (b : Bits) (hb : b.WF) (n : Nat) (r : Bits) (h : b.signextend n = .ok r) :
    (r.ival : Int) - (if r.ival.testBit (r.size - 1) then (2 ^ r.size : Nat) else 0)
      = (b.ival : Int) - (if b.ival.testBit (b.size - 1) then (2 ^ b.size : Nat) else 0) :=
  signextend_sval b hb n r h

/-- refused exactly when there is no sign bit to extend -/
theorem signextend_error_iff (b : Bits) (n : Nat) : (∃ e, b.signextend n = .error e) ↔ (b.size = 0 ∧ 0 < n) :=
  Proofs.Lemmas.Bits.signextend_error_iff b n

theorem hw_spec (b : Bits) : b.hw = ((List.range b.size).filter fun i => b.ival.testBit i).length := hw_eq b
theorem hd_spec (a o : Bits) (h : a.size = o.size) :
    a.hd o = .ok ((List.range a.size).filter fun i => a.ival.testBit i != o.ival.testBit i).length := by
  unfold hd
  simp only [h, ne_eq, not_true_eq_false, ↓reduceIte]
  rw [hw_eq, (xor_bit a o 0).1, h, Nat.max_self]
  congr 2
  apply List.filter_congr
  intro i _
  exact (xor_bit a o i).2

/-! ## Index expressions: reading selects exactly the addressed bits, in order

  The meaning of an index expression is Python's own: `Py.normIndex` (an int index, negative = from the end),
  `Py.range` over `Py.sliceIndices` (= `range(*slice(start,stop,step).indices(size))`), a list as it stands. -/

theorem getitem_int (b : Bits) (i : Int) :
    b.getInt i = match normIndex i b.size with
      | some p => .ok ⟨(b.ival.testBit p).toNat, 1⟩
      | none => .error "IndexError" := by
  unfold getInt
  rw [bit_eq]
  cases normIndex i b.size with
  | none => rfl
  | some p =>
    show Except.ok (ofNatSz (b.ival.testBit p).toNat 1) = Except.ok ⟨(b.ival.testBit p).toNat, 1⟩
    cases b.ival.testBit p <;> rfl

theorem getitem_slice (b : Bits) (start stop step : Option Int) {s e st : Int}
    (h : sliceIndices start stop step b.size = .ok (s, e, st)) :
    ∃ r, b.getSlice start stop step = .ok r ∧ r.WF ∧ r.size = (Py.range s e st).length ∧
      ∀ j (hj : j < (Py.range s e st).length), r.ival.testBit j = b.ival.testBit ((Py.range s e st)[j]).toNat := by
  obtain ⟨r, h1, h2, h3, h4⟩ := getSlice_spec b start stop step h
  refine ⟨r, h1, h2, h3, ?_⟩
  intro j hj
  rw [h4 j]; simp only [hj, ↓reduceDIte]

theorem getitem_slice_error_iff (b : Bits) (start stop step : Option Int) :
    (∃ err, b.getSlice start stop step = .error err) ↔ step = some 0 := by
  constructor
  · rintro ⟨err, h⟩
    cases hsi : sliceIndices start stop step b.size with
    | error e => exact (Lemmas.PySeq.sliceIndices_error_iff _ _ _ _).1 ⟨e, hsi⟩
    | ok t =>
      obtain ⟨s, e, st⟩ := t
      obtain ⟨r, h1, _⟩ := getSlice_spec b start stop step hsi
      rw [h1] at h; cases h
  · intro h0
    obtain ⟨err, he⟩ := (Lemmas.PySeq.sliceIndices_error_iff start stop step b.size).2 h0
    refine ⟨err, ?_⟩
    unfold getSlice
    rw [he]; rfl

theorem slice_positions_valid (start stop step : Option Int) (len : Nat) {s e st : Int}
    (h : sliceIndices start stop step len = .ok (s, e, st)) :
    ∀ x ∈ Py.range s e st, 0 ≤ x ∧ x < len := by
  intro x hx
  obtain ⟨j, hj, rfl⟩ := (Lemmas.PySeq.mem_range_iff _ _ _ _).1 hx
  exact Lemmas.PySeq.range_in_bounds h hj

theorem getitem_list (b : Bits) (idx : List Int) (h : ∀ x ∈ idx, 0 ≤ x) :
    ∃ r, b.getList idx = .ok r ∧ r.WF ∧ r.size = idx.length ∧
      ∀ j (hj : j < idx.length), r.ival.testBit j = b.ival.testBit (idx[j]).toNat := by
  refine ⟨_, getList_ok b idx h, ofNatSz_wf _ _, rfl, ?_⟩
  intro j hj
  rw [getList_testBit]; simp only [hj, ↓reduceDIte]

/-! ## Assignment: exactly the addressed bits change -/

theorem setitem_int (b : Bits) (hb : b.WF) (i : Int) (v : Nat) (r : Bits) (h : b.setInt i v = .ok r) :
    ∃ p, normIndex i b.size = some p ∧ v ≤ 1 ∧ r.size = b.size ∧
      r.ival.testBit p = decide (v = 1) ∧ ∀ q, q ≠ p → r.ival.testBit q = b.ival.testBit q := by
  obtain ⟨p, hp, hv, hs, hq⟩ := setInt_spec b hb i v r h
  refine ⟨p, hp, hv, hs, by rw [hq p]; simp, ?_⟩
  intro q hne
  rw [hq q]; simp [hne]

theorem setitem_int_error_iff (b : Bits) (i : Int) (v : Nat) :
    (∃ err, b.setInt i v = .error err) ↔ (1 < v ∨ normIndex i b.size = none) :=
  setInt_error_iff b i v

/-- `hfit`: the value must fit, `v < 2^len`, on the contiguous path; the stepped path insists on `len(v) == len(range)`
    itself -/
theorem setitem_slice_sel (b : Bits) (hb : b.WF) (start stop step : Option Int) (v : Bits) {s e st : Int}
    (h : sliceIndices start stop step b.size = .ok (s, e, st))
    (hfit : st = 1 → s < e → v.ival < 2 ^ (e - s).toNat)
    (r : Bits) (hr : b.setSlice start stop step v = .ok r) :
    ∀ j (hj : j < (Py.range s e st).length), r.ival.testBit ((Py.range s e st)[j]).toNat = v.ival.testBit j :=
  (setSlice_spec b hb start stop step v h hfit r hr).2.2.1

theorem setitem_slice_frame (b : Bits) (hb : b.WF) (start stop step : Option Int) (v : Bits) {s e st : Int}
    (h : sliceIndices start stop step b.size = .ok (s, e, st))
    (hfit : st = 1 → s < e → v.ival < 2 ^ (e - s).toNat)
    (r : Bits) (hr : b.setSlice start stop step v = .ok r) :
    r.size = b.size ∧ ∀ q : Nat, (q : Int) ∉ Py.range s e st → r.ival.testBit q = b.ival.testBit q :=
  ⟨(setSlice_spec b hb start stop step v h hfit r hr).2.1, (setSlice_spec b hb start stop step v h hfit r hr).2.2.2⟩

/-- repeats in the list: the last write wins -/
theorem setitem_list_sel (b : Bits) (hb : b.WF) (idx : List Int) (v : Bits) (r : Bits) (h : b.setList idx v = .ok r) :
    idx.length = v.size ∧
    ∀ t (ht : t < idx.length) p, normIndex idx[t] b.size = some p →
      (∀ t' (h' : t' < idx.length), t < t' → normIndex idx[t'] b.size ≠ some p) →
      r.ival.testBit p = v.ival.testBit t :=
  ⟨(setList_spec b hb idx v r h).1, (setList_spec b hb idx v r h).2.2.2.1⟩

theorem setitem_list_frame (b : Bits) (hb : b.WF) (idx : List Int) (v : Bits) (r : Bits) (h : b.setList idx v = .ok r) :
    r.size = b.size ∧ ∀ q, (∀ j ∈ idx, normIndex j b.size ≠ some q) → r.ival.testBit q = b.ival.testBit q :=
  ⟨(setList_spec b hb idx v r h).2.2.1, (setList_spec b hb idx v r h).2.2.2.2⟩

/-! ## No result exceeds its size -/

theorem add_wf (a o : Bits) : (a.add o).WF := Nat.mod_lt _ (Nat.two_pow_pos _)
theorem sub_wf (a o : Bits) : (a.sub o).WF := Nat.mod_lt _ (Nat.two_pow_pos _)
theorem mul_wf (a : Bits) (m : Nat) : (a.mul m).WF := ofNatSz_wf _ _
theorem neg_wf (a : Bits) : a.neg.WF := ofNatSz_wf _ _
theorem rsub_wf (a : Bits) (v : Nat) : (a.rsub v).WF := sub_wf _ _
theorem shl_wf (b : Bits) (k : Nat) : (b.shl k).WF := Proofs.Lemmas.Bits.shl_wf b k
theorem shr_wf (b : Bits) (k : Nat) : (b.shr k).WF := Proofs.Lemmas.Bits.shr_wf b k
theorem concat_wf (a o : Bits) : (a.concat o).WF := Proofs.Lemmas.Bits.concat_wf a o
theorem int_operand_wf (v : Int) (sz : Option Nat) : (ofInt v sz).WF := ofInt_wf v sz

theorem or_wf (a o : Bits) (ha : a.WF) (ho : o.WF) : (a.or o).WF := Proofs.Lemmas.Bits.or_wf ha ho
theorem and_wf (a o : Bits) (ha : a.WF) : (a.and o).WF := Proofs.Lemmas.Bits.and_wf ha o
theorem xor_wf (a o : Bits) (ha : a.WF) (ho : o.WF) : (a.xor o).WF := Proofs.Lemmas.Bits.xor_wf ha ho
theorem inv_wf (b : Bits) (hb : b.WF) : b.inv.WF :=
  Nat.xor_lt_two_pow hb (Nat.sub_lt (Nat.two_pow_pos _) Nat.one_pos)

theorem rol_wf (x : Bits) (k : Nat) (r : Bits) (h : x.rol k = .ok r) : r.WF := by
  rw [rol_ok ((rol_ok_iff x k).1 ⟨r, h⟩)] at h
  injection h with h
  exact h ▸ rol!_wf _ _
theorem ror_wf (x : Bits) (k : Nat) (r : Bits) (h : x.ror k = .ok r) : r.WF := by
  rw [ror_ok ((ror_ok_iff x k).1 ⟨r, h⟩)] at h
  injection h with h
  exact h ▸ ror!_wf _ _

theorem split_wf (b : Bits) (k : Nat) (bigend : Bool) (l : List Bits) (h : b.split k bigend = .ok l) :
    ∀ p ∈ l, p.WF := by
  cases k with
  | zero => cases h
  | succ k =>
    rw [split_eq b _ (Nat.succ_pos k)] at h
    obtain rfl := Except.ok.inj h
    intro p hp
    obtain ⟨j, _, rfl⟩ := List.mem_map.1 (Lemmas.Fold.mem_ite_reverse.1 hp)
    exact sliceFast_wf _ _ _

theorem concatList_wf (l : List Bits) (bigend : Bool) (hl : ∀ p ∈ l, p.WF) (r : Bits)
    (h : concatList l bigend = .ok r) : r.WF :=
  (concatList_ok_spec l hl bigend r h).1

theorem getitem_wf (b : Bits) :
    (∀ i r, b.getInt i = .ok r → r.WF) ∧
    (∀ s e st r, b.getSlice s e st = .ok r → r.WF) ∧
    (∀ idx r, b.getList idx = .ok r → r.WF) := by
  have hl : ∀ idx r, b.getList idx = .ok r → r.WF := by
    intro idx r h
    by_cases hn : ∀ x ∈ idx, 0 ≤ x
    · rw [getList_ok b idx hn] at h
      exact Except.ok.inj h ▸ ofNatSz_wf _ _
    · obtain ⟨err, he⟩ := getList_error b idx (by simpa using hn)
      rw [he] at h
      cases h
  refine ⟨?_, ?_, hl⟩
  · intro i r h
    unfold getInt at h
    cases hb : b.bit i with
    | error e => rw [hb] at h; cases h
    | ok v =>
      rw [hb] at h
      injection h with h
      subst h
      exact ofNatSz_wf _ _
  · intro s e st r h
    cases hsi : sliceIndices s e st b.size with
    | error err =>
      unfold getSlice at h
      rw [hsi] at h
      cases h
    | ok t =>
      obtain ⟨s', e', st'⟩ := t
      obtain ⟨r', h1, h2, _⟩ := getSlice_spec b s e st hsi
      rw [h1] at h
      injection h with h
      subst h
      exact h2

theorem applyOp_wf (b : Bits) (hb : b.WF) (op : MutOp) (hfit : Fits b op) (r : Bits) (h : b.applyOp op = .ok r) :
    r.WF := by
  cases op with
  | setInt i v => exact setInt_wf b hb i v r h
  | setSlice start stop step v =>
    have h' : b.setSlice start stop step v = .ok r := h
    cases hsi : sliceIndices start stop step b.size with
    | error err =>
      unfold setSlice at h'
      rw [hsi] at h'
      cases h'
    | ok t =>
      obtain ⟨s, e, st⟩ := t
      exact (setSlice_spec b hb start stop step v hsi (hfit s e st hsi) r h').1
  | setList idx v => exact (setList_spec b hb idx v r h).2.1
  | setSize n =>
    injection h with h
    subst h
    exact setSize_wf _ _
  | zeroextend n =>
    injection h with h
    subst h
    exact zeroextend_wf b hb n
  | signextend n => exact (signextend_spec b hb n r h).1

theorem runOps_wf (ops : List MutOp) (b : Bits) (hb : b.WF) (hfit : AllFit b ops) (r : Bits)
    (h : b.runOps ops = .ok r) : r.WF := by
  induction ops generalizing b with
  | nil =>
    injection h with h
    subst h
    exact hb
  | cons op ops ih =>
    unfold runOps at h
    cases h1 : b.applyOp op with
    | error e => rw [h1] at h; cases h
    | ok b' =>
      rw [h1] at h
      exact ih b' (applyOp_wf b hb op hfit.1 b' h1) (hfit.2 b' h1) h

theorem runOps_prefix_wf (ops : List MutOp) (b : Bits) (hb : b.WF) (hfit : AllFit b ops) (k : Nat) (r : Bits)
    (h : b.runOps (ops.take k) = .ok r) : r.WF :=
  runOps_wf (ops.take k) b hb (hfit.take k) r h

/-! ## Non-vacuity -/

-- well-formed operands of different sizes; the int operand 300 has bit_length 9
example : (⟨5, 3⟩ : Bits).WF ∧ (⟨200, 8⟩ : Bits).WF ∧ (ofNat 300).size = 9 := by decide
example : (⟨5, 3⟩ : Bits).add ⟨200, 8⟩ = ⟨205, 8⟩ ∧ (⟨5, 3⟩ : Bits).sub ⟨200, 8⟩ = ⟨61, 8⟩ ∧
    (⟨1, 8⟩ : Bits).rsub 300 = ⟨299, 9⟩ ∧ (⟨1, 4⟩ : Bits).neg = ⟨15, 4⟩ ∧ (⟨3, 4⟩ : Bits).mul 7 = ⟨5, 4⟩ := by decide
-- rotations: 0 ≤ k ≤ size on a well-formed vector, k = size and k = 0 included
example : (⟨11, 4⟩ : Bits).WF ∧ 3 ≤ (⟨11, 4⟩ : Bits).size ∧ (⟨11, 4⟩ : Bits).rol 3 = .ok ⟨13, 4⟩ ∧
    (⟨11, 4⟩ : Bits).rol 4 = .ok ⟨11, 4⟩ ∧ (⟨11, 4⟩ : Bits).ror 1 = .ok ⟨13, 4⟩ := ⟨by decide, by decide, rfl, rfl, rfl⟩
-- split / concat: k ≥ 1 with a ragged last piece, non-empty vector; 0 < |o| ≤ |a|
example : (⟨0b1011011, 7⟩ : Bits).split 3 = .ok [⟨3, 3⟩, ⟨3, 3⟩, ⟨1, 1⟩] := rfl
example : (0 : Nat) < (⟨1, 2⟩ : Bits).size ∧ (⟨1, 2⟩ : Bits).size ≤ (⟨5, 3⟩ : Bits).size ∧
    ((⟨5, 3⟩ : Bits).concat ⟨1, 2⟩).split 3 = .ok [⟨5, 3⟩, ⟨1, 2⟩] := ⟨by decide, by decide, rfl⟩
-- sign extension of a negative value: succeeds, value -3 preserved
example : (⟨5, 3⟩ : Bits).signextend 8 = .ok ⟨253, 8⟩ := rfl
-- index expressions: a stepped slice with negative start, a negative step, a list with repeats
example : sliceIndices (some (-2)) none (some (-2)) 7 = .ok (5, -1, -2) ∧ Py.range 5 (-1) (-2) = [5, 3, 1] ∧
    (⟨0b1011011, 7⟩ : Bits).getSlice (some (-2)) none (some (-2)) = .ok ⟨0b110, 3⟩ := ⟨rfl, by decide, rfl⟩
example : (⟨0b1011011, 7⟩ : Bits).getList [0, 0, 2, 6] = .ok ⟨0b1011, 4⟩ := rfl
-- assignments: a contiguous slice with a value that fits (shorter than the selection), a stepped slice, a list with a repeat
example : sliceIndices (some 1) (some 5) none 7 = .ok (1, 5, 1) ∧ (3 : Nat) < 2 ^ ((5 : Int) - 1).toNat ∧
    (⟨0b1111111, 7⟩ : Bits).setSlice (some 1) (some 5) none ⟨3, 2⟩ = .ok ⟨0b1100111, 7⟩ := ⟨rfl, by decide, rfl⟩
example : (⟨0, 7⟩ : Bits).setSlice none none (some 3) ⟨0b101, 3⟩ = .ok ⟨0b1000001, 7⟩ := rfl
example : (⟨0, 4⟩ : Bits).setList [1, -1, 1] ⟨0b011, 3⟩ = .ok ⟨0b1000, 4⟩ := rfl
-- a history whose every step fits, ending within the size
example : AllFit ⟨5, 3⟩ [.signextend 6, .setSlice (some 0) (some 2) none ⟨3, 2⟩, .setSize 4, .setInt (-1) 1] ∧
    (⟨5, 3⟩ : Bits).runOps [.signextend 6, .setSlice (some 0) (some 2) none ⟨3, 2⟩, .setSize 4, .setInt (-1) 1]
      = .ok ⟨15, 4⟩ := by
  refine ⟨?_, rfl⟩
  refine ⟨trivial, ?_⟩
  intro b1 h1
  have e1 : b1 = ⟨61, 6⟩ := by
    have : (⟨5, 3⟩ : Bits).applyOp (.signextend 6) = .ok ⟨61, 6⟩ := rfl
    rw [this] at h1
    injection h1 with h1
    exact h1.symm
  subst e1
  refine ⟨?_, ?_⟩
  · intro s e st hsi _ _
    have : sliceIndices (some 0) (some 2) none (6 : Nat) = .ok (0, 2, 1) := rfl
    simp only [this] at hsi
    injection hsi with hsi
    simp only [Prod.mk.injEq] at hsi
    obtain ⟨rfl, rfl, rfl⟩ := hsi
    decide
  · intro b2 _
    exact ⟨trivial, fun b3 _ => ⟨trivial, fun _ _ => trivial⟩⟩
-- the out-of-domain case the hypothesis `Fits` excludes really breaks the invariant (so the hypothesis is needed)
example : (⟨0, 4⟩ : Bits).setSlice (some 2) (some 4) none ⟨7, 3⟩ = .ok ⟨28, 4⟩ ∧ ¬ (⟨28, 4⟩ : Bits).WF := ⟨rfl, by decide⟩

end Proofs.C08
