/-
  C04 — Keccak sponge, SHA-3 and SHAKE equal FIPS 202 for every input and configuration; duplex.
  `B v` is the `Bits` object (value, size w) holding the lane `v : BitVec w`; `toLanes A` is the model's list of 25
  lanes (index 5y+x) of the specification's state array `A`.
-/
import Model.Keccak
import Model.Sha3
import Spec.Keccak
import Proofs.Lemmas.KeccakLane
import Proofs.Lemmas.KeccakPad
import Proofs.Lemmas.KeccakSponge
import Proofs.Lemmas.KeccakDuplex
import Proofs.Lemmas.KeccakEval
namespace Proofs.C04
open Model Model.Keccak Proofs.Lemmas.KeccakLane Proofs.Lemmas.KeccakBits Proofs.Lemmas.KeccakPad
open Proofs.Lemmas.KeccakSponge Proofs.Lemmas.KeccakDuplex

/-! ### constants regenerated from the source = constants generated by the rules of FIPS 202 -/

/-- the 25 ρ offsets held by the code (dict of `Round`, regenerated from the source) are the ones generated by the
    (t+1)(t+2)/2 walk of FIPS 202 Algorithm 2, reduced modulo the largest lane size 64 (every supported lane size
    divides 64, so rotating a w-bit lane by either amount is the same rotation: `rho_offset_rotation`) -/
theorem rhoOffsets_eq_walk : Gen.KeccakG.rhoOffsets = Spec.Keccak.rhoTable.map (· % 64) := by decide +kernel

theorem rho_offset_rotation {w} (hw : w ∈ [1, 2, 4, 8, 16, 32, 64]) (a : BitVec w) :
    ∀ x < 5, ∀ y < 5, a.rotateLeft (offset x y) = a.rotateLeft (Spec.Keccak.rhoOffset x y) := by
  intro x hx y hy
  exact (rotl_rhoOffset rhoOffsets_eq_walk (dvd64 hw) a x y hx hy).symm

/-- the destination lane of the ρ/π loop observed on the running code (`B[y,2x+3y]` written for source (x,y))
    is the inverse of the π index map of FIPS 202 (A′[x,y] = A[(x+3y) mod 5, x]).  `piDest` is a recording of the run
    (tools/gen_items/keccak.py); `Model.Keccak.rhoPi` writes `2x+3y` as the source does and does not read it, so this
    compares the recording with the rule and is no step of `round_refines`. -/
theorem piDest_eq_rule :
    ∀ i < 25, Gen.KeccakG.piDest.getD (((i % 5 + 3 * (i / 5)) % 5) + 5 * (i % 5)) 25 = i := by decide +kernel

/-- the 24 round constants of the code, truncated to the lane size as `RC[i][:w]` does, are the constants produced
    by the LFSR rc(t) of FIPS 202 Algorithm 5 via RC[2^j−1] = rc(j+7i) — for each of the seven lane sizes (the
    kernel computes the rule's side in the form `RCN` of Proofs.Lemmas.KeccakEval) -/
theorem RC_eq_rule {w} (hw : w ∈ [1, 2, 4, 8, 16, 32, 64]) : ∀ i < 24, rcLane w i = B (Spec.Keccak.RC w i) := by
  have h : ∀ w ∈ [1, 2, 4, 8, 16, 32, 64], ∀ i < 24, rcLane w i = ⟨Lemmas.KeccakEval.RCN w i, w⟩ := by decide +kernel
  intro i hi
  rw [B, Lemmas.KeccakEval.RC_eval]
  exact h w hw i hi

/-- the (b, w, number of rounds) rows read from live `Keccak` objects: b = 25w and 12+2ℓ rounds -/
theorem widths_eq_rule :
    Gen.KeccakG.widths = [1, 2, 4, 8, 16, 32, 64].map fun w => [25 * w, w, Spec.Keccak.nRounds w] := by
  decide +kernel

/-- `Round(A, RC[i][:w])` of the code = Rnd(A, i) = ι(χ(π(ρ(θ(A)))), i) of FIPS 202 -/
theorem round_refines {w} (hw : w ∈ [1, 2, 4, 8, 16, 32, 64]) (A : Spec.Keccak.State w) (i : Nat) (hi : i < 24) :
    round w (toLanes A) (rcLane w i) = toLanes (Spec.Keccak.rnd A i) :=
  Proofs.Lemmas.KeccakLane.round_refines rhoOffsets_eq_walk (dvd64 hw) A i _ (RC_eq_rule hw i hi)

/-- `Keccak.f` (n = 12+2ℓ rounds with the truncated constants) = Keccak-f[25w] -/
theorem f_refines {w} (hw : w ∈ [1, 2, 4, 8, 16, 32, 64]) (A : Spec.Keccak.State w) :
    f w (Spec.Keccak.nRounds w) (toLanes A) = toLanes (Spec.Keccak.keccakF w A) := by
  have hn : Spec.Keccak.nRounds w ≤ 24 := by
    simp only [List.mem_cons, List.not_mem_nil, or_false] at hw
    rcases hw with rfl | rfl | rfl | rfl | rfl | rfl | rfl <;> decide
  exact f_refines_aux rhoOffsets_eq_walk (dvd64 hw) (RC_eq_rule hw) hn A

/-- non-vacuity: one state's lane list, a list of 25 well-formed w-bit lanes -/
example : toLanes (w := 8) (Vector.replicate 25 0xA5#8) = List.replicate 25 ⟨0xA5, 8⟩ := by decide

/-! ### message blocks: `iterblocks` = the r-bit pieces of N ‖ pad10*1(r,|N|)

`bitsOf P` is the bit sequence (index 0 first) of a `Bits` value; `msgBits lsb M bitlen` the message bits under the
object's bit-order mode (`duplexing` = native LSB-first, otherwise the NIST convention for the last partial byte),
`bitlen = none` meaning all 8|M| bits. -/

/-- `iterblocks` yields exactly the consecutive r-bit pieces of  N ‖ pad10*1(r, |N|)  (FIPS 202 Algorithm 8 steps 1–3,
    Algorithm 9), for EVERY rate r ≥ 1 (also r < 8 and r not a multiple of 8) and every bit length 0 ≤ L ≤ 8|M| (also
    L ≡ r−1, r−2 mod r: the pad spills into an extra block, nothing fails) -/
theorem iterblocks_spec (r : Nat) (hr : 0 < r) (lsb : Bool) (M : List Nat) (hM : ∀ b ∈ M, b < 256)
    (bitlen : Option Nat) (hL : ∀ L, bitlen = some L → L ≤ 8 * M.length) :
    ∃ blocks, iterblocks r lsb M bitlen = .ok blocks ∧ (∀ P ∈ blocks, P.WF ∧ P.size = r) ∧
      blocks.map bitsOf = Spec.Keccak.chunksOf r
        (msgBits lsb M bitlen ++ Spec.Keccak.pad101 r (msgBits lsb M bitlen).length) := by
  obtain ⟨blocks, h1, h2, h3⟩ := iterblocks_spec_aux r hr lsb M hM bitlen hL
  exact ⟨blocks, h1, h2, by rw [← h3, chunksOf_of_Good hr h2]⟩

/-- a bit length beyond the data is refused (for every rate: the assertion comes first) -/
theorem iterblocks_bitlen_too_large (r : Nat) (lsb : Bool) (M : List Nat) (L : Nat) (hL : L > 8 * M.length) :
    ∃ e, iterblocks r lsb M (some L) = .error e :=
  ⟨_, by simp [iterblocks, hL]; rfl⟩

/-- non-vacuity / the extra block: rate 40, 39 message bits (L ≡ r−1): two blocks, the second one is 0…01 -/
example : iterblocks 40 false [1, 1, 1, 1, 1] (some 39) = .ok [⟨0x8001010101, 40⟩, ⟨0x8000000000, 40⟩] := by rfl
/-- rate 1: every message bit and both pad bits are blocks of their own -/
example : iterblocks 1 true [0x05] (some 3) = .ok [⟨1, 1⟩, ⟨0, 1⟩, ⟨1, 1⟩, ⟨1, 1⟩, ⟨1, 1⟩] := by rfl

/-- the constructor accepts every supported width with a rate up to 1536 and reads w and 12+2ℓ from its table -/
theorem mk_ok {w} (hw : w ∈ [1, 2, 4, 8, 16, 32, 64]) (r : Nat) (hr : r ≤ 1536) (o : Option Nat) :
    Keccak.mk (25 * w) r o
      = .ok { b := 25 * w, w := w, n := Spec.Keccak.nRounds w, r := r, outlen := o, duplexing := false } := by
  have hnot : ¬ r > 1536 := by omega
  simp only [List.mem_cons, List.not_mem_nil, or_false] at hw
  rcases hw with rfl | rfl | rfl | rfl | rfl | rfl | rfl <;> exact if_neg hnot

/-- the body of a call at its settled rate r is the reference sponge at rate r, whatever rate r0 the object holds -/
theorem callAt_sponge {w} (hw : w ∈ [1, 2, 4, 8, 16, 32, 64]) (r0 r : Nat) (h0 : 0 < r) (hrb : r ≤ 25 * w) (lsb : Bool)
    (M : List Nat) (hM : ∀ b ∈ M, b < 256) (bitlen : Option Nat) (hL : ∀ L, bitlen = some L → L ≤ 8 * M.length)
    (d : Nat) (hd : 0 < d) :
    Keccak.callAt { b := 25 * w, w := w, n := Spec.Keccak.nRounds w, r := r0, outlen := some d, duplexing := lsb }
        r M bitlen
      = .ok (Spec.Keccak.bytesOfBits (Spec.Keccak.keccak w r (msgBits lsb M bitlen) d)) :=
  callAt_refines { b := 25 * w, w := w, n := Spec.Keccak.nRounds w, r := r0, outlen := some d, duplexing := lsb }
    r h0 hrb (fun A => f_refines hw A) d hd rfl M hM bitlen hL

/-- **the sponge object equals the reference sponge**: for every supported width b = 25w, every rate 0 < r ≤ b
    (r ≤ 1536; also r < 8 and r not a multiple of 8), both bit-order modes, every byte string M, every bit length
    L ≤ 8|M| (or `None`), and every output length d ≥ 1 (several squeezes when d > r):
    `Keccak(b=25w,r=r,len=d)(M,bitlen)` returns the bytes (FIPS 202 B.1) of
    SPONGE[Keccak-f[25w], pad10*1, r](N, d)  with N the message bits in the mode's order -/
theorem sponge_refines {w} (hw : w ∈ [1, 2, 4, 8, 16, 32, 64]) (r : Nat) (hr0 : 0 < r) (hrb : r ≤ 25 * w)
    (hr : r ≤ 1536) (lsb : Bool) (M : List Nat) (hM : ∀ b ∈ M, b < 256) (bitlen : Option Nat)
    (hL : ∀ L, bitlen = some L → L ≤ 8 * M.length) (d : Nat) (hd : 0 < d) :
    (Keccak.mk (25 * w) r (some d)).bind (fun c => Keccak.call { c with duplexing := lsb } M bitlen)
      = .ok (Spec.Keccak.bytesOfBits (Spec.Keccak.keccak w r (msgBits lsb M bitlen) d)) := by
  rw [mk_ok hw r hr]
  have h : ¬ r = 0 := by omega
  simp only [Except.bind, Keccak.call, h, if_false, bind]
  exact callAt_sponge hw r r hr0 hrb lsb M hM bitlen hL d hd

theorem sponge_bitlen_too_large (c : Cfg) (M : List Nat) (L : Nat) (hL : L > 8 * M.length) :
    ∃ e, Keccak.call c M (some L) = .error e := by
  by_cases hr : c.r = 0
  · exact ⟨_, by simp [Keccak.call, hr]; rfl⟩
  · obtain ⟨e, he⟩ := iterblocks_bitlen_too_large c.r c.duplexing M L hL
    exact ⟨e, by simp [Keccak.call, Keccak.callAt, hr, he, bind, Except.bind]⟩

/-- **a rate given to the call is the rate of that call's absorbing, padding and squeezing, and of nothing else**:
    for every object rate r0 the constructor accepts (equal to, smaller or larger than the per-call rate, a multiple of 8
    or not, even 0 or beyond b) and every per-call rate 0 < r ≤ b,  `Keccak(b=25w,r=r0,len=d)(M,bitlen,r=r)`  returns the
    bytes of SPONGE[Keccak-f[25w], pad10*1, r](N, d) — the capacity is b − r — and the object afterwards is the object
    before (its own rate is still r0). -/
theorem sponge_refines_call_rate {w} (hw : w ∈ [1, 2, 4, 8, 16, 32, 64]) (r0 : Nat) (hr0 : r0 ≤ 1536)
    (r : Nat) (h0 : 0 < r) (hrb : r ≤ 25 * w) (hr : r ≤ 1536) (lsb : Bool) (M : List Nat) (hM : ∀ b ∈ M, b < 256)
    (bitlen : Option Nat) (hL : ∀ L, bitlen = some L → L ≤ 8 * M.length) (d : Nat) (hd : 0 < d) :
    (Keccak.mk (25 * w) r0 (some d)).map (fun c => Keccak.callR { c with duplexing := lsb } M bitlen (some r))
      = .ok ({ b := 25 * w, w := w, n := Spec.Keccak.nRounds w, r := r0, outlen := some d, duplexing := lsb },
             .ok (Spec.Keccak.bytesOfBits (Spec.Keccak.keccak w r (msgBits lsb M bitlen) d))) := by
  have h1 : ¬ r > 1536 := by omega
  rw [mk_ok hw r0 hr0]
  simp only [Except.map, Keccak.callR, Keccak.callRate, h1, if_false, Except.bind,
    callAt_sponge hw r0 r h0 hrb lsb M hM bitlen hL d hd]

/-- without `r=` the call is the plain call at the object's own rate (`sponge_refines`), object unchanged -/
theorem call_rate_none (c : Cfg) (M : List Nat) (bitlen : Option Nat) :
    Keccak.callR c M bitlen = (c, Keccak.call c M bitlen) := by
  by_cases h : c.r = 0
  · simp [Keccak.callR, Keccak.callRate, Keccak.call, h, Except.bind]; rfl
  · simp [Keccak.callR, Keccak.callRate, Keccak.call, h, Except.bind]

theorem call_rate_object_unchanged (c : Cfg) (M : List Nat) (bitlen r : Option Nat) :
    (Keccak.callR c M bitlen r).1 = c := rfl

/-- a per-call rate above 1536 (the bound `setrate` enforces) or above the width is refused -/
theorem call_rate_rejected (c : Cfg) (M : List Nat) (bitlen : Option Nat) (r : Nat) (h : r > 1536 ∨ r > 25 * c.w) :
    ∃ e, (Keccak.callR c M bitlen (some r)).2 = .error e := by
  by_cases h1 : r > 1536
  · exact ⟨_, by simp [Keccak.callR, Keccak.callRate, h1, Except.bind]; rfl⟩
  · have h2 : r > 25 * c.w := by omega
    cases hb : iterblocks r c.duplexing M bitlen with
    | error e => exact ⟨e, by simp [Keccak.callR, Keccak.callRate, Keccak.callAt, h1, hb, bind, Except.bind]⟩
    | ok blocks =>
      exact ⟨"AssertionError", by
        simp [Keccak.callR, Keccak.callRate, Keccak.callAt, h1, hb, bind, Except.bind, Keccak.dump, h2]⟩

theorem call_rate_bitlen_too_large (c : Cfg) (M : List Nat) (L : Nat) (hL : L > 8 * M.length) (r : Option Nat) :
    ∃ e, (Keccak.callR c M (some L) r).2 = .error e := by
  cases hr : Keccak.callRate c r with
  | error e => exact ⟨e, by simp [Keccak.callR, hr, Except.bind]⟩
  | ok r' =>
    obtain ⟨e, he⟩ := iterblocks_bitlen_too_large r' c.duplexing M L hL
    exact ⟨e, by simp [Keccak.callR, Keccak.callAt, hr, he, bind, Except.bind]⟩

/-- **`setrate(r)` followed by a call = the reference sponge at rate r**, whatever rate the object was built with;
    a rate above 1536 is refused by `setrate` -/
theorem setrate_refines {w} (hw : w ∈ [1, 2, 4, 8, 16, 32, 64]) (r0 : Nat) (hr0 : r0 ≤ 1536)
    (r : Nat) (h0 : 0 < r) (hrb : r ≤ 25 * w) (hr : r ≤ 1536) (lsb : Bool) (M : List Nat) (hM : ∀ b ∈ M, b < 256)
    (bitlen : Option Nat) (hL : ∀ L, bitlen = some L → L ≤ 8 * M.length) (d : Nat) (hd : 0 < d) :
    ((Keccak.mk (25 * w) r0 (some d)).bind (fun c => Keccak.setrate c r)).bind
        (fun c => Keccak.call { c with duplexing := lsb } M bitlen)
      = .ok (Spec.Keccak.bytesOfBits (Spec.Keccak.keccak w r (msgBits lsb M bitlen) d)) := by
  have h1 : ¬ r > 1536 := by omega
  have h2 : ¬ r = 0 := by omega
  rw [mk_ok hw r0 hr0]
  simp only [Keccak.setrate, h1, if_false, bind, Except.bind, Keccak.call, h2]
  exact callAt_sponge hw r r h0 hrb lsb M hM bitlen hL d hd

theorem setrate_rejected (c : Cfg) (r : Nat) (h : r > 1536) : ∃ e, Keccak.setrate c r = .error e :=
  ⟨_, by simp [Keccak.setrate, h]; rfl⟩

/-- the module-level objects `keccak_224 … keccak_512` (configuration rows read from the live objects) are the
    objects `Keccak(b=1600, r=1600−2n, len=n)` of the Keccak submission (capacity 2n, n output bits) -/
theorem singleton_eq_mk (n : Nat) (hn : n ∈ [224, 256, 384, 512]) :
    Keccak.singleton n = Keccak.mk 1600 (1600 - 2 * n) (some n) := by
  simp only [List.mem_cons, List.not_mem_nil, or_false] at hn
  rcases hn with rfl | rfl | rfl | rfl <;> rfl

/-- **`keccak_n(M,bitlen,r=r)` = SPONGE[Keccak-f[1600], pad10*1, r](N, n)** for every valid per-call rate, and the
    shared module-level object is unchanged afterwards -/
theorem singleton_call_rate (n : Nat) (hn : n ∈ [224, 256, 384, 512])
    (r : Nat) (h0 : 0 < r) (hr : r ≤ 1536) (lsb : Bool) (M : List Nat) (hM : ∀ b ∈ M, b < 256)
    (bitlen : Option Nat) (hL : ∀ L, bitlen = some L → L ≤ 8 * M.length) :
    (Keccak.singleton n).map (fun c => Keccak.callR { c with duplexing := lsb } M bitlen (some r))
      = .ok ({ b := 1600, w := 64, n := 24, r := 1600 - 2 * n, outlen := some n, duplexing := lsb },
             .ok (Spec.Keccak.bytesOfBits (Spec.Keccak.keccak 64 r (msgBits lsb M bitlen) n))) := by
  rw [singleton_eq_mk n hn]
  have hd : 224 ≤ n := by
    simp only [List.mem_cons, List.not_mem_nil, or_false] at hn
    rcases hn with rfl | rfl | rfl | rfl <;> decide
  exact sponge_refines_call_rate (w := 64) (by decide) (1600 - 2 * n) (by omega) r h0 (by omega) hr lsb M hM bitlen hL n (by omega)

/-- the SHA-3 wrappers: the sponge object with b = 1600 in the native bit order on M ‖ one suffix byte s, bit length
    8|M| + k, absorbs M's bits followed by the k low bits of s -/
theorem suffix_call (M : List Nat) (hM : ∀ b ∈ M, b < 256) (s k : Nat) (hs : s < 256) (hk : k ≤ 8)
    (r : Nat) (h0 : 0 < r) (h1 : r ≤ 1536) (d : Nat) (hd : 0 < d) :
    (Keccak.mk 1600 r (some d)).bind (fun c => Keccak.call { c with duplexing := true } (M ++ [s])
        (some (8 * M.length + k)))
      = .ok (Spec.Keccak.bytesOfBits (Spec.Keccak.keccak 64 r
          (Spec.Keccak.bitsOfBytes M ++ ((List.range 8).map s.testBit).take k) d)) := by
  have hM' : ∀ b ∈ M ++ [s], b < 256 := Lemmas.Bytes.AllBytes.append hM (List.forall_mem_singleton.mpr hs)
  have := sponge_refines (w := 64) (by decide) r h0 (by omega) h1 true (M ++ [s]) hM' (some (8 * M.length + k))
    (by intro L hL; cases hL; simp only [List.length_append, List.length_cons, List.length_nil]; omega) d hd
  rw [suffix_bits M s k] at this
  exact this

/-- **SHA3-224/256/384/512 of the library = FIPS 202** (SHA3-n(M) = KECCAK[2n](M‖01, n)) for every byte string -/
theorem sha3_refines (n : Nat) (hn : n ∈ [224, 256, 384, 512]) (M : List Nat) (hM : ∀ b ∈ M, b < 256) :
    Sha3.sha3 n M = .ok (Spec.Keccak.sha3 n M) := by
  simp only [List.mem_cons, List.not_mem_nil, or_false] at hn
  rcases hn with rfl | rfl | rfl | rfl
  · exact suffix_call M hM 0x02 2 (by decide) (by decide) 1152 (by decide) (by decide) 224 (by decide)
  · exact suffix_call M hM 0x02 2 (by decide) (by decide) 1088 (by decide) (by decide) 256 (by decide)
  · exact suffix_call M hM 0x02 2 (by decide) (by decide) 832 (by decide) (by decide) 384 (by decide)
  · exact suffix_call M hM 0x02 2 (by decide) (by decide) 576 (by decide) (by decide) 512 (by decide)

/-- **SHAKE128 / SHAKE256 of the library = FIPS 202** (SHAKEn(M,d) = KECCAK[2n](M‖1111, d)) for every byte string
    and every output length d ≥ 1 in bits (a d that is not a multiple of 8 leaves the unused high bits zero) -/
theorem shake_refines (n : Nat) (hn : n = 128 ∨ n = 256) (M : List Nat) (hM : ∀ b ∈ M, b < 256) (d : Nat) (hd : 0 < d) :
    Sha3.shake (2 * n) M d = .ok (Spec.Keccak.shake n M d) := by
  rcases hn with rfl | rfl
  · exact suffix_call M hM 0x0f 4 (by decide) (by decide) 1344 (by decide) (by decide) d hd
  · exact suffix_call M hM 0x0f 4 (by decide) (by decide) 1088 (by decide) (by decide) d hd

theorem shake128_refines (M : List Nat) (hM : ∀ b ∈ M, b < 256) (d : Nat) (hd : 0 < d) :
    Sha3.shake128 M d = .ok (Spec.Keccak.shake 128 M d) := shake_refines 128 (Or.inl rfl) M hM d hd
theorem shake256_refines (M : List Nat) (hM : ∀ b ∈ M, b < 256) (d : Nat) (hd : 0 < d) :
    Sha3.shake256 M d = .ok (Spec.Keccak.shake 256 M d) := shake_refines 256 (Or.inr rfl) M hM d hd

theorem sha3_size_rejected (n : Nat) (hn : n ∉ [224, 256, 384, 512]) (M : List Nat) :
    ∃ e, Sha3.sha3 n M = .error e := by
  simp only [List.mem_cons, List.not_mem_nil, or_false, not_or] at hn
  exact ⟨_, by simp [Sha3.sha3, Sha3.sha3Cfg, hn]; rfl⟩

/-- **successive `duplex` calls = the reference duplex construction** DUPLEX[Keccak-f[25w], pad10*1, r]
    (Cryptographic Sponge Functions, Algorithm 4): for every sequence of calls `(m, bitlen, outlen)` inside the
    reference's domain (`validStep`: byte string, bitlen ≤ 8|m|, at most r output bits), the i-th call on ONE object
    (persistent `_S`, absent before the first call) returns the bytes of the i-th reference output; a call whose input
    does not fit one block (|σ| > r−2) is refused by both and leaves the state unchanged. -/
theorem duplex_refines {w} (hw : w ∈ [1, 2, 4, 8, 16, 32, 64]) (r : Nat) (hr0 : 0 < r) (hrb : r ≤ 25 * w)
    (hr : r ≤ 1536) (steps : List (List Nat × Option Nat × Option Nat)) (hv : ∀ st ∈ steps, validStep r st) :
    (Keccak.mk (25 * w) r none).map (fun c => (duplexSeq { cfg := c } steps).map resOpt)
      = .ok ((Spec.Keccak.duplexSeq (Spec.Keccak.fString w) (25 * w) r (List.replicate (25 * w) false)
              (specSteps r steps)).map (Option.map Spec.Keccak.bytesOfBits)) := by
  have hw0 : 0 < w := Nat.pos_of_dvd_of_pos (dvd64 hw) (by decide)
  rw [mk_ok hw r hr, ← Lemmas.KeccakString.stringOfState_zero hw0]
  simp only [Except.map]
  congr 1
  exact duplexSeq_refines (25 * w) w (Spec.Keccak.nRounds w) r none hr0 hrb (fun A => f_refines hw A) steps hv
    false none (Vector.replicate 25 0) (by simp [zero_eq])

/-- non-vacuity: the call sequence of the library's own duplex test (three calls, bit lengths 0, 1, 2) is valid -/
example : ∀ st ∈ [(([] : List Nat), some 0, (none : Option Nat)), ([0x00], some 1, none), ([0x03], some 2, none)],
    validStep 1027 st := by
  intro st hst
  simp only [List.mem_cons, List.not_mem_nil, or_false] at hst
  rcases hst with rfl | rfl | rfl <;> simp [validStep]

/-- **`duplex()` hands the bit-order flag back**: whatever the arguments, whether the call returns or raises
    (input too long, bit length beyond the data, output longer than the state), the configuration of the object
    afterwards — its `duplexing` flag included — is the configuration before -/
theorem duplex_restores_flag (o : Duplex) (m : List Nat) (bitlen outlen : Option Nat) :
    (duplexObj o m bitlen outlen).1.cfg = o.cfg := by
  obtain ⟨⟨b, w, n, r, ol, dup⟩, S⟩ := o
  simp only [duplexObj, duplex]
  split
  · rfl
  · split
    · rfl
    · rfl

/-- … and what it returns and keeps in `_S` does not depend on the flag it found: the i-th `duplex()` of a history
    is the i-th call of the reference duplex (`duplex_refines`), whatever one-shot calls came in between -/
theorem duplex_in_history (o : Duplex) (steps : List SeqStep) :
    ((steps.zip (seqRun o steps)).filterMap fun p => match p.1 with
        | .duplex .. => some p.2
        | _ => none)
      = duplexSeq o (steps.filterMap fun st => match st with
        | .duplex m bl ol => some (m, bl, ol)
        | _ => none) := by
  have flag : ∀ (o : Duplex) (x : Bool) (m : List Nat) (bl ol : Option Nat),
      duplex { o with cfg := { o.cfg with duplexing := x } } m bl ol = duplex o m bl ol := by
    intro o x m bl ol; rfl
  have seqFlag : ∀ (args : List (List Nat × Option Nat × Option Nat)) (o : Duplex) (x : Bool),
      duplexSeq { o with cfg := { o.cfg with duplexing := x } } args = duplexSeq o args := by
    intro args o x
    cases args with
    | nil => rfl
    | cons a rest => obtain ⟨m, bl, ol⟩ := a; simp only [duplexSeq, flag]
  induction steps generalizing o with
  | nil => rfl
  | cons st rest ih =>
    cases st with
    | duplex m bl ol =>
      simp only [seqRun, List.zip_cons_cons, List.filterMap_cons, seqStep, duplexSeq, ih]
      have h1 : (duplexObj o m bl ol).2 = (duplex o m bl ol).2 := rfl
      have h2 : (duplexObj o m bl ol).1
          = { (duplex o m bl ol).1 with cfg := { (duplex o m bl ol).1.cfg with duplexing := o.cfg.duplexing } } := rfl
      rw [h1, h2, seqFlag]
    | call M bl r => simp only [seqRun, List.zip_cons_cons, List.filterMap_cons, seqStep, ih]
    | sha3call M => simp only [seqRun, List.zip_cons_cons, List.filterMap_cons, seqStep, ih]

/-- no operation of a history (duplex(), a one-shot call with or without a per-call rate, a SHA3 call) changes the
    configuration of the object -/
theorem history_keeps_cfg (o : Duplex) (steps : List SeqStep) : (seqObj o steps).cfg = o.cfg := by
  refine Lemmas.Fold.foldl_inv (fun o' : Duplex => o'.cfg = o.cfg) _ steps (fun st _ o' h => ?_) rfl
  cases st with
  | duplex m bl ol => exact (duplex_restores_flag o' m bl ol).trans h
  | call M bl r => exact h
  | sha3call M => exact h

/-- **a one-shot call after ANY history equals the sponge of its own arguments**: for every supported width, rate,
    bit-order mode the object was configured with, every `_S` it may hold, and every history of duplex() calls
    (valid or refused) and one-shot calls, `k(M,bitlen)` returns the bytes of SPONGE[Keccak-f[25w], pad10*1, r](N, d)
    with N the message bits in the CONFIGURED bit order -/
theorem call_after_history {w} (hw : w ∈ [1, 2, 4, 8, 16, 32, 64]) (r : Nat) (hr0 : 0 < r) (hrb : r ≤ 25 * w)
    (hr : r ≤ 1536) (lsb : Bool) (S0 : Option Lanes) (steps : List SeqStep) (M : List Nat) (hM : ∀ b ∈ M, b < 256)
    (bitlen : Option Nat) (hL : ∀ L, bitlen = some L → L ≤ 8 * M.length) (d : Nat) (hd : 0 < d) :
    (Keccak.mk (25 * w) r (some d)).bind (fun c =>
        (seqStep (seqObj ⟨{ c with duplexing := lsb }, S0⟩ steps) (.call M bitlen none)).2)
      = .ok (Spec.Keccak.bytesOfBits (Spec.Keccak.keccak w r (msgBits lsb M bitlen) d)) := by
  have h : ¬ r = 0 := by omega
  rw [mk_ok hw r hr]
  simp only [Except.bind, seqStep, history_keeps_cfg, call_rate_none, Keccak.call, h, if_false, bind]
  exact callAt_sponge hw r r hr0 hrb lsb M hM bitlen hL d hd

/-- … and with a per-call rate: the sponge at THAT rate, in the configured bit order -/
theorem call_rate_after_history {w} (hw : w ∈ [1, 2, 4, 8, 16, 32, 64]) (r0 : Nat) (hr0 : r0 ≤ 1536)
    (r : Nat) (h0 : 0 < r) (hrb : r ≤ 25 * w) (hr : r ≤ 1536) (lsb : Bool) (S0 : Option Lanes) (steps : List SeqStep)
    (M : List Nat) (hM : ∀ b ∈ M, b < 256) (bitlen : Option Nat) (hL : ∀ L, bitlen = some L → L ≤ 8 * M.length)
    (d : Nat) (hd : 0 < d) :
    (Keccak.mk (25 * w) r0 (some d)).bind (fun c =>
        (seqStep (seqObj ⟨{ c with duplexing := lsb }, S0⟩ steps) (.call M bitlen (some r))).2)
      = .ok (Spec.Keccak.bytesOfBits (Spec.Keccak.keccak w r (msgBits lsb M bitlen) d)) := by
  have h1 : ¬ r > 1536 := by omega
  rw [mk_ok hw r0 hr0]
  simp only [Except.bind, seqStep, history_keeps_cfg, Keccak.callR, Keccak.callRate, h1, if_false]
  exact callAt_sponge hw r0 r h0 hrb lsb M hM bitlen hL d hd

/-- **SHA3-n on a used object**: after any history of duplex() calls and hashes on ONE `SHA3(n)` instance,
    `h(M)` is SHA3-n(M) of FIPS 202 -/
theorem sha3_after_history (n : Nat) (hn : n ∈ [224, 256, 384, 512]) (S0 : Option Lanes) (steps : List SeqStep)
    (M : List Nat) (hM : ∀ b ∈ M, b < 256) :
    (Sha3.sha3Cfg n).bind (fun c => (seqStep (seqObj ⟨c, S0⟩ steps) (.sha3call M)).2) = .ok (Spec.Keccak.sha3 n M) := by
  have h := sha3_refines n hn M hM
  simp only [Sha3.sha3] at h
  cases hc : Sha3.sha3Cfg n with
  | error e => rw [hc] at h; cases h
  | ok c =>
    rw [hc] at h
    simp only [Except.bind, bind, seqStep, history_keeps_cfg] at h ⊢
    exact h

/-- non-vacuity: a history with a valid, a refused and an over-long-output duplex() and a one-shot call in between,
    on the SHAKE128-style object; the flag is still the configured one -/
example : (Keccak.mk 1600 1344 (some 256)).map (fun c => (seqObj ⟨{ c with duplexing := true }, none⟩
      [.duplex [0x01] (some 1) none, .call [0x61] none none, .duplex [0, 0] (some 17) none, .duplex [] none (some 1601)]).cfg.duplexing)
    = .ok true := by
  rw [mk_ok (w := 64) (by decide) 1344 (by decide)]
  simp only [Except.map, history_keeps_cfg]

/-- the hypotheses of `sponge_refines` are satisfied by the compact-Keccak vector of the library's test suite
    (b = 200, r = 40, 43 message bits in NIST order, 160 output bits) -/
example :
    (Keccak.mk (25 * 8) 40 (some 160)).bind (fun c => Keccak.call { c with duplexing := false }
        [0xF2, 0x19, 0xBD, 0x62, 0x98, 0x20] (some 43))
      = .ok (Spec.Keccak.bytesOfBits (Spec.Keccak.keccak 8 40
          (msgBits false [0xF2, 0x19, 0xBD, 0x62, 0x98, 0x20] (some 43)) 160)) :=
  sponge_refines (w := 8) (by decide) 40 (by decide) (by decide) (by decide) false _ (by decide) (some 43)
    (by intro L h; cases h; decide) 160 (by decide)

/-- the hypotheses of `sponge_refines_call_rate` are satisfied by an object with the SHA3-512 split (r0 = 576) called
    with the SHA3-256 rate: `Keccak(b=1600,c=1024,len=256)(M+b'\x02', 8|M|+2, r=1088)` -/
example :
    (Keccak.mk (25 * 64) 576 (some 256)).map (fun c => Keccak.callR { c with duplexing := true } [0x61, 0x62, 0x63, 0x02]
        (some 26) (some 1088))
      = .ok ({ b := 1600, w := 64, n := 24, r := 576, outlen := some 256, duplexing := true },
             .ok (Spec.Keccak.bytesOfBits (Spec.Keccak.keccak 64 1088 (msgBits true [0x61, 0x62, 0x63, 0x02] (some 26)) 256))) :=
  sponge_refines_call_rate (w := 64) (by decide) 576 (by decide) 1088 (by decide) (by decide) (by decide) true _ (by decide)
    (some 26) (by intro L h; cases h; decide) 256 (by decide)

end Proofs.C04
