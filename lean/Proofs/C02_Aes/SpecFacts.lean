/-
  Known answers of FIPS 197, evaluated by the kernel through the fast form of Spec.Aes.cipher / invCipher
  (Proofs/Lemmas/AesEval: equal to the specification as functions).
-/
import Proofs.Lemmas.AesEval
namespace Proofs.C02_Aes.SpecFacts
open Proofs.Lemmas.AesEval (cipher_eq invCipher_eq)

/-! FIPS 197 Appendix C.1–C.3 (AES-128/192/256) and Appendix B -/
def k128 : List Nat := [0x00,0x01,0x02,0x03,0x04,0x05,0x06,0x07,0x08,0x09,0x0a,0x0b,0x0c,0x0d,0x0e,0x0f]
def k192 : List Nat := k128 ++ [0x10,0x11,0x12,0x13,0x14,0x15,0x16,0x17]
def k256 : List Nat := k192 ++ [0x18,0x19,0x1a,0x1b,0x1c,0x1d,0x1e,0x1f]
def ptC : List Nat := [0x00,0x11,0x22,0x33,0x44,0x55,0x66,0x77,0x88,0x99,0xaa,0xbb,0xcc,0xdd,0xee,0xff]
def ct128 : List Nat := [0x69,0xc4,0xe0,0xd8,0x6a,0x7b,0x04,0x30,0xd8,0xcd,0xb7,0x80,0x70,0xb4,0xc5,0x5a]
def ct192 : List Nat := [0xdd,0xa9,0x7c,0xa4,0x86,0x4c,0xdf,0xe0,0x6e,0xaf,0x70,0xa0,0xec,0x0d,0x71,0x91]
def ct256 : List Nat := [0x8e,0xa2,0xb7,0xca,0x51,0x67,0x45,0xbf,0xea,0xfc,0x49,0x90,0x4b,0x49,0x60,0x89]
def kB : List Nat := [0x2b,0x7e,0x15,0x16,0x28,0xae,0xd2,0xa6,0xab,0xf7,0x15,0x88,0x09,0xcf,0x4f,0x3c]
def ptB : List Nat := [0x32,0x43,0xf6,0xa8,0x88,0x5a,0x30,0x8d,0x31,0x31,0x98,0xa2,0xe0,0x37,0x07,0x34]
def ctB : List Nat := [0x39,0x25,0x84,0x1d,0x02,0xdc,0x09,0xfb,0xdc,0x11,0x85,0x97,0x19,0x6a,0x0b,0x32]

theorem kat_c1 : Spec.Aes.cipher k128 ptC = ct128 ∧ Spec.Aes.invCipher k128 ct128 = ptC := by
  rw [cipher_eq, invCipher_eq]
  decide +kernel
theorem kat_c2 : Spec.Aes.cipher k192 ptC = ct192 ∧ Spec.Aes.invCipher k192 ct192 = ptC := by
  rw [cipher_eq, invCipher_eq]
  decide +kernel
theorem kat_c3 : Spec.Aes.cipher k256 ptC = ct256 ∧ Spec.Aes.invCipher k256 ct256 = ptC := by
  rw [cipher_eq, invCipher_eq]
  decide +kernel
theorem kat_b : Spec.Aes.cipher kB ptB = ctB ∧ Spec.Aes.invCipher kB ctB = ptB := by
  rw [cipher_eq, invCipher_eq]
  decide +kernel
/-- §4.2 example {57}•{83} = {c1}, §4.2.1 {57}•{13} = {fe}, §5.1.1 S-box({53}) = {ed}, Rcon[10] = {36} -/
example : Spec.Aes.gfmul 0x57 0x83 = 0xc1 ∧ Spec.Aes.gfmul 0x57 0x13 = 0xfe ∧ Spec.Aes.sbox 0x53 = 0xed
    ∧ Spec.Aes.rcon 10 = [0x36, 0, 0, 0] := by decide +kernel

end Proofs.C02_Aes.SpecFacts
