/-
  SP 800-38A appendix F known answers through Spec.Mode over Spec.Aes (FIPS 197), evaluated in the kernel (the block
  cipher in its fast form, Proofs/Lemmas/AesEval, equal to the specification as a function):
  F.1.1 ECB-AES128, F.2.1 CBC-AES128, F.5.1 CTR-AES128 (four blocks each).  The vectors are typed from the standard.
  They anchor Spec.Mode (and the counter-block convention of the default counter: for this initial counter block the
  standard incrementing function on the low 64 bits and on all 128 bits coincide) to the printed standard.
-/
import Proofs.Lemmas.ModeInst
import Proofs.Lemmas.AesEval
namespace Proofs.C05.KatF

def key : List Nat := [0x2b,0x7e,0x15,0x16,0x28,0xae,0xd2,0xa6,0xab,0xf7,0x15,0x88,0x09,0xcf,0x4f,0x3c]
def iv : List Nat := [0x00,0x01,0x02,0x03,0x04,0x05,0x06,0x07,0x08,0x09,0x0a,0x0b,0x0c,0x0d,0x0e,0x0f]
def ctr0 : List Nat := [0xf0,0xf1,0xf2,0xf3,0xf4,0xf5,0xf6,0xf7,0xf8,0xf9,0xfa,0xfb,0xfc,0xfd,0xfe,0xff]
def pt : List Nat :=
  [0x6b,0xc1,0xbe,0xe2,0x2e,0x40,0x9f,0x96,0xe9,0x3d,0x7e,0x11,0x73,0x93,0x17,0x2a,
   0xae,0x2d,0x8a,0x57,0x1e,0x03,0xac,0x9c,0x9e,0xb7,0x6f,0xac,0x45,0xaf,0x8e,0x51,
   0x30,0xc8,0x1c,0x46,0xa3,0x5c,0xe4,0x11,0xe5,0xfb,0xc1,0x19,0x1a,0x0a,0x52,0xef,
   0xf6,0x9f,0x24,0x45,0xdf,0x4f,0x9b,0x17,0xad,0x2b,0x41,0x7b,0xe6,0x6c,0x37,0x10]
def ecbCt : List Nat :=
  [0x3a,0xd7,0x7b,0xb4,0x0d,0x7a,0x36,0x60,0xa8,0x9e,0xca,0xf3,0x24,0x66,0xef,0x97,
   0xf5,0xd3,0xd5,0x85,0x03,0xb9,0x69,0x9d,0xe7,0x85,0x89,0x5a,0x96,0xfd,0xba,0xaf,
   0x43,0xb1,0xcd,0x7f,0x59,0x8e,0xce,0x23,0x88,0x1b,0x00,0xe3,0xed,0x03,0x06,0x88,
   0x7b,0x0c,0x78,0x5e,0x27,0xe8,0xad,0x3f,0x82,0x23,0x20,0x71,0x04,0x72,0x5d,0xd4]
def cbcCt : List Nat :=
  [0x76,0x49,0xab,0xac,0x81,0x19,0xb2,0x46,0xce,0xe9,0x8e,0x9b,0x12,0xe9,0x19,0x7d,
   0x50,0x86,0xcb,0x9b,0x50,0x72,0x19,0xee,0x95,0xdb,0x11,0x3a,0x91,0x76,0x78,0xb2,
   0x73,0xbe,0xd6,0xb8,0xe3,0xc1,0x74,0x3b,0x71,0x16,0xe6,0x9e,0x22,0x22,0x95,0x16,
   0x3f,0xf1,0xca,0xa1,0x68,0x1f,0xac,0x09,0x12,0x0e,0xca,0x30,0x75,0x86,0xe1,0xa7]
def ctrCt : List Nat :=
  [0x87,0x4d,0x61,0x91,0xb6,0x20,0xe3,0x26,0x1b,0xef,0x68,0x64,0x99,0x0d,0xb6,0xce,
   0x98,0x06,0xf6,0x6b,0x79,0x70,0xfd,0xff,0x86,0x17,0x18,0x7b,0xb9,0xff,0xfd,0xff,
   0x5a,0xe4,0xdf,0x3e,0xdb,0xd5,0xd3,0x5e,0x5b,0x4f,0x09,0x02,0x0d,0xb0,0x3e,0xab,
   0x1e,0x03,0x1d,0xda,0x2f,0xbe,0x03,0xd1,0x79,0x21,0x70,0xa0,0xf3,0x00,0x9c,0xee]

open Spec.Mode Spec.ModeCiphers

theorem f11 : ecb (fips197 key) .none pt = ecbCt := by
  rw [fips197, Proofs.Lemmas.AesEval.cipher_eq]
  decide +kernel
theorem f21 : cbc (fips197 key) iv .none pt = iv ++ cbcCt := by
  rw [fips197, Proofs.Lemmas.AesEval.cipher_eq]
  decide +kernel
theorem f51 : ctr (fips197 key) ctr0 pt = ctrCt := by
  rw [fips197, Proofs.Lemmas.AesEval.cipher_eq]
  decide +kernel

/-- F.1.2 / F.2.2: the inverse maps give the plaintext back.  InvCipher undoes Cipher on byte blocks (`aes_implements`), so
    these follow from F.1.1 / F.2.1 -/
theorem f12 : ecbInv (fips197 key) .none ecbCt = some pt := by
  have h := Proofs.Lemmas.ModeInst.aes_implements key ⟨.inl rfl, by unfold Proofs.Lemmas.ModeL.Bytes; decide⟩
  rw [← f11]
  exact Proofs.Lemmas.ModeL.ecbInv_ecb h .none pt ⟨4, rfl⟩ (by unfold Proofs.Lemmas.ModeL.Bytes; decide)
theorem f22 : cbcInv (fips197 key) .none (iv ++ cbcCt) = some pt := by
  have h := Proofs.Lemmas.ModeInst.aes_implements key ⟨.inl rfl, by unfold Proofs.Lemmas.ModeL.Bytes; decide⟩
  rw [← f21]
  exact Proofs.Lemmas.ModeL.cbcInv_cbc h iv ⟨rfl, by unfold Proofs.Lemmas.ModeL.Bytes; decide⟩ .none pt ⟨4, rfl⟩
    (by unfold Proofs.Lemmas.ModeL.Bytes; decide)

end Proofs.C05.KatF
