/-
  C02 (Threefish part, known answers) — the published known-answer vectors of Threefish hold for `Spec.Threefish` IN THE KERNEL,
  and, through `enc_refines` / `dec_refines`, for the model of crysp/threefish.py.

  The vectors are the all-zero key / tweak / plaintext answers of the Skein 1.3 reference implementation (NIST submission
  KAT_MCT, reproduced in the test suites of Botan and libtomcrypt); they were typed from those publications, not produced by
  the code or by the Spec.  They anchor `Spec.Threefish` (Tables 3 and 4, C240, the key schedule, MIX, the byte order) to
  the outside world: a transcription slip in the Spec that the code happened to share would not survive them.
-/
import Proofs.C02_Threefish
import Proofs.Lemmas.TfEval
namespace Proofs.C02_ThreefishKat
open Model Proofs.Lemmas.TfBytes

/-- bytes of a hex string (two digits per byte, lower or upper case); a malformed digit counts as 0 and a KAT with it fails
    (ASCII: 48 = '0', 87 = 'a' - 10, 55 = 'A' - 10) -/
def hexVal (c : Char) : Nat :=
  if '0' ≤ c ∧ c ≤ '9' then c.toNat - 48 else if 'a' ≤ c ∧ c ≤ 'f' then c.toNat - 87
  else if 'A' ≤ c ∧ c ≤ 'F' then c.toNat - 55 else 0
def unhexL : List Char → List Nat
  | a :: b :: r => (16 * hexVal a + hexVal b) :: unhexL r
  | _ => []
def unhex (s : String) : List Nat := unhexL s.toList

def z (n : Nat) : List Nat := List.replicate n 0

def ct256 : List Nat := unhex "84da2a1f8beaee947066ae3e3103f1ad536db1f4a1192495116b9f3ce6133fd8"
def ct512 : List Nat := unhex
  "b1a2bbc6ef6025bc40eb3822161f36e375d1bb0aee3186fbd19e47c5d479947b7bc2f8586e35f0cff7e7f03084b0b7b1f1ab3961a580a3e97eb41ea14a6d7bbe"
def ct1024 : List Nat := unhex
  ("f05c3d0a3d05b304f785ddc7d1e036015c8aa76e2f217b06c6e1544c0bc1a90df0accb9473c24e0fd54fea68057f43329cb454761d6df5cf7b2e9b3614fbd5a2" ++
   "0b2e4760b40603540d82eabc5482c171c832afbe68406bc39500367a592943fa9a5b4a43286ca3c4cf46104b443143d560a4b230488311df4feef7e1dfe8391e")

/-! The kernel reaches the characters of a string literal only by encoding it to UTF-8 and decoding it again, at a cost
    quadratic in its length; `String.toList_ofList` reads them off the literal (a literal is `String.ofList` of its
    characters by definition), and the two halves of `ct1024` are taken apart before they are appended. -/

theorem unhex_ofList (l : List Char) : unhex (String.ofList l) = unhexL l := by
  rw [unhex, String.toList_ofList]

theorem unhexL_append : ∀ a b : List Char, a.length % 2 = 0 → unhexL (a ++ b) = unhexL a ++ unhexL b
  | x :: y :: r, b, h => by
    have hr : r.length % 2 = 0 := by
      rw [List.length_cons, List.length_cons] at h
      omega
    rw [List.cons_append, List.cons_append, unhexL, unhexL, unhexL_append r b hr, List.cons_append]
  | [], _, _ => rfl
  | [_], _, h => by
    cases h

theorem unhex_append (a b : List Char) (h : a.length % 2 = 0) :
    unhex (String.ofList a ++ String.ofList b) = unhexL a ++ unhexL b := by
  rw [unhex, String.toList_append, String.toList_ofList, String.toList_ofList, unhexL_append a b h]

theorem hexVal_lt (c : Char) : hexVal c < 16 := by
  unfold hexVal
  split
  · have : c.toNat ≤ 57 := (‹_ ∧ _›).2
    omega
  · split
    · have : c.toNat ≤ 102 := (‹_ ∧ _›).2
      omega
    · split
      · have : c.toNat ≤ 70 := (‹_ ∧ _›).2
        omega
      · omega

theorem isBytes_unhexL : ∀ l : List Char, IsBytes (unhexL l)
  | a :: b :: r => by
    intro x hx
    rcases List.mem_cons.1 hx with rfl | hx
    · have := hexVal_lt a
      have := hexVal_lt b
      omega
    · exact isBytes_unhexL r x hx
  | [] => by
    intro x hx
    cases hx
  | [_] => by
    intro x hx
    cases hx

theorem isBytes_unhex (s : String) : IsBytes (unhex s) := isBytes_unhexL _

theorem spec_kat_zero :
    Spec.Threefish.enc (z 32) (z 16) (z 32) = some ct256 ∧
    Spec.Threefish.enc (z 64) (z 16) (z 64) = some ct512 ∧
    Spec.Threefish.enc (z 128) (z 16) (z 128) = some ct1024 := by
  rw [ct256, ct512, ct1024, unhex_ofList, unhex_ofList, unhex_append _ _ (by decide +kernel), Proofs.Lemmas.TfEval.enc_eq]
  decide +kernel

theorem dec_of_enc {key tweak block ct : List Nat} (hb : IsBytes block) (hs : Spec.Threefish.sizesOk key tweak block = true)
    (h : Spec.Threefish.enc key tweak block = some ct) : Spec.Threefish.dec key tweak ct = some block := by
  have hd := (Proofs.C02_Threefish.spec_dec_is_inverse key tweak block hb hs).1
  rwa [h, Option.bind_eq_bind, Option.bind_some] at hd

/-- … and the Spec's decryption takes them back, being the inverse of its encryption -/
theorem spec_kat_zero_dec :
    Spec.Threefish.dec (z 32) (z 16) ct256 = some (z 32) ∧
    Spec.Threefish.dec (z 64) (z 16) ct512 = some (z 64) ∧
    Spec.Threefish.dec (z 128) (z 16) ct1024 = some (z 128) := by
  have hz : ∀ n, IsBytes (z n) := fun n => Proofs.Lemmas.Bytes.AllBytes.replicate (by decide) n
  obtain ⟨e1, e2, e3⟩ := spec_kat_zero
  exact ⟨dec_of_enc (hz _) (by decide +kernel) e1, dec_of_enc (hz _) (by decide +kernel) e2,
    dec_of_enc (hz _) (by decide +kernel) e3⟩

/-- the model of crysp.threefish.Threefish(key,tweak).enc / .dec returns the published answers -/
theorem model_kat_zero :
    (Threefish.encrypt (z 32) (z 16) (z 32)).toOption = some ct256 ∧
    (Threefish.encrypt (z 64) (z 16) (z 64)).toOption = some ct512 ∧
    (Threefish.encrypt (z 128) (z 16) (z 128)).toOption = some ct1024 ∧
    (Threefish.decrypt (z 32) (z 16) ct256).toOption = some (z 32) ∧
    (Threefish.decrypt (z 64) (z 16) ct512).toOption = some (z 64) ∧
    (Threefish.decrypt (z 128) (z 16) ct1024).toOption = some (z 128) := by
  have hz : ∀ n, IsBytes (z n) := fun n => Proofs.Lemmas.Bytes.AllBytes.replicate (by decide) n
  obtain ⟨e1, e2, e3⟩ := spec_kat_zero
  obtain ⟨d1, d2, d3⟩ := spec_kat_zero_dec
  open Proofs.C02_Threefish in
  exact ⟨(enc_refines _ _ _ (hz _) (hz _) (hz _)).trans e1, (enc_refines _ _ _ (hz _) (hz _) (hz _)).trans e2,
    (enc_refines _ _ _ (hz _) (hz _) (hz _)).trans e3, (dec_refines _ _ _ (hz _) (hz _) (isBytes_unhex _)).trans d1,
    (dec_refines _ _ _ (hz _) (hz _) (isBytes_unhex _)).trans d2, (dec_refines _ _ _ (hz _) (hz _) (isBytes_unhex _)).trans d3⟩

end Proofs.C02_ThreefishKat
