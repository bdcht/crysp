/-
  Model.HmacObj — crysp/hmac.py over a hash OBJECT with a life of its own: `HMAC(h,k)` keeps a reference to `h`, and
  `setkey` / `__call__` call `self.h(x)` on it — two or three complete one-shot calls on whatever state the earlier
  users of `h` left behind (a salted call, a streamed run finished or abandoned, a refused call, an earlier MAC), and
  they leave `h` in the state of their own last call.

  `HashS σ` is `h(x)` on an object whose mutable part is `σ`: the object afterwards and the digest (or the exception).
  The functions below are `Model.Hmac.setkey / call / hmac` with that object threaded through; `Proofs.C13` proves that
  their results are those of the pure `Model.Hmac` whenever the digest `h(x)` returns does not depend on the state it
  finds (`Proofs.C13.hmac_history_free`), which holds for every hash class of the library: `__call__` starts with `initstate`.
-/
import Model.Hmac
namespace Model.HmacObj
open Model

abbrev HashS (σ : Type) := σ → List Nat → σ × Except Err (List Nat)

/-- `setkey(k)`: `if len(k)>sz: k = self.h(k)` is the only use of the hash object -/
def setkey {σ} (o : Hmac) (h : HashS σ) (s : σ) (k : List Nat) : σ × Except Err Hmac :=
  let sz := o.blocksize / 8
  let pad := fun (k : List Nat) => if k.length < sz then k ++ List.replicate (sz - k.length) 0 else k
  if k.length > sz then
    match h s k with
    | (s', .ok d) => (s', .ok { o with K := some (pad d) })
    | (s', .error e) => (s', .error e)
  else (s, .ok { o with K := some (pad k) })

/-- `__call__(m)`: `h1 = self.h(ipad+m); return self.h(opad+h1)` -/
def call {σ} (o : Hmac) (h : HashS σ) (s : σ) (m : List Nat) : σ × Except Err (List Nat) :=
  match o.K with
  | none => (s, .error "AttributeError:K")
  | some a =>
    if a.isEmpty then (s, .error "AssertionError") else
    let n := o.blocksize / 8
    let opad := Hmac.xorBytes a (List.replicate n 0x5c)
    let ipad := Hmac.xorBytes a (List.replicate n 0x36)
    match h s (ipad ++ m) with
    | (s1, .error e) => (s1, .error e)
    | (s1, .ok h1) => h s1 (opad ++ h1)

/-- `o = HMAC(h,k); o(m)` on the hash object in state `s`: the hash object afterwards, the HMAC object (when `setkey`
    returned) and the MAC -/
def hmac {σ} (h : HashS σ) (blocksize : Nat) (s : σ) (k m : List Nat) : σ × Option Hmac × Except Err (List Nat) :=
  match setkey { blocksize := blocksize } h s k with
  | (s', .error e) => (s', none, .error e)
  | (s', .ok o) => let (s'', r) := call o h s' m; (s'', some o, r)

end Model.HmacObj
