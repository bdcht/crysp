/-
  Model.Aes — crysp/aes.py as total Lean functions (after the two `fix:` commits: `gmul(a,0) = 0`, and
  `enc`/`dec` assert that the state has 4·Nb = 16 coefficients).

  Representation.  Every `Poly` the module manipulates lives in the ring of bytes (`Poly(M)` for a bytes `M`
  forces mask 0xff; `sboxtable`/`sboxinvtable` are `Poly(…,size=8)`; key words are `Poly(k.split(8),size=8)`), so a
  state / a key word is modelled by its coefficient list `ival : List Nat` (entries < 256).  The Poly operations the
  module uses are rendered on those lists:
    `P[list]`            → gather (`Poly.__getitem__` with a list/tuple: `[self.ival[j] for j in i]`, IndexError when out of range)
    `a ^ b`              → coefficient-wise xor, zero-extended to the longer operand
    `state[:] = v`       → `v` zero-extended / truncated to `len(state)` (SubPoly.__setitem__ through `Poly(v,size,len(r))`)
    `x // y`, `concat`   → list append
    `pack(state)`        → `bytes(state.ival)` (split(8) of a ring-8 Poly is the identity)
  All tables come from `Model.Gen.Aes` (regenerated from the current source on every run).

  Two layers:  * pure cores (`subBytes`, `shiftRows`, `mixColumns`, `addRoundKey`, `keySchedule`, `encCore`, `decCore`,
                 `gmulB`) — the computation on well-sized inputs, used by the theorems;
               * the exposed operations with the code's failure behaviour (`gmul`, `enc`, `dec`, `…E`) used by the
                 driver; on well-sized inputs they are `.ok (core …)` (theorems `*_ok` in Proofs/Lemmas/AesApi, `gmul_ok` in AesGmul).
-/
import Model.Py
import Model.Gen.Aes
namespace Model.Aes
open Model Model.Gen.Aes

/-! ### gmul (module level): `Exp[(Log[a]+Log[n])%0xff]` when both are positive, else 0 -/

/-- `Log[a]` for a non-negative int: IndexError beyond the table, `None` entry ⇒ TypeError in the addition -/
def logAt (a : Nat) : Except Err Nat :=
  match logTable[a]? with
  | some (some v) => .ok v
  | some none => .error "TypeError:NoneType + int"
  | none => .error "IndexError"

def expAt (i : Nat) : Except Err Nat :=
  match expTable[i]? with
  | some v => .ok v
  | none => .error "IndexError"

/-- `gmul(a,n)` of the module, for non-negative ints -/
def gmul (a n : Nat) : Except Err Nat :=
  if a > 0 ∧ n > 0 then do
    let la ← logAt a
    let ln ← logAt n
    expAt ((la + ln) % 0xff)
  else .ok 0

/-- pure core of `gmul` on bytes (table look-ups with a default that is never reached for a,n < 256) -/
def logD (a : Nat) : Nat := (logTable.getD a none).getD 0
def gmulB (a n : Nat) : Nat :=
  if a > 0 ∧ n > 0 then expTable.getD ((logD a + logD n) % 0xff) 0 else 0

/-! ### S-boxes: `AES.sboxtable[state.ival]` -/

def sbox (b : Nat) : Nat := sboxtable.getD b 0
def sboxInv (b : Nat) : Nat := sboxinvtable.getD b 0

/-- `Sbox(state)` / `SubBytes` core -/
def subBytes (s : List Nat) : List Nat := s.map sbox
def invSubBytes (s : List Nat) : List Nat := s.map sboxInv

/-- `table[idx]` with Python's IndexError -/
def gatherE (tbl idx : List Nat) : Except Err (List Nat) :=
  idx.mapM fun j => match tbl[j]? with
    | some v => .ok v
    | none => .error "IndexError"

/-- `Sbox(state)`, `Sbox_inv(state)` as exposed (any length; a coefficient ≥ 256 would be an IndexError) -/
def SboxE (s : List Nat) : Except Err (List Nat) := gatherE sboxtable s
def SboxInvE (s : List Nat) : Except Err (List Nat) := gatherE sboxinvtable s

/-! ### ShiftRows / InvShiftRows: `state[:] = state[0,5,10,15,…]` -/

def gather (idx s : List Nat) : List Nat := idx.map fun j => s.getD j 0

def shiftRows (s : List Nat) : List Nat := gather shiftRowsIdx s
def invShiftRows (s : List Nat) : List Nat := gather invShiftRowsIdx s

/-- `state[:] = v`: v zero-extended / truncated to the length of the state -/
def assignAll (s v : List Nat) : List Nat := (v ++ List.replicate (s.length - v.length) 0).take s.length

def ShiftRowsE (s : List Nat) : Except Err (List Nat) := do
  let v ← gatherE s shiftRowsIdx
  pure (assignAll s v)
def InvShiftRowsE (s : List Nat) : Except Err (List Nat) := do
  let v ← gatherE s invShiftRowsIdx
  pure (assignAll s v)

/-! ### MixColumns / InvMixColumns (coefficients are literals of the method bodies) -/

def mixColumn : List Nat → List Nat
  | [a, b, c, d] =>
    [gmulB a 2 ^^^ gmulB b 3 ^^^ c ^^^ d,
     a ^^^ gmulB b 2 ^^^ gmulB c 3 ^^^ d,
     a ^^^ b ^^^ gmulB c 2 ^^^ gmulB d 3,
     gmulB a 3 ^^^ b ^^^ c ^^^ gmulB d 2]
  | w => w

def invMixColumn : List Nat → List Nat
  | [a, b, c, d] =>
    [gmulB a 0xe ^^^ gmulB b 0xb ^^^ gmulB c 0xd ^^^ gmulB d 0x9,
     gmulB a 0x9 ^^^ gmulB b 0xe ^^^ gmulB c 0xb ^^^ gmulB d 0xd,
     gmulB a 0xd ^^^ gmulB b 0x9 ^^^ gmulB c 0xe ^^^ gmulB d 0xb,
     gmulB a 0xb ^^^ gmulB b 0xd ^^^ gmulB c 0x9 ^^^ gmulB d 0xe]
  | w => w

/-- `W = state[0:4],state[4:8],state[8:12],state[12:16]` -/
def column (s : List Nat) (i : Nat) : List Nat := (s.drop (4 * i)).take 4

def mixColumns (s : List Nat) : List Nat :=
  mixColumn (column s 0) ++ mixColumn (column s 1) ++ mixColumn (column s 2) ++ mixColumn (column s 3)
def invMixColumns (s : List Nat) : List Nat :=
  invMixColumn (column s 0) ++ invMixColumn (column s 1) ++ invMixColumn (column s 2) ++ invMixColumn (column s 3)

/-- exposed: needs 16 coefficients (`state.ival[i+3] = …` raises IndexError otherwise), leaves any further ones untouched -/
def MixColumnsE (s : List Nat) : Except Err (List Nat) :=
  if s.length < 16 then .error "IndexError" else .ok (mixColumns s ++ s.drop 16)
def InvMixColumnsE (s : List Nat) : Except Err (List Nat) :=
  if s.length < 16 then .error "IndexError" else .ok (invMixColumns s ++ s.drop 16)

/-! ### AddRoundKey: `state[:] = state ^ concat(w)` -/

/-- coefficient-wise xor of the state with the round key, the key zero-extended / truncated to the state -/
def addRoundKey (s rk : List Nat) : List Nat :=
  List.zipWith (· ^^^ ·) s (rk ++ List.replicate (s.length - rk.length) 0)

/-! ### key schedule -/

/-- `Nr = {4:10,6:12,8:14}[Nk]` -/
def nrOf : Nat → Option Nat
  | 4 => some 10
  | 6 => some 12
  | 8 => some 14
  | _ => none

/-- `rotw` -/
def rotw : List Nat → List Nat
  | [a0, a1, a2, a3] => [a1, a2, a3, a0]
  | w => w

/-- `a ^ b` for two 4-coefficient words -/
def xorW (a b : List Nat) : List Nat := List.zipWith (· ^^^ ·) a b

/-- `[Poly(k.split(8),size=8) for k in self.K.split(32)]` for `K = Bits(sK,bitorder=1)`: word j = bytes 4j..4j+3 -/
def keyWords (K : List Nat) : List (List Nat) :=
  (List.range (K.length / 4)).map fun j => (K.drop (4 * j)).take 4

/-- one iteration of the `while` loop at index i (`len(w) = i`) -/
def ksStep (Nk : Nat) (w : List (List Nat)) (i : Nat) : List (List Nat) :=
  let tmp := w.getD (i - 1) []
  let tmp :=
    if i % Nk = 0 then xorW (subBytes (rotw tmp)) [rcon.getD (i / Nk) 0 % 256, 0, 0, 0]
    else if Nk > 6 ∧ i % Nk = 4 then subBytes tmp
    else tmp
  w ++ [xorW (w.getD (i - Nk) []) tmp]

/-- `keyschedule()` for a key of 4·Nk bytes: Nb·(Nr+1) words -/
def keySchedule (K : List Nat) : List (List Nat) :=
  let Nk := K.length / 4
  let Nr := Nk + 6
  (List.range' Nk (4 * (Nr + 1) - Nk)).foldl (ksStep Nk) (keyWords K)

/-- `concat(w[r*Nb:(r+1)*Nb])` -/
def roundKey (w : List (List Nat)) (r : Nat) : List Nat := ((w.drop (4 * r)).take 4).flatten

/-! ### enc / dec -/

def encRound (w : List (List Nat)) (s : List Nat) (r : Nat) : List Nat :=
  addRoundKey (mixColumns (shiftRows (subBytes s))) (roundKey w r)

def decRound (w : List (List Nat)) (s : List Nat) (r : Nat) : List Nat :=
  invMixColumns (addRoundKey (invSubBytes (invShiftRows s)) (roundKey w r))

/-- `enc` on a 16-byte state with the expanded key `w` and `Nr` rounds -/
def encW (w : List (List Nat)) (Nr : Nat) (M : List Nat) : List Nat :=
  let s := addRoundKey M (roundKey w 0)
  let s := (List.range' 1 (Nr - 1)).foldl (encRound w) s
  addRoundKey (shiftRows (subBytes s)) (roundKey w Nr)

/-- `dec`: `for r in reversed(range(1,Nr))` -/
def decW (w : List (List Nat)) (Nr : Nat) (C : List Nat) : List Nat :=
  let s := addRoundKey C (roundKey w Nr)
  let s := (List.range' 1 (Nr - 1)).reverse.foldl (decRound w) s
  addRoundKey (invSubBytes (invShiftRows s)) (roundKey w 0)

def encCore (K M : List Nat) : List Nat := encW (keySchedule K) (K.length / 4 + 6) M
def decCore (K C : List Nat) : List Nat := decW (keySchedule K) (K.length / 4 + 6) C

/-- `AES(sK)`: `assert K.size in (128,192,256)`; yields (Nk, Nr) -/
def init (K : List Nat) : Except Err (Nat × Nat) :=
  let size := 8 * K.length
  if size = 128 ∨ size = 192 ∨ size = 256 then
    match nrOf (size / 32) with
    | some nr => .ok (size / 32, nr)
    | none => .error "KeyError"
  else .error "AssertionError"

/-- `AES(K).keyschedule()` -/
def keyscheduleE (K : List Nat) : Except Err (List (List Nat)) := do
  let _ ← init K
  pure (keySchedule K)

/-- `AES(K).enc(M)` for bytes K, M -/
def enc (K M : List Nat) : Except Err (List Nat) := do
  let (_, nr) ← init K
  if M.length ≠ 16 then .error "AssertionError" else
  pure (encW (keySchedule K) nr M)

/-- `AES(K).dec(C)` -/
def dec (K C : List Nat) : Except Err (List Nat) := do
  let (_, nr) ← init K
  if C.length ≠ 16 then .error "AssertionError" else
  pure (decW (keySchedule K) nr C)

end Model.Aes
