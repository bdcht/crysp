/-
  Model.Multi — several objects alive at the same time (the `hashseqs` / `blakeseqs` / `nilsimsa.seqs` lines).

  The models are immutable values: the objects of a line live in a list, an operation on object k reads entry k and
  rewrites entry k, nothing else.  So in the model two objects cannot share a counter, a padding object, a window or a
  salt BY CONSTRUCTION (`Proofs.Lemmas.MultiProj.run_proj`: the run of interleaved steps, projected on object j, is the run of the
  steps of object j alone).  Whether the Python objects are as independent is what the correspondence lines test.
-/
namespace Model.Multi

/-- `step k o op` = what operation `op` does to object number k in state `o`: (new state, what the line prints).
    Steps are (object index, operation); a step on an index outside the store is skipped (the drivers reject such lines). -/
def run {σ ω ρ : Type} (step : Nat → σ → ω → σ × ρ) : List σ → List (Nat × ω) → List σ × List (Nat × ρ)
  | objs, [] => (objs, [])
  | objs, (k, op) :: rest =>
    match objs[k]? with
    | none => run step objs rest
    | some o =>
      let r := step k o op
      let t := run step (objs.set k r.1) rest
      (t.1, (k, r.2) :: t.2)

/-- one object alone -/
def runOne {σ ω ρ : Type} (step : σ → ω → σ × ρ) : σ → List ω → σ × List ρ
  | o, [] => (o, [])
  | o, op :: rest =>
    let r := step o op
    let t := runOne step r.1 rest
    (t.1, r.2 :: t.2)

/-- the operations of a line that address object j, in order -/
def own {ω : Type} (j : Nat) (steps : List (Nat × ω)) : List ω := (steps.filter (·.1 == j)).map (·.2)

end Model.Multi
